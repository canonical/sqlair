/-
  FactsCheck/Builder: the literals of the SQL builder extracted from querybuilder.go on this
  run are the ones the model's rendering uses: obligations of C01 and C03-C06, a sample piece
  per writer function.
-/
import SqlairModel.Scan
import SqlairModel.Generated.Facts

namespace Sqlair.FactsOK

def nats (b : Bytes) : List Nat := b.toList.map (·.toNat)
def lit (l : List (List Nat)) (i : Nat) : List Nat := l.getD i []

def listSep : List Nat := lit Facts.lits_writeCommaSeparatedList 0
def inputPrefix : List Nat := lit Facts.lits_writeInputs 0
def asSep : List Nat := lit Facts.lits_writeOutput 0
/-- "@" ++ "sqlair_" as boundInsertColumn.parameter builds it -/
def cellPrefix : List Nat := lit Facts.lits_parameter 1 ++ lit Facts.lits_parameter 0

theorem markerPrefix_ok : nats markerPrefix = Facts.markerPrefix := by decide

/-- writeInputs: "@sqlair_5, @sqlair_6" -/
theorem render_inputs_ok :
    nats (Piece.render (.inputs 5 2)) = inputPrefix ++ [53] ++ listSep ++ inputPrefix ++ [54] := by
  decide +kernel

/-- writeOutput: "c AS _sqlair_3, d AS _sqlair_4" -/
theorem render_outputs_ok :
    nats (Piece.render (.outputs 3 [#[99], #[100]])) =
      [99] ++ asSep ++ Facts.markerPrefix ++ [51] ++ listSep ++ [100] ++ asSep ++ Facts.markerPrefix ++ [52] := by
  decide +kernel

/-- writeInsert: "(a, b) VALUES (@sqlair_0, x), (@sqlair_1, y)" -/
theorem render_insert_ok :
    nats (Piece.render (.insert [#[97], #[98]] [[.ph 0, .lit #[120]], [.ph 1, .lit #[121]]])) =
      lit Facts.lits_writeInsert 0 ++ [97] ++ listSep ++ [98] ++ lit Facts.lits_writeInsert 1 ++
      lit Facts.lits_writeInsert 3 ++ cellPrefix ++ [48] ++ listSep ++ [120] ++ lit Facts.lits_writeInsert 4 ++
      lit Facts.lits_writeInsert 2 ++
      lit Facts.lits_writeInsert 3 ++ cellPrefix ++ [49] ++ listSep ++ [121] ++ lit Facts.lits_writeInsert 4 := by
  decide +kernel

/-- the argument names: "sqlair_" ++ n in addInputs and in parameter -/
theorem paramPrefix_ok :
    lit Facts.lits_addInputs 0 = nats (bs "sqlair_") ∧ lit Facts.lits_parameter 0 = nats (bs "sqlair_") ∧
    lit Facts.lits_parameter 2 = nats (bs "sqlair_") := by
  decide +kernel

end Sqlair.FactsOK
