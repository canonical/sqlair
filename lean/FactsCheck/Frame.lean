/-
  FactsCheck/Frame: structural facts extracted from the source on this run (go/ast).

  * parser.go - the models of the parse helper functions take and return the scanner record
    only; the expression list and the two expression bounds live in the main-loop state
    (DESIGN 12.6).  That is a fact about the code: only `Parse`, `add`, `init` and the
    checkpoint's `restore` write `prevExprEnd`, `currentExprStart` or `exprs`
    (an obligation of C01, C02 and C19).
  * cache.go - the cache model treats look-up, insertion and the two finalizers as atomic
    steps.  That is the cache mutex: every function that touches one of the two maps takes
    it, and every function that writes one takes it exclusively (an obligation of C09, C10,
    C11 and C16).
-/
import SqlairModel.Generated.Facts

namespace Sqlair.FactsOK

theorem parser_frame_writers_ok :
    Facts.frameWriters.all (fun f => ["Parse", "add", "init", "restore"].contains f) = true := by decide

theorem cache_writers_lock_ok :
    Facts.cacheWriters.all (fun f => Facts.cacheLockers.contains f) = true := by decide

theorem cache_users_lock_ok :
    Facts.cacheUsers.all (fun f => Facts.cacheAnyLockers.contains f) = true := by decide

/-- Every function that writes a cache map is one the cache model has a step for
    (`Cache.Step`: `newS`, `newD`, `insert`, `finS`, `finD`). -/
theorem cache_writers_modelled_ok :
    Facts.cacheWriters.all (fun f =>
      ["driverPrepareStmt", "newDB", "newStatement", "removeAndCloseDBFunc", "removeAndCloseStmtFunc"].contains f) = true := by
  decide

/-- The extraction found the functions: the `all` above do not hold vacuously. -/
theorem frame_facts_nonempty_ok :
    Facts.frameWriters.length ≥ 2 ∧ Facts.cacheWriters.length ≥ 3 ∧ Facts.cacheUsers.length ≥ 4 := by decide

end Sqlair.FactsOK
