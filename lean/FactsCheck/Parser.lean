/-
  FactsCheck/Parser: the character tables and keywords extracted from parser.go on this run
  (SqlairModel/Generated/Facts.lean, written by /verif/harness/cmd/factgen) are the ones
  the parser model uses.  A source change to such a table changes Facts.lean and breaks
  these theorems, i.e. a proof obligation of the parser properties C01, C02 and C19 (DESIGN §2.6).
-/
import SqlairModel.Parser
import SqlairModel.Generated.Facts

namespace Sqlair.FactsOK

/-- one- or two-byte ASCII inputs for probing the scanner functions -/
def probeEnv (bytes : List Nat) : Env :=
  { inp := (bytes.map UInt8.ofNat).toArray, dec := decodeRune,
    letter := fun c => (65 ≤ c && c ≤ 90) || (97 ≤ c && c ≤ 122), digit := fun c => 48 ≤ c && c ≤ 57 }

theorem exprTriggers_ok :
    (List.range 256).all (fun c => isExprTrigger c == Facts.exprTriggers.contains c) = true := by
  decide +kernel

theorem blankLikeTriggers_ok :
    (List.range 256).all (fun c => isBlankLikeTrigger c == Facts.blankLikeTriggers.contains c) = true := by
  decide +kernel

/-- On `[c, 'x']`, position 1 afterwards means that `c` was skipped. -/
theorem blanks_ok :
    (List.range 128).all (fun c =>
      ((skipBlanks (probeEnv [c, 120]) (initSc (probeEnv [c, 120]))).pos == 1) ==
        (Facts.blanks.contains c)) = true := by
  decide +kernel

/-- On `[c, c]` the literal that a quote `c` opens is closed by the second `c`; any other `c` gives `.no`. -/
theorem quotes_ok :
    (List.range 128).all (fun c =>
      (match (skipStringLiteral (probeEnv [c, c]) (initSc (probeEnv [c, c]))).2 with
       | .ok _ => true | _ => false) == (Facts.quotes.contains c)) = true := by
  decide +kernel

theorem keywords_ok : Facts.keywords = [kwAS, kwVALUES] := by decide

/-- the characters skipComment tests, in source order: '-' '/' then '-' '*' then '/' -/
theorem commentChars_ok : Facts.commentChars = [45, 47, 45, 42, 47] := by decide

end Sqlair.FactsOK
