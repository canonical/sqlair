/-
  The error classes of `fieldsLoop` and `getStructFields`, and the invariant under which `getStructFields` never
  ends in "fuel"; it holds when `getArgInfo` starts it (fuel `tt.size + 1`, empty `visiting`).  The model's fuel
  stands for a hang of Go's `getStructFields` (arginfo.go), which stops on a type it is already `visiting`.

  Termination argument: `visiting` holds pairwise distinct ids of the table (an id outside the table has the
  default descriptor, which has no fields, so the analysis never recurses *from* it), hence the nesting depth is
  at most `tt.size`; a self-embedding type yields "recursive-embedding", never "fuel".
-/
import SqlairProofs.Bind.ParseTag
import SqlairProofs.Typed.Struct

namespace Sqlair

variable {C : Cls} {tt : TypeTable}

theorem fieldsLoop_errIn {P : String → Prop}
    {recur : Nat → Except String (List SField)} (hrec : ∀ stid, ErrIn P (recur stid))
    (hexp : P "field-not-exported") (htag : ∀ tag, ErrIn P (parseTag C tag)) :
    ∀ (fds : List FieldDesc) (i : Nat) (acc : List SField), ErrIn P (fieldsLoop C tt recur fds i acc)
  | [], _, _ => .ok
  | f :: rest, i, acc => by
    have ih := fieldsLoop_errIn hrec hexp htag rest (i + 1)
    rw [fieldsLoop_cons]
    exact .ite (.ite ((hrec _).bind fun _ _ => ih _) (ih _)) (.ite (.error hexp) ((htag _).bind fun _ _ => ih _))

theorem getStructFields_errIn {P : String → Prop} (hfuel : P "fuel") (hrec : P "recursive-embedding")
    (hexp : P "field-not-exported") (htag : ∀ tag, ErrIn P (parseTag C tag)) :
    ∀ (fuel : Nat) (visiting : List Nat) (tid : Nat), ErrIn P (getStructFields C tt fuel visiting tid)
  | 0, _, _ => .error hfuel
  | fuel + 1, _, _ => by
    unfold getStructFields
    exact .ite (.error hrec)
      (fieldsLoop_errIn (fun _ => getStructFields_errIn hfuel hrec hexp htag fuel _ _) hexp htag _ _ _)

/-- `tt.size < fuel + visiting.length`: the remaining fuel exceeds the number of ids of the table not yet in
    `visiting`. -/
theorem getStructFields_no_fuel_inv :
    ∀ (fuel : Nat) (visiting : List Nat) (tid : Nat),
      visiting.Nodup → (∀ x ∈ visiting, x < tt.size) → tt.size < fuel + visiting.length →
      ErrIn (· ≠ "fuel") (getStructFields C tt fuel visiting tid) := by
  intro fuel
  induction fuel with
  | zero =>
    intro visiting tid hnd hlt hlen
    exfalso
    have := hnd.length_le_of_subset (l₂ := List.range tt.size) (fun x hx => List.mem_range.2 (hlt x hx))
    simp only [List.length_range] at this
    omega
  | succ n ih =>
    intro visiting tid hnd hlt hlen
    unfold getStructFields
    split
    · exact .error (by simp)
    · rename_i hvis
      -- an id outside the table has no fields: past this split `tid < tt.size`, which keeps `visiting` inside the table
      by_cases hf : (tt.get tid).fields = []
      · rw [hf]; exact .ok
      · refine fieldsLoop_errIn (fun stid => ih (tid :: visiting) stid ?_ ?_ ?_) (by simp)
          (fun _ e h => by rcases Tag.parseTag_error h with rfl | rfl | rfl | rfl <;> simp) _ _ _
        · exact List.nodup_cons.2 ⟨fun hm => hvis (by simp [hm]), hnd⟩
        · intro x hx
          rcases List.mem_cons.1 hx with rfl | hx
          · exact Nat.lt_of_not_le fun hn => hf (by rw [TypeTable.get_of_size_le hn]; rfl)
          · exact hlt x hx
        · simp only [List.length_cons]; omega

end Sqlair
