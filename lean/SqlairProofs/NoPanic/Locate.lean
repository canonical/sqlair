/-
  C18 at query time, input side: on well-formed arguments, with locators produced by `bindTypes`, `locateParams`
  only reports error classes of the closed list `inputErrorClasses`, none of which is a panic class; this is
  the instance that the walk of `Bind/Errors.lean` above `locateParams` (`bindInputs_errIn`) asks for.

  `fieldByIndex`, `bulkElem`, the two element loops and `locateParams` are walked both here and in
  `Bind/Errors.lean` (`¬ isInternal`, no hypothesis): there every branch ends in a literal, here the
  branches that end in a `"panic-…"` literal have to be shown unreachable from `ValWF` and `Loc.GenOK`, so
  the walk carries those facts down (`bulkElem_wf`, `ttvGet_wf`, `locateBulk_wf`) and neither is an
  instance of the other.  A new error class in one of these functions has to be entered in both.
-/
import SqlairProofs.Bind.Errors
import SqlairProofs.Bind.Accept
import SqlairProofs.NoPanic.Locs

namespace Sqlair

def TtvWF (tt : TypeTable) (m : TypeToValue) : Prop := ∀ p ∈ m, p.1 = p.2.tid ∧ ValWF tt p.2

/-- an argument as the caller may pass it: an untyped nil (`.invalid`, rejected by
    `validateValue`) or a well-formed value -/
def ArgWF (tt : TypeTable) (a : GoVal) : Prop := a = .invalid ∨ ValWF tt a

theorem inputErrorClasses_not_panic : ∀ e ∈ inputErrorClasses, ¬ IsPanic e := by
  decide +kernel

variable {C : Cls} {tt : TypeTable} {m : TypeToValue}

theorem validateInputs_ttvWF {args : List GoVal}
    (hwf : ∀ a ∈ args, ArgWF tt a) (h : validateInputs tt args [] = .ok m) : TtvWF tt m := by
  obtain ⟨rfl, hacc, _⟩ := (validateInputs_nil_ok_iff tt args m).1 h
  intro p hp
  obtain ⟨a, ha, rfl⟩ := List.mem_map.1 hp
  refine ⟨rfl, ValWF.indirect ((hwf a ha).resolve_left ?_)⟩
  rintro rfl
  have := hacc _ ha
  simp [argOK, validateValue, Except.isOk, Except.toBool] at this

theorem ttvGet_wf (hm : TtvWF tt m) {t : Nat} {s : GoVal}
    (h : ttvGet m t = some s) : s.tid = t ∧ ValWF tt s := by
  obtain ⟨hk, hwf⟩ := hm _ (mem_of_assoc h)
  exact ⟨hk.symm, hwf⟩

theorem locateBulk_wf (hm : TtvWF tt m) {t : Nat} {v : GoVal}
    (hnp : (tt.get t).kind ≠ .ptr) (h : locateBulk tt m t = some v) :
    ∃ hd els, v = .slice hd els ∧ ∀ e ∈ els, ValWF tt e ∧ npEmbTarget tt e.tid = t := by
  obtain ⟨k, hp, hs⟩ := locateBulk_some h
  have hkel : (tt.get k).kind = .slice ∧ npEmbTarget tt (tt.get k).elem = t := by
    rcases hs with hs | hs
    · obtain ⟨hk, _, he⟩ := isSliceOf_iff.1 hs
      exact ⟨hk, he ▸ npEmbTarget_of_not_ptr (he ▸ hnp)⟩
    · obtain ⟨hk, _, hkp, _, he⟩ := isSliceOfPtr_iff.1 hs
      exact ⟨hk, (npEmbTarget_of_ptr hkp).trans he⟩
  obtain ⟨hkey, hwf⟩ : k = v.tid ∧ ValWF tt v := hm (k, v) hp
  obtain ⟨hd, els, rfl, hty, hwfs⟩ := hwf.slice_inv (hkey ▸ hkel.1)
  refine ⟨hd, els, rfl, fun e he => ⟨hwfs e he, ?_⟩⟩
  rw [hty e he, show hd.t = k from hkey.symm]
  exact hkel.2

theorem bulkElem_errIn {e : GoVal} : ErrIn (· ∈ inputErrorClasses) (bulkElem e) := by
  rcases bulkElem_cases e with ⟨_, _, h⟩ | h <;> rw [h]
  · exact .error (by mem_lit)
  · exact .ok

theorem bulkElem_wf {e s : GoVal} {t : Nat} (he : ValWF tt e)
    (hemb : npEmbTarget tt e.tid = t) (h : bulkElem e = .ok s) : ValWF tt s ∧ s.tid = t := by
  by_cases hkp : (tt.get e.tid).kind = .ptr
  · have ht : (tt.get e.tid).elem = t := (npEmbTarget_of_ptr hkp).symm.trans hemb
    rcases he.ptr_inv hkp with ⟨hd, rfl⟩ | ⟨hd, p, rfl, hpt, hpw⟩
    · cases h
    · cases h; exact ⟨hpw, hpt.trans ht⟩
  · have ht : e.tid = t := (npEmbTarget_of_not_ptr hkp).symm.trans hemb
    rcases bulkElem_cases e with ⟨_, _, hv⟩ | hv <;> rw [hv] at h <;> cases h
    rcases indirect_cases e with ⟨_, _, rfl, _⟩ | hi
    · exact absurd he.kind_of_ptr hkp
    · rw [hi]; exact ⟨he, ht⟩

theorem fieldByIndex_errIn {v : GoVal} {sid : Nat} {path : List Nat}
    (hv : ValWF tt v) (ht : v.tid = sid) (hk : (tt.get sid).kind = .struct) (hp : PathOK tt sid path) :
    ErrIn (· ∈ inputErrorClasses) (fieldByIndex v path true) := by
  rcases fieldByIndex_wf hv ht hk hp with ⟨r, hr, _⟩ | hr <;> rw [hr]
  · exact .ok
  · exact .error (by mem_lit)

theorem bulkFieldVals_errIn {tid : Nat} (f : SField)
    (hk : (tt.get tid).kind = .struct) (hp : PathOK tt tid f.index) :
    ∀ (els : List GoVal) (first om : Bool) (acc : List String),
      (∀ e ∈ els, ValWF tt e ∧ npEmbTarget tt e.tid = tid) →
      ErrIn (· ∈ inputErrorClasses) (bulkFieldVals f els first om acc)
  | [], _, _, _, _ => .ok
  | e :: rest, _, _, _, hels => by
    have ih := fun first om acc => bulkFieldVals_errIn f hk hp rest first om acc
      fun e' he' => hels e' (List.mem_cons_of_mem _ he')
    obtain ⟨hew, hee⟩ := hels e List.mem_cons_self
    rw [bulkFieldVals_cons]
    split
    · exact bulkElem_errIn.rethrow ‹_›
    · obtain ⟨hsw, hst⟩ := bulkElem_wf hew hee ‹_›
      split
      · exact (fieldByIndex_errIn hsw hst hk hp).rethrow ‹_›
      · exact .ite (.error (by mem_lit)) (ih _ _ _)

theorem bulkMapVals_errIn {tid : Nat} (key : Bytes) (hk : (tt.get tid).kind = .map) :
    ∀ (els : List GoVal) (acc : List String),
      (∀ e ∈ els, ValWF tt e ∧ npEmbTarget tt e.tid = tid) →
      ErrIn (· ∈ inputErrorClasses) (bulkMapVals key els acc)
  | [], _, _ => .ok
  | e :: rest, _, hels => by
    have ih := fun acc => bulkMapVals_errIn key hk rest acc
      fun e' he' => hels e' (List.mem_cons_of_mem _ he')
    obtain ⟨hew, hee⟩ := hels e List.mem_cons_self
    unfold bulkMapVals
    split
    · exact bulkElem_errIn.rethrow ‹_›
    · exact .error (by mem_lit)
    · split
      · exact .error (by mem_lit)
      · exact ih _
    · -- the element is a map node, so the catch-all branch (`hne`: not a map node) is impossible
      rename_i s _ hne hb
      obtain ⟨hsw, hst⟩ := bulkElem_wf hew hee hb
      obtain ⟨hd, kv, rfl⟩ := hsw.map_inv (hst ▸ hk)
      exact (hne _ _ rfl).elim

theorem valueNotFound_classes (tt : TypeTable) (m : TypeToValue) (t : Nat) :
    valueNotFound tt m t ∈ inputErrorClasses := by
  unfold valueNotFound; split <;> mem_lit

theorem locateParams_errIn {l : Loc}
    (hm : TtvWF tt m) (hl : l.GenOK C tt) : ErrIn (· ∈ inputErrorClasses) (locateParams tt m l) := by
  -- the value found for a type of kind slice / map is a slice / map node; so is the bulk slice,
  -- which leaves no panic branch; the `none` branches of `mapKey` and `field` differ in the element loop only
  cases l with
  | slice tid n =>
    simp only [locateParams]
    cases hg : ttvGet m tid with
    | none => exact .error (valueNotFound_classes ..)
    | some s =>
      obtain ⟨hst, hwf⟩ := ttvGet_wf hm hg
      obtain ⟨hd, els, rfl, _⟩ := hwf.slice_inv (hst ▸ hl.1)
      exact .ok
  | mapKey tid n key =>
    obtain ⟨hk, _⟩ := hl
    simp only [locateParams]
    cases hg : ttvGet m tid with
    | some s =>
      obtain ⟨hst, hwf⟩ := ttvGet_wf hm hg
      obtain ⟨hd, kv, rfl⟩ := hwf.map_inv (hst ▸ hk)
      simp only []
      split
      · exact .error (by mem_lit)
      · exact .ok
    | none =>
      cases hb : locateBulk tt m tid with
      | none => exact .error (valueNotFound_classes ..)
      | some v =>
        obtain ⟨hd, els, rfl, hels⟩ := locateBulk_wf hm (by rw [hk]; simp) hb
        refine .ite (.error (by mem_lit)) ?_
        split
        · exact (bulkMapVals_errIn key hk _ _ hels).rethrow ‹_›
        · exact .ok
  | field tid n f =>
    have hp := hl.pathOK
    obtain ⟨hk, _⟩ := hl
    simp only [locateParams]
    cases hg : ttvGet m tid with
    | some s =>
      obtain ⟨hst, hwf⟩ := ttvGet_wf hm hg
      simp only []
      split
      · exact (fieldByIndex_errIn hwf hst hk hp).rethrow ‹_›
      · exact .ok
    | none =>
      cases hb : locateBulk tt m tid with
      | none => exact .error (valueNotFound_classes ..)
      | some v =>
        obtain ⟨hd, els, rfl, hels⟩ := locateBulk_wf hm (by rw [hk]; simp) hb
        refine .ite (.error (by mem_lit)) ?_
        split
        · exact (bulkFieldVals_errIn f hk hp _ _ _ _ hels).rethrow ‹_›
        · exact .ok

theorem bindInputs_closed {tes : List TExpr}
    (hg : ∀ te ∈ tes, ∀ l ∈ te.inputLocs, l.GenOK C tt)
    (hns : ∀ cols, TExpr.insert cols ∈ tes → TColsNoSlice cols)
    {args : List GoVal} (hwf : ∀ a ∈ args, ArgWF tt a) :
    ErrIn (· ∈ inputErrorClasses) (bindInputs tt tes args) :=
  bindInputs_errIn (P := (· ∈ inputErrorClasses)) (fun _ he => he)
    (fun _ hv te hte l hl => locateParams_errIn (validateInputs_ttvWF hwf hv) (hg te hte l hl)) hns

end Sqlair
