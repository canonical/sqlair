/-
  NoPanic/Defs: vocabulary of the no-panic theorems (property C18).  A Go panic is modelled as an error
  class that starts with `"panic-"`; the model has four: `"panic-field-index"`, `"panic-field-of-non-struct"`
  (`fieldByIndex`) and `"panic-not-a-map"`, `"panic-not-a-slice"` (`bulkMapVals`, `locateParams`).  A hang is
  the class `"fuel"` of `getStructFields`.  The scan side has no panic class: where Go would panic,
  `fieldTypeOf` returns the type id `0`.

  * `ValWF tt v`: the value tree `v` has the shape its type descriptors promise (what Go's
    type system guarantees of every real `reflect.Value`); `valWF tt fuel v` is a Boolean
    checker with fuel, sound and complete for `ValWF` (`valWF_sound`, `ValWF.complete`).
  * `TableWF tt`: every `elem`/`key`/field type id of the table is `< tt.size`.
  * `PathOK tt sid path`: the reflect index path `path` follows existing fields from the
    struct type `sid`, stepping through (pointers to) struct types.
  * `IsPanic e`: the error class `e` stands for a Go panic (`"panic-…"`).
  * `npEmbTarget`, `fieldTypeOf?`: the step of `PathOK` through a pointer, and `fieldTypeOf` with the
    degenerate `0` made visible as `none`.
  `ValWF`/`valWF` are also the well-formedness of values in `L2Rows/*` and `L2Sound/*`.
-/
import SqlairModel.Scan

namespace Sqlair

/-! ### panic classes -/

/-- the error class models a Go panic -/
def IsPanic (e : String) : Prop := e.startsWith "panic-" = true

instance (e : String) : Decidable (IsPanic e) := by unfold IsPanic; infer_instance

/-! ### well-formed values -/

/-- `ValWF tt v`: the shape of `v` is the shape its type descriptor promises.
    * kind struct: a `.struct` node with exactly one well-formed value per field descriptor,
      each of the field's type;
    * kind ptr: a `.ptr` node, nil or holding a well-formed value of the elem type;
    * kind slice: a `.slice` node whose elements are well-formed and of the elem type (so
      they are `.iface` nodes when the elem kind is interface);
    * kind map: a `.map` node, nil or with well-formed elements of the elem type (keys are
      byte strings in the model; nothing is required of the key type, so maps that
      `getArgInfo` rejects are covered too);
    * kind interface: an `.iface` node, nil or holding ANY well-formed value;
    * kinds string / other: a `.leaf`.
    `.invalid` (the zero `reflect.Value`, an untyped nil argument) is not well-formed. -/
inductive ValWF (tt : TypeTable) : GoVal → Prop
  | leaf (h : VH) (hk : (tt.get h.t).kind = .string ∨ (tt.get h.t).kind = .other) : ValWF tt (.leaf h)
  | struct (h : VH) (fs : List GoVal) (hk : (tt.get h.t).kind = .struct)
      (hlen : fs.length = (tt.get h.t).fields.length)
      (hty : ∀ (i : Nat) (f : GoVal) (fd : FieldDesc), fs[i]? = some f → (tt.get h.t).fields[i]? = some fd → f.tid = fd.ty)
      (hwf : ∀ f ∈ fs, ValWF tt f) : ValWF tt (.struct h fs)
  | ptrNil (h : VH) (hk : (tt.get h.t).kind = .ptr) : ValWF tt (.ptr h none)
  | ptr (h : VH) (p : GoVal) (hk : (tt.get h.t).kind = .ptr) (hty : p.tid = (tt.get h.t).elem)
      (hwf : ValWF tt p) : ValWF tt (.ptr h (some p))
  | mapNil (h : VH) (hk : (tt.get h.t).kind = .map) : ValWF tt (.map h none)
  | map (h : VH) (kv : List (Bytes × GoVal)) (hk : (tt.get h.t).kind = .map)
      (hty : ∀ e ∈ kv, e.2.tid = (tt.get h.t).elem) (hwf : ∀ e ∈ kv, ValWF tt e.2) :
      ValWF tt (.map h (some kv))
  | slice (h : VH) (els : List GoVal) (hk : (tt.get h.t).kind = .slice)
      (hty : ∀ e ∈ els, e.tid = (tt.get h.t).elem) (hwf : ∀ e ∈ els, ValWF tt e) :
      ValWF tt (.slice h els)
  | ifaceNil (h : VH) (hk : (tt.get h.t).kind = .iface) : ValWF tt (.iface h none)
  | iface (h : VH) (p : GoVal) (hk : (tt.get h.t).kind = .iface) (hwf : ValWF tt p) :
      ValWF tt (.iface h (some p))

/-- Boolean checker for `ValWF`; `fuel` bounds the height of the value tree -/
def valWF (tt : TypeTable) : Nat → GoVal → Bool
  | 0, _ => false
  | _+1, .invalid => false
  | _+1, .leaf h => (tt.get h.t).kind == .string || (tt.get h.t).kind == .other
  | n+1, .struct h fs =>
    (tt.get h.t).kind == .struct && fs.length == (tt.get h.t).fields.length &&
    (fs.zip (tt.get h.t).fields).all (fun p => p.1.tid == p.2.ty && valWF tt n p.1)
  | _+1, .ptr h none => (tt.get h.t).kind == .ptr
  | n+1, .ptr h (some p) => (tt.get h.t).kind == .ptr && p.tid == (tt.get h.t).elem && valWF tt n p
  | _+1, .map h none => (tt.get h.t).kind == .map
  | n+1, .map h (some kv) =>
    (tt.get h.t).kind == .map && kv.all (fun e => e.2.tid == (tt.get h.t).elem && valWF tt n e.2)
  | n+1, .slice h els =>
    (tt.get h.t).kind == .slice && els.all (fun e => e.tid == (tt.get h.t).elem && valWF tt n e)
  | _+1, .iface h none => (tt.get h.t).kind == .iface
  | n+1, .iface h (some p) => (tt.get h.t).kind == .iface && valWF tt n p

/-! ### well-formed type tables -/

/-- every `elem`, `key` and field type id of the table is an id of the table -/
def TableWF (tt : TypeTable) : Prop :=
  ∀ i, i < tt.size →
    (tt.get i).elem < tt.size ∧ (tt.get i).key < tt.size ∧ ∀ fd ∈ (tt.get i).fields, fd.ty < tt.size

instance (tt : TypeTable) : Decidable (TableWF tt) := by unfold TableWF; infer_instance

/-! ### index paths -/

/-- the struct type an embedded field of type `ty` stands for: `T` for `T` and for `*T` -/
def npEmbTarget (tt : TypeTable) (ty : Nat) : Nat :=
  if (tt.get ty).kind == .ptr then (tt.get ty).elem else ty

/-- the index path follows existing fields from the struct type `sid`; every step but the
    last goes through a field whose type is a struct type or a pointer to one -/
def PathOK (tt : TypeTable) : Nat → List Nat → Prop
  | _, [] => True
  | sid, i :: rest =>
    ∃ fd, (tt.get sid).fields[i]? = some fd ∧
      (rest = [] ∨ ((tt.get (npEmbTarget tt fd.ty)).kind = .struct ∧ PathOK tt (npEmbTarget tt fd.ty) rest))

/-- `fieldTypeOf` with the degenerate branch made visible: `none` when the path leaves the
    fields of the table -/
def fieldTypeOf? (tt : TypeTable) : Nat → List Nat → Bool → Option Nat
  | tid, [], _ => some tid
  | tid, i :: rest, first =>
    let td := tt.get tid
    let td := if !first && td.kind == .ptr then tt.get td.elem else td
    match td.fields[i]? with
    | some f => fieldTypeOf? tt f.ty rest false
    | none => none

end Sqlair
