/-
  The scan side of C18: along a path of the table, `fieldTypeOf` follows existing fields and never takes its
  degenerate `none` branch (type id 0), the place where Go's `reflect` would panic.
-/
import SqlairProofs.NoPanic.Locs
import SqlairProofs.Scan.Args

namespace Sqlair

theorem fieldTypeOf?_eq_some {tt : TypeTable} : ∀ (path : List Nat) (tid : Nat) (first : Bool) (t : Nat),
    fieldTypeOf? tt tid path first = some t → fieldTypeOf tt tid path first = t := by
  intro path
  induction path with
  | nil => intro tid first t h; simpa [fieldTypeOf?, fieldTypeOf] using h
  | cons i rest ih =>
    intro tid first t h
    simp only [fieldTypeOf?] at h
    simp only [fieldTypeOf]
    split at h
    · rename_i fd hfd
      simp only [hfd]
      exact ih _ _ _ h
    · cases h

variable {C : Cls} {tt : TypeTable}

theorem fieldTypeOf?_of_pathOK : ∀ (path : List Nat) (ty : Nat) (first : Bool),
    (first = true → (tt.get ty).kind ≠ .ptr) → PathOK tt (npEmbTarget tt ty) path →
    fieldTypeOf? tt ty path first = some (fieldTypeOf tt ty path first) := by
  intro path
  induction path with
  | nil => intro ty first _ _; simp [fieldTypeOf?, fieldTypeOf]
  | cons i rest ih =>
    intro ty first hfirst hp
    obtain ⟨fd, hfd, hrest⟩ := hp
    have htd : (if (!first && (tt.get ty).kind == .ptr) = true then tt.get (tt.get ty).elem else tt.get ty)
        = tt.get (npEmbTarget tt ty) := by
      by_cases hkp : (tt.get ty).kind = .ptr
      · have hf : first = false := by
          cases first
          · rfl
          · exact absurd hkp (hfirst rfl)
        simp [npEmbTarget_of_ptr hkp, hkp, hf]
      · simp [npEmbTarget_of_not_ptr hkp, hkp]
    simp only [fieldTypeOf?, fieldTypeOf, htd, hfd]
    rcases hrest with rfl | ⟨_, hp2⟩
    · simp [fieldTypeOf?, fieldTypeOf]
    · exact ih fd.ty false (by simp) hp2

theorem locateTarget_field_type {dests : List Dest} {m : List (Nat × Nat)}
    {l : Loc} (hl : l.GenOK C tt) {di fty : Nat} {idx : List Nat} {cat : FieldCat}
    (h : locateTarget tt dests m l = .ok (.field di idx fty cat)) :
    fieldTypeOf? tt l.tid idx true = some fty := by
  rcases locateTarget_cases tt dests m l with ⟨_, _, he⟩ | ⟨p, _, _, _, _, he⟩ <;> rw [he] at h
  · cases h
  -- the target is `l.target tt p.2`: a field target only for a field locator, with the type `fieldTypeOf` finds
  have ht := Except.ok.inj h
  cases l with
  | field tid n f =>
    cases ht
    have hnp : (tt.get tid).kind ≠ .ptr := by rw [hl.1]; simp
    exact fieldTypeOf?_of_pathOK _ tid true (fun _ => hnp) ((npEmbTarget_of_not_ptr hnp).symm ▸ hl.pathOK)
  | _ => cases ht

end Sqlair
