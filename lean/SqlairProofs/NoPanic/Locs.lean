/-
  Provenance of the locators of a prepared statement.  Every locator in the
  typed expressions produced by `bindTypes` (plain inputs, insert columns and output columns)
  was handed out by one of the infos of `generateArgInfo` (`bindTypes_locs_sat`, generic in
  the property `R` of locators that the infos guarantee).  Instantiated with the infos that
  `getArgInfo` builds: a `.field` locator carries a field computed by `getStructFields` for
  its struct type (`bindTypes_locs_genOK`).
-/
import SqlairProofs.Bind.Tag
import SqlairProofs.NoPanic.Path

namespace Sqlair

def TExpr.allLocs : TExpr → List Loc
  | .input l => [l]
  | .insert cols => cols.filterMap TCol.loc?
  | .output cols => cols.map (·.2)
  | .bypass _ => []

theorem TExpr.inputLocs_subset_allLocs (te : TExpr) : ∀ l ∈ te.inputLocs, l ∈ te.allLocs := by
  cases te with
  | output _ => exact fun _ h => nomatch h
  | _ => exact fun _ h => h

structure LocClosed (infos : List (Bytes × ArgInfo)) (R : Loc → Prop) : Prop where
  member : ∀ k a m l, (k, a) ∈ infos → ArgInfo.getMember a m = .ok l → R l
  all : ∀ k a ms, (k, a) ∈ infos → ArgInfo.getAll a = .ok ms → ∀ p ∈ ms, R p.1
  slice : ∀ k a l, (k, a) ∈ infos → ArgInfo.getSlice a = .ok l → R l

theorem LocClosed.infosGive {infos : List (Bytes × ArgInfo)} {R : Loc → Prop} (hc : LocClosed infos R) :
    InfosGive R R infos :=
  fun p hp => ⟨fun m l h => hc.member p.1 p.2 m l hp h, fun ms h => hc.all p.1 p.2 ms hp h,
    fun l h => hc.slice p.1 p.2 l hp h⟩

theorem ExprSat.allLocs {R : Loc → Prop} {e : TExpr} (h : ExprSat R R e) : ∀ l ∈ e.allLocs, R l := by
  cases e with
  | bypass => exact fun _ hl => nomatch hl
  | input l => exact List.forall_mem_singleton.2 (h.elim id id)
  | insert cols => exact TColsSat.filterMap h
  | output cols => exact List.forall_mem_map.2 h

theorem bindTypes_locs_sat {C : Cls} {tt : TypeTable} {segs : List OSeg}
    {samples : List (Option Nat)} {tes : List TExpr} (h : bindTypes C tt segs samples = .ok tes) :
    ∃ infos, generateArgInfo C tt samples [] = .ok infos ∧
      ∀ R : Loc → Prop, LocClosed infos R → ∀ te ∈ tes, ∀ l ∈ te.allLocs, R l := by
  obtain ⟨infos, _, hgen, _⟩ := bindTypes_ok_iff.1 h
  exact ⟨infos, hgen, fun R hc e he => (bindTypes_exprSat h
    (fun _ hg => Except.ok.inj (hgen ▸ hg) ▸ hc.infosGive) e he).allLocs⟩

/-- What `bindTypes` guarantees of a locator; `tt.size + 1` is the fuel `getArgInfo` passes to `getStructFields`. -/
def Loc.GenOK (C : Cls) (tt : TypeTable) : Loc → Prop
  | .field tid _ f =>
    (tt.get tid).kind = .struct ∧
      ∃ fields, getStructFields C tt (tt.size + 1) [] tid = .ok fields ∧ f ∈ fields
  | .mapKey tid _ _ => (tt.get tid).kind = .map ∧ (tt.get (tt.get tid).key).kind = .string
  | .slice tid _ => (tt.get tid).kind = .slice ∧ (tt.get tid).name.size ≠ 0

theorem Loc.GenOK.kindOK {C : Cls} {tt : TypeTable} {l : Loc} (h : l.GenOK C tt) : l.kindOK tt := by
  cases l with
  | field tid n f => exact h.1
  | mapKey tid n k => exact h.1
  | slice tid n => exact h

variable {C : Cls} {tt : TypeTable}

theorem Loc.GenOK.pathOK {tid : Nat} {n : Bytes} {f : SField}
    (h : (Loc.field tid n f).GenOK C tt) : PathOK tt tid f.index := by
  obtain ⟨_, fields, hg, hf⟩ := h
  exact getStructFields_paths _ _ _ _ hg f hf

/-- what `getArgInfo` guarantees of the info it builds for a named type -/
def InfoGen (C : Cls) (tt : TypeTable) : ArgInfo → Prop
  | .struct tid _ fields _ =>
    (tt.get tid).kind = .struct ∧ getStructFields C tt (tt.size + 1) [] tid = .ok fields
  | .map tid _ => (tt.get tid).kind = .map ∧ (tt.get (tt.get tid).key).kind = .string
  | .slice tid _ => (tt.get tid).kind = .slice ∧ (tt.get tid).name.size ≠ 0

theorem SampleInfo.gen {tid : Nat} {info : ArgInfo} (hn : (tt.get tid).name.size ≠ 0)
    (h : SampleInfo C tt tid info) : InfoGen C tt info := by
  rcases h with ⟨hk, hkey, rfl⟩ | ⟨hk, rfl⟩ | ⟨hk, _, hg, _, rfl⟩
  · exact ⟨hk, hkey⟩
  · exact ⟨hk, hn⟩
  · exact ⟨hk, hg⟩

theorem locClosed_genOK {infos : List (Bytes × ArgInfo)}
    (hg : ∀ p ∈ infos, InfoGen C tt p.2) : LocClosed infos (Loc.GenOK C tt) := by
  constructor
  · intro k a m l hk hm
    have hgen := hg _ hk
    rcases getMember_ok_iff.1 hm with ⟨_, _, _, _, _, rfl, hf, rfl⟩ | ⟨_, _, rfl, rfl⟩
    · exact ⟨hgen.1, _, hgen.2, List.mem_of_find?_eq_some hf⟩
    · exact hgen
  · intro k a ms hk hm
    have hgen := hg _ hk
    obtain ⟨tid, n, fields, tags, rfl, rfl⟩ := getAll_eq hm
    intro p hp
    obtain ⟨f, hf, rfl⟩ := List.mem_map.1 hp
    exact ⟨hgen.1, fields, hgen.2, starFieldsOf_subset hf⟩
  · intro k a l hk hm
    have hgen := hg _ hk
    unfold ArgInfo.getSlice at hm
    split at hm <;> cases hm
    exact hgen

theorem bindTypes_locs_genOK {segs : List OSeg}
    {samples : List (Option Nat)} {tes : List TExpr} (h : bindTypes C tt segs samples = .ok tes) :
    ∀ te ∈ tes, ∀ l ∈ te.allLocs, l.GenOK C tt := by
  obtain ⟨infos, hg, hall⟩ := bindTypes_locs_sat h
  refine hall _ (locClosed_genOK fun p hp => ?_)
  obtain ⟨tid, -, -, hi, hn⟩ := generateArgInfo_mem_sample hg hp
  exact hi.gen hn

theorem bindTypes_inputLocs_genOK {segs : List OSeg}
    {samples : List (Option Nat)} {tes : List TExpr} (h : bindTypes C tt segs samples = .ok tes) :
    ∀ te ∈ tes, ∀ l ∈ te.inputLocs, l.GenOK C tt :=
  fun te hte l hl => bindTypes_locs_genOK h te hte l (te.inputLocs_subset_allLocs l hl)

end Sqlair
