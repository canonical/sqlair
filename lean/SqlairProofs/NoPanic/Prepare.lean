/-
  C18 at Prepare (`bindTypes_errIn`): `bindTypes`, for ALL type tables, nodes and samples, only fails with a
  class of the list `prepareErrorClasses`; in particular never with "fuel" (no hang on a type sample), never
  with a panic class, and never with "internal-unsupported-type".
-/
import SqlairProofs.NoPanic.Defs
import SqlairProofs.NoPanic.Fuel
import SqlairProofs.Bind.Resolve

namespace Sqlair

/-- the error classes of `bindTypes`; a new `.error "…"` in the model breaks the `mem_lit` of the `_errIn`
    lemma that walks the function, until the class is entered here -/
def prepareErrorClasses : List String := [
  -- generateArgInfo / getArgInfo / getStructFields / parseTag
  "sample-nil", "sample-anonymous", "sample-duplicate-name", "sample-pointer", "sample-unsupported",
  "map-key-not-string", "duplicate-tag", "recursive-embedding", "field-not-exported",
  "tag-unsupported-flag", "tag-empty", "tag-missing-quote", "tag-invalid-column",
  -- the typed expression builder
  "type-missing", "no-such-tag", "member-of-slice", "no-tags", "map-with-asterisk",
  "slice-with-asterisk", "slice-syntax-on-struct", "slice-syntax-on-map", "output-used-twice",
  "more-than-one-asterisk-map", "more-than-one-provider", "missing-provider", "malformed-ast",
  "mismatched-columns-values", "invalid-asterisk-in-columns", "invalid-asterisk-in-types",
  "mismatched-columns-types", "sample-not-used"]

theorem prepareErrorClasses_ok : ∀ e ∈ prepareErrorClasses,
    e ≠ "fuel" ∧ ¬ IsPanic e ∧ e ≠ "internal-unsupported-type" := by
  decide +kernel

variable {C : Cls} {tt : TypeTable} {st : TEB}

/-- `generateArgInfo` calls `getArgInfo` only on the three kinds (`hk`, left); a caller without that fact pays
    with `P "internal-unsupported-type"` -/
theorem getArgInfo_errIn {tid : Nat} {P : String → Prop}
    (hmap : P "map-key-not-string") (hdup : P "duplicate-tag")
    (hs : ErrIn P (getStructFields C tt (tt.size + 1) [] tid))
    (hk : ((tt.get tid).kind = .struct ∨ (tt.get tid).kind = .map ∨ (tt.get tid).kind = .slice) ∨
      P "internal-unsupported-type") :
    ErrIn P (getArgInfo C tt tid) := by
  unfold getArgInfo
  simp only []
  split
  · exact .ite (.error hmap) .ok
  · split
    · exact hs.rethrow ‹_›
    · exact .ite (.error hdup) .ok
  · exact .ok
  · rename_i hm hst hsl
    exact .error (hk.resolve_left fun h => h.elim hst fun h => h.elim hm hsl)

theorem getStructFields_classes {tid : Nat} :
    ErrIn (· ∈ prepareErrorClasses) (getStructFields C tt (tt.size + 1) [] tid) := by
  -- "fuel" or a class of the list, and not "fuel"
  intro e h
  refine (getStructFields_errIn (P := fun e => e = "fuel" ∨ e ∈ prepareErrorClasses) (.inl rfl)
    (.inr (by mem_lit)) (.inr (by mem_lit)) (fun _ e h => .inr ?_) _ _ _ e h).resolve_left ?_
  · rcases Tag.parseTag_error h with rfl | rfl | rfl | rfl <;> mem_lit
  · exact getStructFields_no_fuel_inv _ _ _ List.nodup_nil (fun _ hx => nomatch hx) (Nat.lt_succ_self _) e h

theorem generateArgInfo_errIn :
    ∀ (samples : List (Option Nat)) (acc : List (Bytes × ArgInfo)),
    ErrIn (· ∈ prepareErrorClasses) (generateArgInfo C tt samples acc)
  | [], _ => .ok
  | none :: _, _ => .error (by mem_lit)
  | some tid :: rest, _ => by
    have anon : "sample-anonymous" ∈ prepareErrorClasses := by mem_lit
    have dup : "sample-duplicate-name" ∈ prepareErrorClasses := by mem_lit
    have info := fun hk => getArgInfo_errIn (C := C) (tt := tt) (tid := tid) (by mem_lit) (by mem_lit) getStructFields_classes (.inl hk)
    unfold generateArgInfo
    simp only []
    split
    rotate_left 3
    · exact .error (by mem_lit)
    · exact .error (by mem_lit)
    -- the three kinds of sample share one branch
    all_goals
      refine .ite (.error anon) ?_
      split
      · refine (info ?_).rethrow ‹_›
        simp only [*, true_or, or_true]
      · exact .ite (.error dup) (generateArgInfo_errIn rest _)

theorem getMember_errIn {a : ArgInfo} {m : Bytes} : ErrIn (· ∈ prepareErrorClasses) (a.getMember m) := by
  unfold ArgInfo.getMember
  split
  · split
    · exact .ok
    · exact .error (by mem_lit)
  · exact .ok
  · exact .error (by mem_lit)

theorem getAll_errIn {a : ArgInfo} : ErrIn (· ∈ prepareErrorClasses) a.getAll := by
  unfold ArgInfo.getAll
  split
  · exact .ite (.error (by mem_lit)) .ok
  · exact .error (by mem_lit)
  · exact .error (by mem_lit)

theorem getSlice_errIn {a : ArgInfo} : ErrIn (· ∈ prepareErrorClasses) a.getSlice := by
  unfold ArgInfo.getSlice
  split
  · exact .ok
  · exact .error (by mem_lit)
  · exact .error (by mem_lit)

variable {infos : List (Bytes × ArgInfo)}

theorem lookupRes_errIn {T : Bytes} : ErrIn (· ∈ prepareErrorClasses) (lookupRes infos T) := by
  unfold lookupRes; split
  · exact .error (by mem_lit)
  · exact .ok

theorem memberRes_errIn {T m : Bytes} : ErrIn (· ∈ prepareErrorClasses) (memberRes infos T m) :=
  lookupRes_errIn.bind fun _ _ => getMember_errIn

theorem starRes_errIn {T : Bytes} : ErrIn (· ∈ prepareErrorClasses) (starRes infos T) :=
  lookupRes_errIn.bind fun _ _ => getAll_errIn

theorem sliceRes_errIn {T : Bytes} : ErrIn (· ∈ prepareErrorClasses) (sliceRes infos T) :=
  lookupRes_errIn.bind fun _ _ => getSlice_errIn

theorem provStepRes_errIn {acc : List (Bytes × List Loc) × Option Bytes} {src : Acc} :
    ErrIn (· ∈ prepareErrorClasses) (provStepRes infos acc src) := by
  unfold provStepRes
  refine .ite (lookupRes_errIn.bind fun a _ => ?_) memberRes_errIn.map
  split
  · exact .ite (.error (by mem_lit)) .ok
  · exact getAll_errIn.map

theorem colRes_errIn {prov : List (Bytes × List Loc)} {rem : Option Bytes} {c : Col} :
    ErrIn (· ∈ prepareErrorClasses) (colRes infos prov rem c) := by
  unfold colRes
  split
  · exact .ok
  · exact .error (by mem_lit)
  · exact memberRes_errIn.map
  · exact .error (by mem_lit)

theorem srcRes_errIn {a : Acc} : ErrIn (· ∈ prepareErrorClasses) (srcRes infos a) := by
  unfold srcRes; exact .ite starRes_errIn.map memberRes_errIn.map

theorem pairRes_errIn {p : Col × Val} : ErrIn (· ∈ prepareErrorClasses) (pairRes infos p) := by
  unfold pairRes; split
  · exact .ok
  · exact memberRes_errIn.map

theorem accRes_errIn {pref : Bytes} {a : Acc} : ErrIn (· ∈ prepareErrorClasses) (accRes pref infos a) := by
  unfold accRes; exact .ite starRes_errIn.map memberRes_errIn.map

theorem nodeRes_errIn {s : OSeg} : ErrIn (· ∈ prepareErrorClasses) (nodeRes infos s) := by
  have malformed : "malformed-ast" ∈ prepareErrorClasses := by mem_lit
  unfold nodeRes
  split
  · exact .ok
  · split
    · exact memberRes_errIn.map
    · exact .error malformed
  · split
    · exact sliceRes_errIn.map
    · exact .error malformed
  · exact (ErrIn.mapM fun _ _ => srcRes_errIn).map
  · exact (ErrIn.foldlM fun _ _ _ => provStepRes_errIn).bind fun _ _ => (ErrIn.mapM fun _ _ => colRes_errIn).map
  · exact .ite (.error (by mem_lit)) (ErrIn.mapM fun _ _ => pairRes_errIn).map
  · simp only []
    exact .ite (ErrIn.mapM fun _ _ => accRes_errIn).map <| .ite (.error (by mem_lit)) <|
      .ite (ErrIn.mapM fun _ _ => memberRes_errIn.map).map <| .ite (.error (by mem_lit)) <|
      .ite (ErrIn.mapM fun _ _ => memberRes_errIn.map).map (.error (by mem_lit))

theorem bindSeg_errIn {s : OSeg} : ErrIn (· ∈ prepareErrorClasses) (bindSeg st s) := fun e h =>
  ((bindSeg_nodeRun st s).error h).elim (nodeRes_errIn e) fun h => h ▸ by mem_lit

theorem bindSegs_errIn (segs : List OSeg) (st : TEB) : ErrIn (· ∈ prepareErrorClasses) (bindSegs st segs) :=
  bindSegs_eq_foldlM segs st ▸ .foldlM fun _ _ _ => bindSeg_errIn

theorem bindTypes_errIn {segs : List OSeg} {samples : List (Option Nat)} :
    ErrIn (· ∈ prepareErrorClasses) (bindTypes C tt segs samples) := by
  rw [bindTypes_eq]
  exact (generateArgInfo_errIn _ _).bind fun _ _ => (bindSegs_errIn _ _).bind fun _ _ =>
    .ite .ok (.error (by mem_lit))

end Sqlair
