/-
  The index paths computed by `getStructFields` follow the type table
  (`getStructFields_paths`), and `fieldByIndex` along such a path on a well-formed value
  never panics (`fieldByIndex_wf`): it finds a well-formed value or stops at a nil
  embedded pointer.
-/
import SqlairProofs.NoPanic.ValWF
import SqlairProofs.Typed.Fields

namespace Sqlair

variable {C : Cls} {tt : TypeTable}

theorem npEmbTarget_of_ptr {ty : Nat} (h : (tt.get ty).kind = .ptr) : npEmbTarget tt ty = (tt.get ty).elem := by
  simp [npEmbTarget, h]

theorem npEmbTarget_of_not_ptr {ty : Nat} (h : (tt.get ty).kind ≠ .ptr) : npEmbTarget tt ty = ty := by
  simp [npEmbTarget, h]

/-- `embTarget tt fd` (Typed/Struct.lean) unfolds to the `npEmbTarget tt fd.ty` of `PathOK`, so `hemb` is used as it is. -/
theorem getStructFields_paths (fuel : Nat) (visiting : List Nat) (tid : Nat) :
    ∀ fs, getStructFields C tt fuel visiting tid = .ok fs → ∀ f ∈ fs, PathOK tt tid f.index :=
  fun _ h => getStructFields_mem_induct (Q := fun sid f => PathOK tt sid f.index)
    (fun _ _ fd _ hfd _ => ⟨fd, hfd, .inl rfl⟩) (fun _ _ fd _ hfd hemb h => ⟨fd, hfd, .inr ⟨hemb.2.2.2, h⟩⟩) h

/-- `npEmbTarget tt v.tid = sid` together with the hypothesis on `first`: the value has the struct type `sid` or
    (not at the first step) a pointer type to it. -/
theorem fieldByIndex_wf_aux : ∀ (path : List Nat) (v : GoVal) (sid : Nat) (first : Bool),
    ValWF tt v → npEmbTarget tt v.tid = sid → (first = true → (tt.get v.tid).kind ≠ .ptr) →
    (path ≠ [] → (tt.get sid).kind = .struct) → PathOK tt sid path →
    (∃ r, fieldByIndex v path first = .ok r ∧ ValWF tt r) ∨
      fieldByIndex v path first = .error "nil-embedded-pointer"
  | [], v, _, _, hv, _, _, _, _ => .inl ⟨v, rfl, hv⟩
  | i :: rest, v, sid, first, hv, hemb, hfirst, hks, ⟨fd, hfd, hrest⟩ => by
    have hks := hks (List.cons_ne_nil _ _)
    -- the struct node reached after the optional dereference
    have key : ∀ (s : GoVal) (first : Bool), ValWF tt s → s.tid = sid →
        (∃ r, fieldByIndex s (i :: rest) first = .ok r ∧ ValWF tt r) ∨
        fieldByIndex s (i :: rest) first = .error "nil-embedded-pointer" := by
      intro s first hs hst
      obtain ⟨hd, fs, rfl, hlen, hty, hwf⟩ := hs.struct_inv (hst ▸ hks)
      have hst : hd.t = sid := hst
      have hi : i < fs.length := by rw [hlen, hst]; exact (List.getElem?_eq_some_iff.1 hfd).1
      have hf : fs[i]? = some fs[i] := List.getElem?_eq_getElem hi
      rw [fieldByIndex_struct, hf]
      have hfwf : ValWF tt fs[i] := hwf _ (List.getElem_mem hi)
      rcases hrest with rfl | ⟨hk2, hp2⟩
      · exact .inl ⟨fs[i], rfl, hfwf⟩
      · exact fieldByIndex_wf_aux rest fs[i] (npEmbTarget tt fd.ty) false hfwf
          (by rw [hty i _ fd hf (hst ▸ hfd)]) (fun h => nomatch h) (fun _ => hk2) hp2
    by_cases hkp : (tt.get v.tid).kind = .ptr
    · obtain rfl : first = false := by
        cases first
        · rfl
        · exact absurd hkp (hfirst rfl)
      have hsid : (tt.get v.tid).elem = sid := (npEmbTarget_of_ptr hkp).symm.trans hemb
      rcases hv.ptr_inv hkp with ⟨hd, rfl⟩ | ⟨hd, p, rfl, hpt, hpw⟩
      · exact .inr rfl
      · rw [fbi_ptr_cons]
        exact key p true hpw (hpt.trans hsid)
    · exact key v first hv ((npEmbTarget_of_not_ptr hkp).symm.trans hemb)

theorem fieldByIndex_wf {v : GoVal} {sid : Nat} {path : List Nat}
    (hv : ValWF tt v) (ht : v.tid = sid) (hk : (tt.get sid).kind = .struct) (hp : PathOK tt sid path) :
    (∃ r, fieldByIndex v path true = .ok r ∧ ValWF tt r) ∨
      fieldByIndex v path true = .error "nil-embedded-pointer" := by
  have hnp : (tt.get v.tid).kind ≠ .ptr := by rw [ht, hk]; simp
  exact fieldByIndex_wf_aux path v sid true hv ((npEmbTarget_of_not_ptr hnp).trans ht) (fun _ => hnp) (fun _ => hk) hp

end Sqlair
