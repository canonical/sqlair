/-
  The checker `valWF` is sound and complete for `ValWF`; a well-formed value of a struct / slice / map /
  pointer type is the corresponding node.
-/
import SqlairProofs.NoPanic.Defs
import SqlairProofs.Typed.Locate

namespace Sqlair

private theorem mem_zip_iff_getElem? {α β : Type} {a : α} {b : β} {l₁ : List α} {l₂ : List β} :
    (a, b) ∈ l₁.zip l₂ ↔ ∃ i : Nat, l₁[i]? = some a ∧ l₂[i]? = some b := by
  rw [List.mem_iff_getElem?]
  simp only [List.getElem?_zip_eq_some]

section
variable {tt : TypeTable} {n : Nat} {hd : VH}

theorem valWF_struct_mem {fs : List GoVal} {f : GoVal} (h : valWF tt (n + 1) (.struct hd fs) = true) (hf : f ∈ fs) :
    valWF tt n f = true := by
  rw [valWF, Bool.and_eq_true, Bool.and_eq_true, List.all_eq_true] at h
  obtain ⟨i, hi⟩ := List.mem_iff_getElem?.1 hf
  have hlt : i < (tt.get hd.t).fields.length := beq_iff_eq.1 h.1.2 ▸ (List.getElem?_eq_some_iff.1 hi).1
  exact (Bool.and_eq_true_iff.1 (h.2 _ (mem_zip_iff_getElem?.2 ⟨i, hi, List.getElem?_eq_getElem hlt⟩))).2

theorem valWF_ptr_some {q : GoVal} (h : valWF tt (n + 1) (.ptr hd (some q)) = true) : valWF tt n q = true := by
  rw [valWF, Bool.and_eq_true] at h; exact h.2

theorem valWF_iface_some {q : GoVal} (h : valWF tt (n + 1) (.iface hd (some q)) = true) : valWF tt n q = true := by
  rw [valWF, Bool.and_eq_true] at h; exact h.2

theorem valWF_map_mem {l : List (Bytes × GoVal)} {e : Bytes × GoVal} (h : valWF tt (n + 1) (.map hd (some l)) = true)
    (he : e ∈ l) : valWF tt n e.2 = true := by
  rw [valWF, Bool.and_eq_true, List.all_eq_true] at h; exact (Bool.and_eq_true_iff.1 (h.2 e he)).2

theorem valWF_slice_mem {els : List GoVal} {e : GoVal} (h : valWF tt (n + 1) (.slice hd els) = true) (he : e ∈ els) :
    valWF tt n e = true := by
  rw [valWF, Bool.and_eq_true, List.all_eq_true] at h; exact (Bool.and_eq_true_iff.1 (h.2 e he)).2

end

theorem valWF_sound {tt : TypeTable} : ∀ (fuel : Nat) (v : GoVal), valWF tt fuel v = true → ValWF tt v
  | 0, _, h => by simp [valWF] at h
  | n + 1, v, h => by
    have ih := valWF_sound (tt := tt) n
    have h0 := h
    -- one case per equation of `valWF`; `.invalid` is closed by the unfolding
    rcases v with _ | hd | ⟨hd, fs⟩ | ⟨hd, _ | q⟩ | ⟨hd, _ | l⟩ | ⟨hd, els⟩ | ⟨hd, _ | q⟩ <;>
      simp only [valWF, Bool.false_eq_true, Bool.and_eq_true, Bool.or_eq_true, beq_iff_eq, List.all_eq_true] at h
    · exact .leaf hd h
    · obtain ⟨⟨hk, hlen⟩, hall⟩ := h
      refine .struct hd fs hk hlen ?_ ?_
      · exact fun i f fd hf hfd => (hall _ (mem_zip_iff_getElem?.2 ⟨i, hf, hfd⟩)).1
      · exact fun f hf => ih _ (valWF_struct_mem h0 hf)
    · exact .ptrNil hd h
    · exact .ptr hd q h.1.1 h.1.2 (ih _ h.2)
    · exact .mapNil hd h
    · exact .map hd l h.1 (fun e he => (h.2 e he).1) (fun e he => ih _ (h.2 e he).2)
    · exact .slice hd els h.1 (fun e he => (h.2 e he).1) (fun e he => ih _ (h.2 e he).2)
    · exact .ifaceNil hd h
    · exact .iface hd q h.1 (ih _ h.2)

theorem exists_common_fuel {α : Type} {p : α → Nat → Prop} : ∀ (l : List α),
    (∀ x ∈ l, ∃ N, ∀ n, N ≤ n → p x n) → ∃ N, ∀ x ∈ l, ∀ n, N ≤ n → p x n
  | [], _ => ⟨0, fun _ h => nomatch h⟩
  | a :: rest, h => by
    obtain ⟨N1, h1⟩ := h a List.mem_cons_self
    obtain ⟨N2, h2⟩ := exists_common_fuel rest fun x hx => h x (List.mem_cons_of_mem _ hx)
    refine ⟨max N1 N2, fun x hx n hn => ?_⟩
    rcases List.mem_cons.1 hx with rfl | hx
    · exact h1 n (Nat.le_trans (Nat.le_max_left ..) hn)
    · exact h2 x hx n (Nat.le_trans (Nat.le_max_right ..) hn)

private theorem from_succ {p : Nat → Prop} (N : Nat) (h : ∀ m, N ≤ m → p (m + 1)) : ∃ N, ∀ n, N ≤ n → p n :=
  ⟨N + 1, fun n hn => Nat.sub_add_cancel (Nat.le_trans (Nat.le_add_left 1 N) hn) ▸ h (n - 1) (Nat.le_sub_one_of_lt hn)⟩

/-- the form the induction needs: the children of a node are checked with one common fuel -/
theorem ValWF.complete_from {tt : TypeTable} {v : GoVal} (h : ValWF tt v) :
    ∃ N, ∀ n, N ≤ n → valWF tt n v = true := by
  induction h with
  | leaf hd hk => exact from_succ 0 fun m _ => by simpa [valWF] using hk
  | struct hd fs hk hlen hty _ ih =>
    obtain ⟨N, hN⟩ := exists_common_fuel fs ih
    refine from_succ N fun m hm => ?_
    simp only [valWF, Bool.and_eq_true, beq_iff_eq, List.all_eq_true]
    refine ⟨⟨hk, hlen⟩, fun p hp => ?_⟩
    obtain ⟨i, h1, h2⟩ := mem_zip_iff_getElem?.1 hp
    exact ⟨hty i _ _ h1 h2, hN _ (List.mem_of_getElem? h1) m hm⟩
  | ptrNil hd hk => exact from_succ 0 fun m _ => by simpa [valWF] using hk
  | ptr hd p hk hty _ ih =>
    obtain ⟨N, hN⟩ := ih
    exact from_succ N fun m hm => by
      simp only [valWF, Bool.and_eq_true, beq_iff_eq]; exact ⟨⟨hk, hty⟩, hN m hm⟩
  | mapNil hd hk => exact from_succ 0 fun m _ => by simpa [valWF] using hk
  | map hd kv hk hty _ ih =>
    obtain ⟨N, hN⟩ := exists_common_fuel kv ih
    refine from_succ N fun m hm => ?_
    simp only [valWF, Bool.and_eq_true, beq_iff_eq, List.all_eq_true]
    exact ⟨hk, fun e he => ⟨hty e he, hN e he m hm⟩⟩
  | slice hd els hk hty _ ih =>
    obtain ⟨N, hN⟩ := exists_common_fuel els ih
    refine from_succ N fun m hm => ?_
    simp only [valWF, Bool.and_eq_true, beq_iff_eq, List.all_eq_true]
    exact ⟨hk, fun e he => ⟨hty e he, hN e he m hm⟩⟩
  | ifaceNil hd hk => exact from_succ 0 fun m _ => by simpa [valWF] using hk
  | iface hd p hk _ ih =>
    obtain ⟨N, hN⟩ := ih
    exact from_succ N fun m hm => by
      simp only [valWF, Bool.and_eq_true, beq_iff_eq]; exact ⟨hk, hN m hm⟩

theorem ValWF.complete {tt : TypeTable} {v : GoVal} (h : ValWF tt v) : ∃ fuel, valWF tt fuel v = true :=
  let ⟨N, hN⟩ := h.complete_from
  ⟨N, hN N (Nat.le_refl N)⟩

theorem ValWF.struct_inv {tt : TypeTable} {v : GoVal} (h : ValWF tt v) (hk : (tt.get v.tid).kind = .struct) :
    ∃ hd fs, v = .struct hd fs ∧ fs.length = (tt.get hd.t).fields.length ∧
      (∀ (i : Nat) (f : GoVal) (fd : FieldDesc), fs[i]? = some f → (tt.get hd.t).fields[i]? = some fd → f.tid = fd.ty) ∧
      (∀ f ∈ fs, ValWF tt f) := by
  cases h with
  | struct hd fs _ hlen hty hwf => exact ⟨hd, fs, rfl, hlen, hty, hwf⟩
  | leaf hd hk' => simp only [GoVal.tid, GoVal.h] at hk; rw [hk] at hk'; simp at hk'
  | _ => simp only [GoVal.tid, GoVal.h] at hk; simp_all

theorem ValWF.slice_inv {tt : TypeTable} {v : GoVal} (h : ValWF tt v) (hk : (tt.get v.tid).kind = .slice) :
    ∃ hd els, v = .slice hd els ∧ (∀ e ∈ els, e.tid = (tt.get hd.t).elem) ∧ (∀ e ∈ els, ValWF tt e) := by
  cases h with
  | slice hd els _ hty hwf => exact ⟨hd, els, rfl, hty, hwf⟩
  | leaf hd hk' => simp only [GoVal.tid, GoVal.h] at hk; rw [hk] at hk'; simp at hk'
  | _ => simp only [GoVal.tid, GoVal.h] at hk; simp_all

/-- only the shape of the node: the users (`NoPanic/Locate.lean`) need no more -/
theorem ValWF.map_inv {tt : TypeTable} {v : GoVal} (h : ValWF tt v) (hk : (tt.get v.tid).kind = .map) :
    ∃ hd kv, v = .map hd kv := by
  cases h with
  | mapNil hd _ => exact ⟨hd, none, rfl⟩
  | map hd kv _ _ _ => exact ⟨hd, some kv, rfl⟩
  | leaf hd hk' => simp only [GoVal.tid, GoVal.h] at hk; rw [hk] at hk'; simp at hk'
  | _ => simp only [GoVal.tid, GoVal.h] at hk; simp_all

theorem ValWF.ptr_inv {tt : TypeTable} {v : GoVal} (h : ValWF tt v) (hk : (tt.get v.tid).kind = .ptr) :
    (∃ hd, v = .ptr hd none) ∨
    (∃ hd p, v = .ptr hd (some p) ∧ p.tid = (tt.get v.tid).elem ∧ ValWF tt p) := by
  cases h with
  | ptrNil hd _ => exact Or.inl ⟨hd, rfl⟩
  | ptr hd p _ hty hwf => exact Or.inr ⟨hd, p, rfl, hty, hwf⟩
  | leaf hd hk' => simp only [GoVal.tid, GoVal.h] at hk; rw [hk] at hk'; simp at hk'
  | _ => simp only [GoVal.tid, GoVal.h] at hk; simp_all

theorem ValWF.kind_of_ptr {tt : TypeTable} {hd : VH} {p : Option GoVal} (h : ValWF tt (.ptr hd p)) :
    (tt.get hd.t).kind = .ptr := by
  cases h with
  | ptrNil _ hk => exact hk
  | ptr _ _ hk _ _ => exact hk

theorem ValWF.indirect {tt : TypeTable} {v : GoVal} (h : ValWF tt v) : ValWF tt (indirect v) := by
  rcases indirect_cases v with ⟨_, _, rfl, hp⟩ | hp <;> rw [hp]
  · cases h; assumption
  · exact h

theorem fieldByIndex_struct (hd : VH) (fs : List GoVal) (i : Nat) (rest : List Nat) (first : Bool) :
    fieldByIndex (.struct hd fs) (i :: rest) first =
      match fs[i]? with
      | some f => fieldByIndex f rest false
      | none => .error "panic-field-index" := by
  cases first <;> rfl

theorem fbi_ptr_cons (h : VH) (p : GoVal) (j : Nat) (rest : List Nat) :
    fieldByIndex (.ptr h (some p)) (j :: rest) false = fieldByIndex p (j :: rest) true := rfl

end Sqlair
