/-
  The expression parsers satisfy `EOK`.  `basicLoop` is treated in two halves (`basicItem`,
  `basicTail`, with the equation `basicLoop_succ`), here and in every later walk through it;
  `parseInsertExpr` likewise as `insertTail` behind `(columns) VALUES` (`parseInsertExpr_eq`).
  `advanceToNextExpression` stops where an expression may start (`StopOK`).
-/
import SqlairProofs.Parser.Items

namespace Sqlair

section
variable {E : Env}

section
variable (h : DecOK E) {s : Sc} (g : Good E s)
include h g

theorem parseOutputExpr_eok : EOK E s (parseOutputExpr E s) := by
  unfold parseOutputExpr
  have ht := parseTargetType_xok h g
  generalize parseTargetType E s = r at ht ⊢
  obtain ⟨cp, t | _ | e⟩ := r
  · exact EOK.mk_ok ht.good (ht.prog t rfl) _ rfl rfl
  · obtain rfl : cp = s := ht.no rfl
    have hpc := parseColumns_post h g
    dsimp only
    generalize parseColumns E cp = r at hpc ⊢
    obtain ⟨s2, _ | ⟨cols, parenCols⟩⟩ := r
    · exact EOK.refl_no g
    dsimp only
    have hp3 := skipBlanks_post h (s := s2) hpc.good
    have hb := skipString_AS_bok hp3.good
    have hp4 := skipBlanks_post h hb.good
    refine iteInduction (fun _ => EOK.refl_no g) fun hr => ?_
    have hlt : cp.pos < (skipBlanks E (skipString E kwAS (skipBlanks E s2)).1).pos :=
      Nat.lt_of_le_of_lt (Nat.le_trans hpc.mono hp3.mono)
        (Nat.lt_of_lt_of_le (hb.prog (by simpa using hr)) hp4.mono)
    have htt := parseTargetTypes_rok h hp4.good
    generalize parseTargetTypes E (skipBlanks E (skipString E kwAS (skipBlanks E s2)).1) = r at htt ⊢
    obtain ⟨s5, ⟨types, parenTypes⟩ | _ | e⟩ := r
    · have hlt5 := Nat.lt_of_lt_of_le hlt htt.mono
      have herr := fun k hk => EOK.mk_err (s := cp) htt.good (Nat.le_of_lt hlt5) (errAt_ok hp4.good (k := k) hk)
      dsimp only
      refine iteInduction (fun _ => herr _ (by simp)) fun _ => iteInduction (fun _ => herr _ (by simp)) fun _ => ?_
      split
      · exact EOK.mk_err htt.good (Nat.le_of_lt hlt5) (errAt_ok g (by simp))
      · exact EOK.mk_ok htt.good hlt5 _ rfl rfl
    · exact EOK.refl_no g
    · exact EOK.mk_err htt.good (Nat.le_trans (Nat.le_of_lt hlt) htt.mono) (htt.err e rfl)
  · exact EOK.mk_err ht.good ht.mono (ht.err e rfl)

theorem parseSliceInputExpr_eok :
    EOK E s (parseSliceInputExpr E s) := by
  unfold parseSliceInputExpr
  extract_lets r
  have hb : BOK E s r := skipChar_bok h 36 g
  refine iteInduction (fun _ => EOK.refl_no g) fun hr => ?_
  have hlt := hb.prog (by simpa using hr)
  have hsl := (parseSliceAccessor_rok h hb.good).1
  generalize parseSliceAccessor E r.1 = r1 at hsl ⊢
  obtain ⟨s1, st | _ | e⟩ := r1
  · exact EOK.mk_ok hsl.good (Nat.lt_of_lt_of_le hlt hsl.mono) _ rfl rfl
  · exact EOK.refl_no g
  · exact EOK.refl_err g (hsl.err e rfl)

theorem parseMemberInputExpr_eok :
    EOK E s (parseMemberInputExpr E s) := by
  unfold parseMemberInputExpr
  have hm := parseInputMemberAccessor_sok h g
  generalize parseInputMemberAccessor E s = r at hm ⊢
  obtain ⟨s1, ma | _ | e⟩ := r
  · exact iteInduction (fun _ => EOK.refl_err g (errAt_ok g (by simp))) fun _ =>
      EOK.mk_ok hm.good (hm.prog ma rfl) _ rfl rfl
  · exact EOK.refl_no g
  · exact EOK.refl_err g (hm.err e rfl)

theorem parseComplexInsertValues_rok :
    ROK E s (parseComplexInsertValues E s) := by
  unfold parseComplexInsertValues
  have hl := parseList_rok h (fun s g => (parseInputMemberAccessor_sok h g).toROK) g
  generalize parseList E (parseInputMemberAccessor E) s = r at hl ⊢
  obtain ⟨s1, srcs | _ | e⟩ := r
  · exact ROK.mk_ok hl.good hl.mono _
  · dsimp only
    split
    · exact ROK.refl_err g (errAt_ok g (by simp))
    · exact ROK.refl_no g
  · exact ROK.refl_err g (hl.err e rfl)

theorem parseAsteriskInsertExpr_eok :
    EOK E s (parseAsteriskInsertExpr E s) := by
  unfold parseAsteriskInsertExpr
  extract_lets r1 r2 r3 r4
  have hb1 : BOK E s r1 := skipChar_bok h 40 g
  have hp1 := skipBlanks_post h hb1.good
  have hb2 : BOK E _ r2 := skipChar_bok h 42 hp1.good
  have hp2 := skipBlanks_post h hb2.good
  have hb3 : BOK E _ r3 := skipChar_bok h 41 hp2.good
  have hp3 := skipBlanks_post h hb3.good
  have hb4 : BOK E _ r4 := skipString_VALUES_bok hp3.good
  have hp4 := skipBlanks_post h hb4.good
  have hc := parseComplexInsertValues_rok h hp4.good
  refine iteInduction (fun _ => EOK.refl_no g) fun hr1 => ?_
  have hlt : s.pos < (skipBlanks E r4.1).pos := by
    have := hb1.prog (by simpa using hr1)
    have := hp1.mono; have := hb2.mono; have := hp2.mono; have := hb3.mono; have := hp3.mono
    have := hb4.mono; have := hp4.mono
    omega
  refine iteInduction (fun _ => EOK.refl_no g) fun _ => iteInduction (fun _ => EOK.refl_no g) fun _ =>
    iteInduction (fun _ => EOK.refl_no g) fun _ => ?_
  generalize parseComplexInsertValues E (skipBlanks E r4.1) = r at hc ⊢
  obtain ⟨s1, srcs | _ | e⟩ := r
  · exact EOK.mk_ok hc.good (Nat.lt_of_lt_of_le hlt hc.mono) _ rfl rfl
  · exact EOK.refl_no g
  · exact EOK.mk_err hc.good (Nat.le_trans (Nat.le_of_lt hlt) hc.mono) (hc.err e rfl)

end

/-- one item of `parseBasicInsertValues`: the first half of the body of `basicLoop` -/
def basicItem (X : Env) (cp : Sc) (ip : Bool) (vs : List Val) (s1 : Sc) : Sc × Res (Bool × List Val) :=
  match parseInputMemberAccessor X s1 with
  | (s2, .err e) => (s2, .err e)
  | (s2, .ok ma) =>
    if ma.member == star then (s2, .err (errAt s1 .starInBasic))
    else (s2, .ok (true, vs ++ [.acc ma]))
  | (s2, .no) =>
    match skipLiteralInList X s2 with
    | (s3, .err e) => (s3, .err e)
    | (s3, .ok _) => (s3, .ok (ip, vs ++ [.lit (X.inp.extract s1.pos s3.pos)]))
    | (_, .no) => (cp, .no)

/-- what follows an item: the second half of the body of `basicLoop` -/
def basicTail (X : Env) (cp : Sc) (f : Nat) (ip : Bool) (vs : List Val) (s2 : Sc) :
    Sc × Res (List Val) :=
  let s3 := skipBlanks X s2
  let r := skipChar X 41 s3
  if r.2 then (if ip then (r.1, .ok vs) else (r.1, .no)) else
  let r := skipChar X 44 s3
  if r.2 then basicLoop X cp f ip vs r.1 else (cp, .no)

theorem basicLoop_succ (X : Env) (cp : Sc) (f : Nat) (ip : Bool) (vs : List Val) (s : Sc) :
    basicLoop X cp (f+1) ip vs s =
      match basicItem X cp ip vs (skipBlanks X s) with
      | (s2, .err e) => (s2, .err e)
      | (s2, .no) => (s2, .no)
      | (s2, .ok (ip', vs')) => basicTail X cp f ip' vs' s2 := by
  rw [basicLoop]
  rfl

theorem basicItem_lok (h : DecOK E) {cp : Sc} (gcp : Good E cp) (ip : Bool) (vs : List Val) {s1 : Sc}
    (g1 : Good E s1) (hle1 : cp.pos ≤ s1.pos) : LOK E cp s1 (basicItem E cp ip vs s1) := by
  unfold basicItem
  have hm := (parseInputMemberAccessor_sok h g1).toROK
  generalize parseInputMemberAccessor E s1 = r at hm ⊢
  obtain ⟨s2, ma | _ | e⟩ := r
  · have hle2 := Nat.le_trans hle1 hm.mono
    exact iteInduction (fun _ => LOK.mk_err hm.good hle2 (errAt_ok g1 (by simp)))
      fun _ => LOK.mk_ok hm.good hle2 hm.mono _
  · have hl := skipLiteralInList_rok h hm.good
    dsimp only
    generalize skipLiteralInList E s2 = r at hl ⊢
    have hle3 := Nat.le_trans hm.mono hl.mono
    obtain ⟨s3, x | _ | e⟩ := r
    · exact LOK.mk_ok hl.good (Nat.le_trans hle1 hle3) hle3 _
    · exact LOK.cp_no gcp
    · exact LOK.mk_err hl.good (Nat.le_trans hle1 hle3) (hl.err e rfl)
  · exact LOK.mk_err hm.good (Nat.le_trans hle1 hm.mono) (hm.err e rfl)

theorem basicLoop_lok (h : DecOK E) {cp : Sc} (gcp : Good E cp) (f : Nat) (ip : Bool) (vs : List Val)
    {s : Sc} (g : Good E s) (hle : cp.pos ≤ s.pos) (hf : E.len - s.pos < f) :
    LOK E cp s (basicLoop E cp f ip vs s) := by
  induction f generalizing s ip vs with
  | zero => omega
  | succ f ih =>
    rw [basicLoop_succ]
    have hp1 : Post E s (skipBlanks E s) := skipBlanks_post h g
    have hitem := basicItem_lok h gcp ip vs hp1.good (Nat.le_trans hle hp1.mono)
    generalize basicItem E cp ip vs (skipBlanks E s) = item at hitem ⊢
    obtain ⟨s2, ⟨ip', vs'⟩ | _ | e⟩ := item
    · have hp3 := skipBlanks_post h hitem.good
      have hb1 := skipChar_bok h 41 hp3.good
      have hb2 := skipChar_bok h 44 hp3.good
      have hs3 : s.pos ≤ (skipBlanks E s2).pos :=
        Nat.le_trans hp1.mono (Nat.le_trans (hitem.okmono _ rfl) hp3.mono)
      unfold basicTail
      refine iteInduction (fun _ => ?_) fun _ => iteInduction (fun ht => ?_) fun _ => LOK.cp_no gcp
      · have hle4 := Nat.le_trans hs3 hb1.mono
        exact iteInduction (fun _ => LOK.mk_ok hb1.good (Nat.le_trans hle hle4) hle4 _)
          fun _ => LOK.mk_no hb1.good (Nat.le_trans hle hle4)
      · have hlt4 := Nat.lt_of_le_of_lt hs3 (hb2.prog ht)
        exact (ih _ _ hb2.good (Nat.le_trans hle (Nat.le_of_lt hlt4))
          (Parser.fuel_step hf (Nat.lt_of_lt_of_le hlt4 hb2.good.pos_le) hlt4)).step (Nat.le_of_lt hlt4)
    · exact LOK.mk_no hitem.good hitem.mono
    · exact LOK.mk_err hitem.good hitem.mono (hitem.err e rfl)

/-- the second alternative of `insertTail`: basic values, as a node from the checkpoint `cp` -/
def insertBasic (X : Env) (cp : Sc) (columns : List Col) (colcp : Sc) : Sc × Res Seg :=
  match parseBasicInsertValues X colcp with
  | (_, .err e) => (cp, .err e)
  | (s3, .ok vals) =>
    (s3, .ok { kind := .basicInsert, a := cp.pos, b := s3.pos, cols := columns, vals := vals })
  | (_, .no) => (cp, .no)

/-- the part of `parseInsertExpr` after `(columns) VALUES` -/
def insertTail (X : Env) (cp : Sc) (columns : List Col) (colcp : Sc) : Sc × Res Seg :=
  let complex : Option (Sc × List Acc) :=
    match parseComplexInsertValues X colcp with
    | (s2, .ok srcs) => if starCountTypes srcs != 0 then some (s2, srcs) else none
    | _ => none
  match complex with
  | some (s2, srcs) =>
    (s2, .ok { kind := .colInsert, a := cp.pos, b := s2.pos, cols := columns, types := srcs })
  | none => insertBasic X cp columns colcp

theorem parseInsertExpr_eq (X : Env) (s : Sc) :
    parseInsertExpr X s =
      match parseAsteriskInsertExpr X s with
      | (s1, .err e) => (s1, .err e)
      | (s1, .ok seg) => (s1, .ok seg)
      | (cp, .no) =>
        match parseColumns X cp with
        | (s1, some (columns, true)) =>
          let r := skipString X kwVALUES (skipBlanks X s1)
          if !r.2 then (cp, .no) else insertTail X cp columns (skipBlanks X r.1)
        | _ => (cp, .no) := by
  unfold parseInsertExpr
  rfl

section
variable (h : DecOK E) {s : Sc} (g : Good E s)
include h g

theorem parseBasicInsertValues_rok :
    ROK E s (parseBasicInsertValues E s) := by
  unfold parseBasicInsertValues
  have hb := skipChar_bok h 40 g
  refine iteInduction (fun _ => ?_) fun _ =>
    (basicLoop_lok h g (E.len + 1) false [] hb.good hb.mono (Parser.fuel_init _ _)).toROK
  split
  · exact ROK.refl_err g (errAt_ok g (by simp))
  · exact ROK.refl_no g

omit g in
theorem insertBasic_eok {cp colcp : Sc} (gcp : Good E cp) (gc : Good E colcp) (hlt : cp.pos < colcp.pos)
    (cols : List Col) : EOK E cp (insertBasic E cp cols colcp) := by
  unfold insertBasic
  have hbv := parseBasicInsertValues_rok h gc
  generalize parseBasicInsertValues E colcp = r at hbv ⊢
  obtain ⟨s3, vals | _ | e⟩ := r
  · exact EOK.mk_ok hbv.good (Nat.lt_of_lt_of_le hlt hbv.mono) _ rfl rfl
  · exact EOK.refl_no gcp
  · exact EOK.refl_err gcp (hbv.err e rfl)

omit g in
theorem insertTail_eok {cp colcp : Sc} (gcp : Good E cp) (gc : Good E colcp) (hlt : cp.pos < colcp.pos)
    (cols : List Col) : EOK E cp (insertTail E cp cols colcp) := by
  unfold insertTail
  have basic := insertBasic_eok h gcp gc hlt cols
  have hcv := parseComplexInsertValues_rok h gc
  generalize parseComplexInsertValues E colcp = r at hcv ⊢
  obtain ⟨s2, srcs | _ | e⟩ := r
  · dsimp only
    by_cases hst : (starCountTypes srcs != 0) = true
    · rw [if_pos hst]
      exact EOK.mk_ok (s' := s2) hcv.good (Nat.lt_of_lt_of_le hlt hcv.mono) _ rfl rfl
    · rw [if_neg hst]
      exact basic
  · exact basic
  · exact basic

theorem parseInsertExpr_eok : EOK E s (parseInsertExpr E s) := by
  rw [parseInsertExpr_eq]
  have ha := parseAsteriskInsertExpr_eok h g
  generalize parseAsteriskInsertExpr E s = r at ha ⊢
  obtain ⟨cp, seg | _ | e⟩ := r
  · exact ha
  · obtain rfl : cp = s := ha.no rfl
    have hpc := parseColumns_post h g
    dsimp -zeta only
    generalize parseColumns E cp = r at hpc ⊢
    obtain ⟨s1, _ | ⟨columns, _ | _⟩⟩ := r
    · exact EOK.refl_no g
    · exact EOK.refl_no g
    · have hp1 := skipBlanks_post h (hpc.good : Good E s1)
      have hb := skipString_VALUES_bok hp1.good
      have hp2 := skipBlanks_post h hb.good
      have := hpc.mono; have := hp1.mono; have := hp2.mono
      dsimp only
      split
      · exact EOK.refl_no g
      next hr =>
      have hlt := hb.prog (by simpa using hr)
      exact insertTail_eok h g hp2.good (by omega) _
  · exact ha

theorem parseInputExpr_eok : EOK E s (parseInputExpr E s) := by
  unfold parseInputExpr
  have h1 := parseSliceInputExpr_eok h g
  generalize parseSliceInputExpr E s = r at h1 ⊢
  obtain ⟨s1, x | _ | e⟩ := r
  · exact h1
  · obtain rfl : s1 = s := h1.no rfl
    have h2 := parseMemberInputExpr_eok h g
    dsimp only
    generalize parseMemberInputExpr E s1 = r at h2 ⊢
    obtain ⟨s2, x | _ | e⟩ := r
    · exact h2
    · obtain rfl : s2 = s1 := h2.no rfl
      exact parseInsertExpr_eok h g
    · exact h2
  · exact h1

end

theorem advLoop_rok (h : DecOK E) (f : Nat) {s : Sc} (g : Good E s) (hf : E.len - s.pos < f) :
    ROK E s (advLoop E f s) := by
  induction f generalizing s with
  | zero => omega
  | succ f ih =>
    unfold advLoop
    refine iteInduction (fun hp => ?_) fun _ => ROK.mk_ok g (Nat.le_refl _) _
    have step : ∀ {s1 : Sc}, Good E s1 → s.pos < s1.pos → ROK E s (advLoop E f s1) :=
      fun g1 hlt =>
        let hr := ih g1 (Parser.fuel_step hf hp hlt)
        ⟨hr.good, Nat.le_trans (Nat.le_of_lt hlt) hr.mono, hr.err⟩
    have hsl := skipStringLiteral_xok h g
    generalize skipStringLiteral E s = r at hsl ⊢
    obtain ⟨s1, x | _ | e⟩ := r
    · exact step hsl.good (hsl.prog x rfl)
    · extract_lets r1 s1
      have hb1 : BOK E s r1 := skipComment_bok h g
      refine iteInduction (fun ht => step hb1.good (hb1.prog ht)) fun _ =>
        iteInduction (fun _ => ROK.mk_ok g (Nat.le_refl _) _) fun _ => ?_
      have ga : Good E s1 := advanceChar_good h g
      have hlt : s.pos < s1.pos := advanceChar_lt h g hp
      refine iteInduction (fun _ => ?_) fun _ => step ga hlt
      exact iteInduction (fun _ => ROK.mk_ok ga (Nat.le_of_lt hlt) _) fun _ =>
        iteInduction (fun _ => ROK.mk_ok ga (Nat.le_of_lt hlt) _) fun _ => step ga hlt
    · exact ROK.mk_err hsl.good hsl.mono (hsl.err e rfl)

theorem advanceToNextExpression_post (h : DecOK E) {s : Sc} (g : Good E s) :
    Post E s (advanceToNextExpression E s).1 ∧
      ∀ e, (advanceToNextExpression E s).2 = some e → ErrOK E e := by
  unfold advanceToNextExpression
  split
  · exact ⟨⟨g, Nat.le_refl _⟩, fun e he => by cases he⟩
  have hl := advLoop_rok h (E.len + 1) g (Parser.fuel_init _ _)
  generalize advLoop E (E.len + 1) s = r at hl ⊢
  obtain ⟨s1, ⟨_ | _⟩ | _ | e⟩ := r
  · exact ⟨⟨hl.good, hl.mono⟩, fun e he => by cases he⟩
  · have hp := skipBlanks_post h hl.good
    exact ⟨⟨hp.good, Nat.le_trans hl.mono hp.mono⟩, fun e he => by cases he⟩
  · exact ⟨⟨hl.good, hl.mono⟩, fun e he => by cases he⟩
  · exact ⟨⟨hl.good, hl.mono⟩, fun e' he' => by cases he'; exact hl.err e rfl⟩

theorem isExprTrigger_ne {c d : Nat} (ht : isExprTrigger c = true) (hd : isExprTrigger d = false) :
    c ≠ d :=
  fun h => by rw [h, hd] at ht; cases ht

theorem isExprTrigger_plain {c : Nat} (ht : isExprTrigger c = true) : c ≠ 34 ∧ c ≠ 39 ∧ c ≠ 45 ∧ c ≠ 47 := by
  refine ⟨?_, ?_, ?_, ?_⟩ <;> rintro rfl <;> exact absurd ht (by decide)

/-- Each `rfl` is `isExprTrigger d = false` for one of the six characters at which `skipBlanks`
    moves: tab, newline, CR, space, `-`, `/`. -/
theorem skipBlanks_trigger {s : Sc} (ht : isExprTrigger s.char = true) : skipBlanks E s = s :=
  skipBlanks_stay ⟨isExprTrigger_ne ht rfl, isExprTrigger_ne ht rfl, isExprTrigger_ne ht rfl,
    isExprTrigger_ne ht rfl, isExprTrigger_ne ht rfl, isExprTrigger_ne ht rfl⟩

/-- Where `advanceToNextExpression` stops before the end of the input: at one of `(`, `*`, `$`, `&`,
    or at a name character (the first character of the input, or the one behind a blank-like
    character). -/
def StopOK (E : Env) (s : Sc) : Prop :=
  s.pos < E.len → isExprTrigger s.char = true ∨ isNameChar E s.char = true

theorem StopOK.skipBlanks (hsep : ClassSep E) {s : Sc} (hs : StopOK E s) : skipBlanks E s = s := by
  by_cases hp : s.pos < E.len
  · exact (hs hp).elim skipBlanks_trigger (skipBlanks_nameChar hsep)
  · exact skipBlanks_eof hp

theorem advLoop_stop (f : Nat) {s s1 : Sc} {r : Res Bool} (h : advLoop E f s = (s1, r))
    (hne : ∀ e, r ≠ .err e) : StopOK E s1 := by
  induction f generalizing s with
  | zero => unfold advLoop at h; cases h; exact (hne _ rfl).elim
  | succ f ih =>
    unfold advLoop at h
    obtain ⟨_, h⟩ | ⟨hp, h⟩ := of_ite_eq h
    · rcases hsl : skipStringLiteral E s with ⟨t1, res1⟩
      rw [hsl] at h
      cases res1 with
      | err e => cases h; exact (hne _ rfl).elim
      | ok u => exact ih h
      | no =>
        simp only [] at h
        obtain ⟨_, h⟩ | ⟨_, h⟩ := of_ite_eq h
        · exact ih h
        obtain ⟨ht, h⟩ | ⟨_, h⟩ := of_ite_eq h
        · cases h; exact fun _ => .inl ht
        obtain ⟨_, h⟩ | ⟨_, h⟩ := of_ite_eq h
        · obtain ⟨hge, h⟩ | ⟨_, h⟩ := of_ite_eq h
          · cases h; exact fun hlt => absurd hlt (Nat.not_lt.mpr hge)
          obtain ⟨hn, h⟩ | ⟨_, h⟩ := of_ite_eq h
          · cases h; exact fun _ => .inr hn
          · exact ih h
        · exact ih h
    · cases h; exact fun hlt => absurd hlt hp

theorem advanceToNextExpression_stop (hsep : ClassSep E) {s sc1 : Sc}
    (h : advanceToNextExpression E s = (sc1, none)) : StopOK E sc1 := by
  unfold advanceToNextExpression at h
  obtain ⟨hc, h⟩ | ⟨_, h⟩ := of_ite_eq h
  · cases h; exact fun _ => .inr hc.2.2
  rcases hl : advLoop E (E.len + 1) s with ⟨s1, r⟩
  rw [hl] at h
  match r, h, hl with
  | .err e, h, _ => cases h
  | .no, h, hl => cases h; exact advLoop_stop _ hl Res.no_ne_err
  | .ok false, h, hl => cases h; exact advLoop_stop _ hl Res.ok_ne_err
  | .ok true, h, hl =>
    have hs1 := advLoop_stop _ hl Res.ok_ne_err
    dsimp only at h
    rw [hs1.skipBlanks hsep] at h
    cases h; exact hs1

/-- `advanceToNextExpression` behind its test at offset 0 (`advanceToNextExpression_eq`), for any fuel -/
def advFrom (E : Env) (f : Nat) (s : Sc) : Sc × Option PErr :=
  match advLoop E f s with
  | (s1, .err e) => (s1, some e)
  | (s1, .ok true) => (skipBlanks E s1, none)
  | (s1, _) => (s1, none)

theorem advanceToNextExpression_eq (s : Sc) :
    advanceToNextExpression E s =
      if s.pos < E.len ∧ s.pos = 0 ∧ isNameChar E s.char = true then (s, none)
      else advFrom E (E.len + 1) s := rfl

theorem advFrom_eof (f : Nat) {s : Sc} (hp : ¬ s.pos < E.len) : advFrom E (f + 1) s = (s, none) := by
  rw [advFrom, advLoop, if_neg hp]
  simp only [skipBlanks_eof hp]

theorem advanceToNextExpression_at_eof {s : Sc} (hp : ¬ s.pos < E.len) :
    advanceToNextExpression E s = (s, none) := by
  rw [advanceToNextExpression_eq, if_neg (fun hc => hp hc.1), advFrom_eof _ hp]

theorem advanceToNextExpression_at_zero {s : Sc} (hp : s.pos < E.len) (h0 : s.pos = 0)
    (hst : isExprTrigger s.char = true ∨ isNameChar E s.char = true) :
    advanceToNextExpression E s = (s, none) := by
  unfold advanceToNextExpression
  by_cases hn : isNameChar E s.char = true
  · rw [if_pos ⟨hp, h0, hn⟩]
  · have ht : isExprTrigger s.char = true := hst.resolve_right hn
    rw [if_neg (fun hc => hn hc.2.2), advLoop, if_pos hp]
    obtain ⟨h34, h39, h45, h47⟩ := isExprTrigger_plain ht
    simp only [skipStringLiteral_of_not fun hx => hx.2.elim h34 h39,
      skipComment_of_not (fun hx => h45 hx.2) fun hx => h47 hx.2, Bool.false_eq_true,
      if_false, ht, if_true]
    rw [skipBlanks_trigger ht]

/- `_no_restores` is the field `no` of `parseOutputExpr_eok`/`parseInputExpr_eok`, `_ok_progress` the
   fields `prog` and `span`.  The proofs use the fields; the `_no_restores` pair is what the check of
   C01 audits by name (`lean/obligations.json`). -/

theorem parseOutputExpr_no_restores (h : DecOK E) {s : Sc} (g : Good E s)
    (hn : (parseOutputExpr E s).2 = .no) : (parseOutputExpr E s).1 = s :=
  (parseOutputExpr_eok h g).no hn

theorem parseInputExpr_no_restores (h : DecOK E) {s : Sc} (g : Good E s)
    (hn : (parseInputExpr E s).2 = .no) : (parseInputExpr E s).1 = s :=
  (parseInputExpr_eok h g).no hn

theorem parseOutputExpr_ok_progress (h : DecOK E) {s : Sc} (g : Good E s) {seg : Seg}
    (hk : (parseOutputExpr E s).2 = .ok seg) :
    s.pos < (parseOutputExpr E s).1.pos ∧ seg.a = s.pos ∧ seg.b = (parseOutputExpr E s).1.pos :=
  ⟨(parseOutputExpr_eok h g).prog seg hk, (parseOutputExpr_eok h g).span seg hk⟩

theorem parseInputExpr_ok_progress (h : DecOK E) {s : Sc} (g : Good E s) {seg : Seg}
    (hk : (parseInputExpr E s).2 = .ok seg) :
    s.pos < (parseInputExpr E s).1.pos ∧ seg.a = s.pos ∧ seg.b = (parseInputExpr E s).1.pos :=
  ⟨(parseInputExpr_eok h g).prog seg hk, (parseInputExpr_eok h g).span seg hk⟩

/-! What one run tells about the state it was entered at, and the equations of the loops for one
    round. -/

theorem basicTail_ok_lt (hd : DecOK E) {cp s2 t : Sc} {f : Nat} {ip : Bool} {vs vals : List Val}
    (gcp : Good E cp) (g2 : Good E s2) (hcp : cp.pos ≤ s2.pos) (hf : E.len - s2.pos < f + 1)
    (he : basicTail E cp f ip vs s2 = (t, .ok vals)) : (skipBlanks E s2).pos < t.pos := by
  unfold basicTail at he
  simp only [] at he
  have p3 := skipBlanks_post hd g2
  have h41 := skipChar_bok hd 41 p3.good
  have h44 := skipChar_bok hd 44 p3.good
  obtain ⟨c1, he⟩ | ⟨_, he⟩ := of_ite_eq he
  · obtain ⟨_, he⟩ | ⟨_, he⟩ := of_ite_eq he
    · cases he; exact h41.prog c1
    · cases he
  · obtain ⟨c2, he⟩ | ⟨_, he⟩ := of_ite_eq he
    · have hlt := Nat.lt_of_le_of_lt p3.mono (h44.prog c2)
      have hl := basicLoop_lok hd gcp f ip vs h44.good (Nat.le_trans hcp (Nat.le_of_lt hlt))
        (Parser.fuel_step_good hf hlt h44.good)
      rw [he] at hl
      exact Nat.lt_of_lt_of_le (h44.prog c2) (hl.okmono vals rfl)
    · cases he

theorem parseComplexInsertValues_ok {s t : Sc} {srcs : List Acc}
    (h : parseComplexInsertValues E s = (t, .ok srcs)) :
    parseList E (parseInputMemberAccessor E) s = (t, .ok srcs) := by
  unfold parseComplexInsertValues at h
  split at h
  · cases h
  · next heq => cases h; exact heq
  · split at h <;> cases h

theorem parseComplexInsertValues_no_first {c u : Sc}
    (hno : parseComplexInsertValues E c = (u, .no)) (c1 : (skipChar E 40 c).2 = true) :
    ∃ s2, parseInputMemberAccessor E (skipBlanks E (skipChar E 40 c).1) = (s2, .no) := by
  unfold parseComplexInsertValues at hno
  rcases hpl : parseList E (parseInputMemberAccessor E) c with ⟨s1, res⟩
  rw [hpl] at hno
  cases res with
  | err e => cases hno
  | ok x => cases hno
  | no =>
    rw [parseList_of_paren c1, listLoop] at hpl
    simp only [] at hpl
    rcases hacc : parseInputMemberAccessor E (skipBlanks E (skipChar E 40 c).1) with ⟨s2, res2⟩
    rw [hacc] at hpl
    cases res2 with
    | err e => cases hpl
    | no => exact ⟨s2, rfl⟩
    | ok x =>
      simp only [] at hpl
      split at hpl
      · cases hpl
      · split at hpl
        · exact (listLoop_false_ne_no _ _ _ _ _ _ hpl).elim
        · cases hpl

theorem insertBasic_inv {cp colcp t : Sc} {cols : List Col} {seg : Seg}
    (h : insertBasic E cp cols colcp = (t, .ok seg)) :
    ∃ vals, parseBasicInsertValues E colcp = (t, .ok vals) ∧
      seg = { kind := .basicInsert, a := cp.pos, b := t.pos, cols := cols, vals := vals } := by
  unfold insertBasic at h
  split at h
  · cases h
  · next heq => cases h; exact ⟨_, heq, rfl⟩
  · cases h

theorem insertTail_inv {cp colcp t : Sc} {cols : List Col} {seg : Seg}
    (h : insertTail E cp cols colcp = (t, .ok seg)) :
    (∃ srcs, parseComplexInsertValues E colcp = (t, .ok srcs) ∧ (starCountTypes srcs != 0) = true ∧
      seg = { kind := .colInsert, a := cp.pos, b := t.pos, cols := cols, types := srcs }) ∨
    ∃ vals, parseBasicInsertValues E colcp = (t, .ok vals) ∧
      seg = { kind := .basicInsert, a := cp.pos, b := t.pos, cols := cols, vals := vals } := by
  unfold insertTail at h
  rcases hcv : parseComplexInsertValues E colcp with ⟨s2, res⟩
  rw [hcv] at h
  cases res with
  | ok srcs =>
    simp only [] at h
    by_cases hst : (starCountTypes srcs != 0) = true
    · rw [if_pos hst] at h
      cases h
      exact .inl ⟨srcs, rfl, hst, rfl⟩
    · rw [if_neg hst] at h
      exact .inr (insertBasic_inv h)
  | err e => exact .inr (insertBasic_inv h)
  | no => exact .inr (insertBasic_inv h)

theorem basicLoop_star {cp st s2 : Sc} {f : Nat} {ip : Bool} {vs : List Val} {x : Acc}
    (h1 : parseInputMemberAccessor E (skipBlanks E st) = (s2, .ok x))
    (hx : (x.member == star) = true) :
    basicLoop E cp (f + 1) ip vs st = (s2, .err (errAt (skipBlanks E st) .starInBasic)) := by
  rw [basicLoop_succ, basicItem]
  simp only [h1, hx, if_true]

theorem basicLoop_next {cp st s2 : Sc} {f : Nat} {ip : Bool} {vs : List Val} {x : Acc}
    (h1 : parseInputMemberAccessor E (skipBlanks E st) = (s2, .ok x))
    (hx : ¬ (x.member == star) = true)
    (h41 : ¬ (skipChar E 41 (skipBlanks E s2)).2 = true)
    (h44 : (skipChar E 44 (skipBlanks E s2)).2 = true) :
    basicLoop E cp (f + 1) ip vs st =
      basicLoop E cp f true (vs ++ [.acc x]) (skipChar E 44 (skipBlanks E s2)).1 := by
  have hx' : (x.member == star) = false := by simpa using hx
  have h41' : (skipChar E 41 (skipBlanks E s2)).2 = false := by simpa using h41
  rw [basicLoop_succ, basicItem]
  simp only [h1, hx', Bool.false_eq_true, if_false]
  rw [basicTail]
  simp only [h41', h44, if_true, Bool.false_eq_true, if_false]

/-- The list loop over member accessors and `basicLoop` walk the same items.  If the list loop
    succeeds and one of its items is `T.*`, `basicLoop` fails with an error: this is why an
    extracted text whose basic values succeed cannot turn into a `colInsert`. -/
theorem listLoop_basicLoop_lockstep (cp cp' : Sc) (f : Nat) :
    ∀ (first : Bool) (acc : List Acc) (st t : Sc) (srcs : List Acc),
      listLoop E (parseInputMemberAccessor E) cp f first acc st = (t, .ok srcs) →
      ∃ rest, srcs = acc ++ rest ∧
        ((∃ x, x ∈ rest ∧ (x.member == star) = true) →
          ∀ (ip : Bool) (vs : List Val), ∃ t2 e, basicLoop E cp' f ip vs st = (t2, .err e)) := by
  induction f with
  | zero =>
    intro first acc st t srcs h
    unfold listLoop at h
    cases h
  | succ f ih =>
    intro first acc st t srcs h
    unfold listLoop at h
    simp only [] at h
    split at h
    · next s2 x heq =>
      obtain ⟨_, h⟩ | ⟨h41, h⟩ := of_ite_eq h
      · cases h
        refine ⟨[x], rfl, fun ⟨y, hy, hys⟩ ip vs => ?_⟩
        rw [List.mem_singleton.mp hy] at hys
        exact ⟨_, _, basicLoop_star heq hys⟩
      obtain ⟨h44, h⟩ | ⟨_, h⟩ := of_ite_eq h
      · obtain ⟨rest, hrest, hstar⟩ := ih false (acc ++ [x]) _ t srcs h
        refine ⟨x :: rest, by rw [hrest, List.append_assoc]; rfl, fun ⟨y, hy, hys⟩ ip vs => ?_⟩
        -- a star at `x` makes the basic loop fail at once; otherwise it goes on in step
        by_cases hx : (x.member == star) = true
        · exact ⟨_, _, basicLoop_star heq hx⟩
        · rw [basicLoop_next heq hx h41 h44]
          refine hstar ⟨y, ?_, hys⟩ true _
          rcases List.mem_cons.mp hy with hy | hy
          · rw [hy] at hys; exact absurd hys hx
          · exact hy
      · cases h
    · cases h
    · split at h <;> cases h

theorem parseBasicInsertValues_err_of_star {s t : Sc} {srcs : List Acc}
    (h : parseComplexInsertValues E s = (t, .ok srcs)) (hstar : starCountTypes srcs ≠ 0) :
    ∃ t2 e, parseBasicInsertValues E s = (t2, .err e) := by
  obtain ⟨hr, hl⟩ := parseList_ok (parseComplexInsertValues_ok h)
  obtain ⟨rest, hrest, hb⟩ := listLoop_basicLoop_lockstep s s (E.len + 1) true [] _ t srcs hl
  rw [List.nil_append] at hrest
  subst hrest
  obtain ⟨x, hx⟩ := List.exists_mem_of_length_pos (Nat.pos_of_ne_zero hstar)
  rw [List.mem_filter] at hx
  obtain ⟨t2, e, he⟩ := hb ⟨x, hx⟩ false []
  refine ⟨t2, e, ?_⟩
  unfold parseBasicInsertValues
  simp only [hr, Bool.not_true, Bool.false_eq_true, if_false]
  exact he

theorem insertBasic_ok {cp colcp s3 : Sc} {cols : List Col} {vals : List Val}
    (hb : parseBasicInsertValues E colcp = (s3, .ok vals)) :
    insertBasic E cp cols colcp =
      (s3, .ok { kind := .basicInsert, a := cp.pos, b := s3.pos, cols := cols, vals := vals }) := by
  unfold insertBasic
  rw [hb]

theorem insertTail_basic {cp colcp s3 : Sc} {cols : List Col} {vals : List Val}
    (hb : parseBasicInsertValues E colcp = (s3, .ok vals)) :
    insertTail E cp cols colcp =
      (s3, .ok { kind := .basicInsert, a := cp.pos, b := s3.pos, cols := cols, vals := vals }) := by
  have basic := insertBasic_ok (cp := cp) (cols := cols) hb
  unfold insertTail
  rcases hcv : parseComplexInsertValues E colcp with ⟨s2, res⟩
  cases res with
  | ok srcs =>
    have hst : (starCountTypes srcs != 0) = false := Bool.eq_false_iff.mpr fun h => by
      obtain ⟨t2, e, herr⟩ := parseBasicInsertValues_err_of_star hcv (by simpa using h)
      rw [hb] at herr; cases herr
    simp only [hst, Bool.false_eq_true, if_false, basic]
  | err e => exact basic
  | no => exact basic

/-! The expression forms are disjoint on every input: a slice or member expression starts with `$`,
    an insert expression with `(` (`parseInsertExpr_ok_char` in `Exact/Single.lean`: it needs that
    `(` is no name character), and in a member expression `.` follows the type name where a slice
    expression has `[`.  So where a text is parsed again on its own (`Exact/*`) only the form that
    succeeded on the whole input needs to be followed. -/

theorem parseSliceInputExpr_ok_char {s t : Sc} {seg : Seg} (h : parseSliceInputExpr E s = (t, .ok seg)) :
    s.char = 36 := by
  unfold parseSliceInputExpr at h
  obtain ⟨_, h⟩ | ⟨hr, _⟩ := of_ite_not h
  · cases h
  · exact (skipChar_true hr).2.1

theorem parseMemberInputExpr_ok_char {s t : Sc} {seg : Seg} (h : parseMemberInputExpr E s = (t, .ok seg)) :
    s.char = 36 := by
  unfold parseMemberInputExpr at h
  split at h
  · cases h
  · cases h
  · next heq => exact (skipChar_true (parseInputMemberAccessor_ok heq).1).2.1

theorem parseInputExpr_ok_cases (hd : DecOK E) {s t : Sc} {seg : Seg} (g : Good E s)
    (h : parseInputExpr E s = (t, .ok seg)) :
    parseSliceInputExpr E s = (t, .ok seg) ∨
    (parseSliceInputExpr E s = (s, .no) ∧ parseMemberInputExpr E s = (t, .ok seg)) ∨
    (parseSliceInputExpr E s = (s, .no) ∧ parseMemberInputExpr E s = (s, .no) ∧
      parseInsertExpr E s = (t, .ok seg)) := by
  unfold parseInputExpr at h
  split at h
  · cases h
  · next heq => cases h; exact .inl heq
  · next s1 heq =>
    obtain rfl : s1 = s := (parseSliceInputExpr_eok hd g).elim_no heq
    split at h
    · cases h
    · next heq2 => cases h; exact .inr (.inl ⟨heq, heq2⟩)
    · next s2 heq2 =>
      obtain rfl : s2 = s1 := (parseMemberInputExpr_eok hd g).elim_no heq2
      exact .inr (.inr ⟨heq, heq2, h⟩)

theorem parseSliceInputExpr_no_of_member {s t : Sc} {seg : Seg}
    (h : parseMemberInputExpr E s = (t, .ok seg)) : parseSliceInputExpr E s = (s, .no) := by
  unfold parseMemberInputExpr at h
  rcases hma : parseInputMemberAccessor E s with ⟨s1, res⟩
  rw [hma] at h
  cases res with
  | err e => cases h
  | no => cases h
  | ok ma =>
    obtain ⟨c1, hma⟩ := parseInputMemberAccessor_ok hma
    unfold parseTypeAndMember at hma
    simp only [] at hma
    rcases hptn : parseTypeName E (skipChar E 36 s).1 with ⟨u, o⟩
    rw [hptn] at hma
    cases o with
    | none => cases hma
    | some id =>
      simp only [] at hma
      obtain ⟨_, hma⟩ | ⟨c2, _⟩ := of_ite_not hma
      · cases hma
      have h91 : skipChar E 91 u = (u, false) :=
        skipChar_of_ne (by rw [(skipChar_true c2).2.1]; decide)
      unfold parseSliceInputExpr parseSliceAccessor
      simp only [c1, hptn, h91, Bool.not_true, Bool.not_false, Bool.false_eq_true, if_false, if_true]

theorem parseSliceInputExpr_no_of_char {s : Sc} (h : s.char ≠ 36) :
    parseSliceInputExpr E s = (s, .no) := by
  unfold parseSliceInputExpr
  simp only [skipChar_of_ne h, Bool.not_false, if_true]

theorem parseMemberInputExpr_no_of_char {s : Sc} (h : s.char ≠ 36) :
    parseMemberInputExpr E s = (s, .no) := by
  unfold parseMemberInputExpr
  rw [parseInputMemberAccessor_of_ne h]

end
end Sqlair
