/-
  Property C02, main loop: every attempt to parse an expression starts at a code offset of
  the reference lexer, every parsed expression ends at one, and a successful parse has
  walked the whole input along code offsets: the simulation walk of `Sim/Exprs.lean` at `lc_sim`.
-/
import SqlairProofs.Parser.LexScan
import SqlairProofs.Sim.Exprs

namespace Sqlair

section
variable {E : Env} {s : Sc}

theorem parseOutputExpr_lc (h : DecOK E) (ha : AsciiDec E) (hc : ClassAscii E) (l : LC E s) :
    LC E (parseOutputExpr E s).1 := (sim_parseOutputExpr (lc_sim h ha hc) l).1

theorem parseInputExpr_lc (h : DecOK E) (ha : AsciiDec E) (hc : ClassAscii E) (l : LC E s) :
    LC E (parseInputExpr E s).1 := (sim_parseInputExpr (lc_sim h ha hc) l).1

theorem advanceToNextExpression_lc (h : DecOK E) (ha : AsciiDec E) (hc : ClassAscii E) (l : LC E s) :
    LC E (advanceToNextExpression E s).1 :=
  (sim_advanceToNextExpression (lc_sim h ha hc) l (.inl rfl)).1

def SegsOK (E : Env) (l : List Seg) : Prop :=
  ∀ seg, seg ∈ l → seg.kind = .bypass ∨ (LexCode E seg.a ∧ LexCode E seg.b)

theorem add_segsOK {st : PS} (hs : SegsOK E st.exprs) (e : Option Seg)
    (he : ∀ x, e = some x → LexCode E x.a ∧ LexCode E x.b) : SegsOK E (st.add e).exprs :=
  PS.add_forall hs (fun _ _ => .inl rfl) e fun x hx => .inr (he x hx)

theorem add_segsOK_some {st : PS} (hs : SegsOK E st.exprs) {x : Seg} (ha : LexCode E x.a)
    (hb : LexCode E x.b) : SegsOK E (st.add (some x)).exprs :=
  add_segsOK hs _ (fun _ hx => Option.some.inj hx ▸ ⟨ha, hb⟩)

theorem LoopMove.lex (h : DecOK E) (ha : AsciiDec E) (hc : ClassAscii E) {st st1 : PS}
    (l : LC E st.sc) (hs : SegsOK E st.exprs) (m : LoopMove E st st1) :
    LC E st1.sc ∧ SegsOK E st1.exprs := by
  have la := advanceToNextExpression_lc h ha hc l
  cases m with
  | @node sc1 t x r =>
    have l1 : LC E sc1 := la.of_eq r.adv
    have lt : LC E t := r.run.elim (fun ho => (parseOutputExpr_lc h ha hc l1).of_eq ho)
      fun hi => (parseInputExpr_lc h ha hc l1).of_eq hi.2
    exact ⟨lt, add_segsOK_some (st := { st with sc := t, currentExprStart := sc1.pos }) hs
      (r.a ▸ l1.code) (r.b ▸ lt.code)⟩
  | @skip sc1 hadv _ hp =>
    have l1 : LC E sc1 := la.of_eq hadv
    exact ⟨(sim_adv_stop (lc_sim h ha hc) l1 (advanceToNextExpression_stop hc.classSep hadv) hp).1, hs⟩

theorem parse_lex (h : DecOK E) (ha : AsciiDec E) (hc : ClassAscii E) {segs : List Seg}
    (hp : parse E = .ok segs) : LexCode E E.len ∧ SegsOK E segs := by
  unfold parse at hp
  have hl := parse_loopEnds h (P := fun st => LC E st.sc ∧ SegsOK E st.exprs)
    (fun _ _ _ hP m => m.lex h ha hc hP.1 hP.2) ⟨initSc_lc, by intro _ hm; cases hm⟩
  split at hp
  · cases hp
  · next st heq =>
    cases hp
    rw [heq] at hl
    obtain ⟨st0, sc1, ⟨l0, hs0⟩, _, hadv, hlen, rfl⟩ := hl
    have l1 : LC E sc1 := (advanceToNextExpression_lc h ha hc l0).of_eq hadv
    exact ⟨hlen ▸ l1.code, add_segsOK (st := { st0 with sc := sc1, currentExprStart := sc1.pos }) hs0 none
      (fun x hx => by cases hx)⟩

end
end Sqlair
