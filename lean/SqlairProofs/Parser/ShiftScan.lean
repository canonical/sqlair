/-
  Translation invariance, scanner level: `advanceChar`, `skipString`, `skipComment` and
  `skipStringLiteral` commute with the shift of states `Sc.sh k`; together they are the instance
  `shift_sim` of the interface `Sim`, from which every other parse function follows
  (`Sim/*.lean`).  A loop is run with fuel `f` on `E` and with `f + k` on `shiftEnv k E` (which is
  `k` bytes longer): unless the first runs out of fuel, the second gives its image (`ShTo`).
-/
import SqlairProofs.Parser.ShiftDefs
import SqlairProofs.Sim.Defs

namespace Sqlair

section
variable {E : Env} {k : Nat}

/-- `P` fails on the out-of-fuel value of the loop: so this says at once that the loop commutes with
    the shift and that fuel beyond what it needs changes nothing.  It is `SimLoop` / `SimF` of `Sim/Defs.lean` without the invariant `I`,
    for the loops inside literals and comments, which the walk of `Sim/*.lean` does not enter. -/
def ShTo {β : Type} (P : β → Prop) (g : β → β) (x x' : β) : Prop := P x → x' = g x

theorem ShTo.refl {β : Type} {P : β → Prop} {g : β → β} {x : β} : ShTo P g x (g x) := fun _ => rfl

theorem ShTo.ite {β : Type} {P : β → Prop} {g : β → β} {c : Prop} [i : Decidable c] [i' : Decidable c]
    {a b a' b' : β} (ha : c → ShTo P g a a') (hb : ¬ c → ShTo P g b b') :
    ShTo P g (@ite _ c i a b) (@ite _ c i' a' b') :=
  @ite_rel _ _ (ShTo P g) _ _ i i' Iff.rfl _ _ _ _ ha hb

theorem ite_sh {β : Type} (g : β → β) {c : Prop} [i : Decidable c] [i' : Decidable c] {a b a' b' : β}
    (ha : c → a' = g a) (hb : ¬ c → b' = g b) : @ite _ c i' a' b' = g (@ite _ c i a b) :=
  ShTo.ite (P := fun _ => True) (i := i) (i' := i') (fun hc _ => ha hc) (fun hc _ => hb hc) trivial

theorem advanceChar_shift (hl : DecLocal E) (s : Sc) :
    advanceChar (shiftEnv k E) (s.sh k) = (advanceChar E s).sh k := by
  simp only [advanceChar_eq, Sc.sh, shiftEnv_len, Nat.add_lt_add_iff_right, ge_iff_le,
    Nat.add_le_add_iff_right, apply_ite (· + k), Nat.add_right_comm _ k]
  by_cases hn : E.len ≤ s.nextPos
  · simp only [hn, if_true]
  · simp only [hn, if_false, hl.dec_ge (Nat.lt_of_not_le hn)]

theorem peekChar_shift (c : Nat) (s : Sc) : peekChar (shiftEnv k E) c (s.sh k) = peekChar E c s := by
  unfold peekChar
  simp

theorem skipChar_shift (hl : DecLocal E) (c : Nat) (s : Sc) :
    skipChar (shiftEnv k E) c (s.sh k) = shB k (skipChar E c s) := by
  unfold skipChar
  simp only [shiftEnv_len, Sc.sh_pos, Sc.sh_char, Nat.add_lt_add_iff_right, advanceChar_shift hl]
  split <;> rfl

theorem skipString_shift (hl : DecLocal E) (kw : List Nat) (s : Sc) :
    skipString (shiftEnv k E) kw (s.sh k) = shB k (skipString E kw s) := by
  unfold skipString
  simp only [shiftEnv_len, Sc.sh_pos, Nat.add_right_comm _ k, Nat.add_lt_add_iff_right,
    Nat.add_le_add_iff_right, shiftEnv_inp, shift_foldEqAt]
  refine ite_sh (shB k) (fun _ => ?_) fun _ => rfl
  rw [← shiftEnv_inp, ite_congr rfl (fun hp => hl.dec_ge hp) fun _ => rfl]
  simp only [shB_mk, Sc.sh]

theorem skipCharFindLoop_shift (hl : DecLocal E) (c f : Nat) (s : Sc) :
    ShTo (·.isSome) (Option.map (Option.map (Sc.sh k))) (skipCharFindLoop E c f s)
      (skipCharFindLoop (shiftEnv k E) c (f + k) (s.sh k)) := by
  induction f generalizing s with
  | zero => intro hs; cases hs
  | succ f ih =>
    rw [Nat.add_right_comm]
    unfold skipCharFindLoop
    simp only [shiftEnv_len, Sc.sh_pos, Sc.sh_char, Nat.add_lt_add_iff_right, advanceChar_shift hl]
    exact .ite (fun _ => .ite (fun _ => .refl) fun _ => ih _) fun _ => .refl

theorem skipCharFind_shift (h : DecOK E) (hl : DecLocal E) (c : Nat) {s : Sc} (g : Good E s) :
    skipCharFind (shiftEnv k E) c (s.sh k) = shB k (skipCharFind E c s) := by
  unfold skipCharFind
  rw [shiftEnv_len, Nat.add_right_comm, skipCharFindLoop_shift hl c _ s (skipCharFindLoop_isSome h c g)]
  rcases skipCharFindLoop E c (E.len + 1) s with _ | _ | s' <;> rfl

theorem commentLoop_shift (hl : DecLocal E) (endc f : Nat) (s : Sc) :
    ShTo (·.isSome) (Option.map (Sc.sh k)) (commentLoop E endc f s)
      (commentLoop (shiftEnv k E) endc (f + k) (s.sh k)) := by
  induction f generalizing s with
  | zero => intro hs; cases hs
  | succ f ih =>
    rw [Nat.add_right_comm]
    unfold commentLoop
    simp only [shiftEnv_len, Sc.sh_pos, Sc.sh_char, Nat.add_lt_add_iff_right, advanceChar_shift hl,
      skipChar_shift hl, shB_fst, shB_snd]
    refine .ite (fun _ => .ite (fun _ => .ite (fun _ => ?_) fun _ => .refl) fun _ => ih _) fun _ => .refl
    exact .ite (fun _ => .refl) fun _ => ih _

theorem skipComment_shift (h : DecOK E) (hl : DecLocal E) {s : Sc} (g : Good E s) :
    skipComment (shiftEnv k E) (s.sh k) = shB k (skipComment E s) := by
  unfold skipComment
  extract_lets c' a' r1' r2' c a r1 r2
  have hr1 : r1' = shB k r1 := by
    unfold r1' r1 a' a
    rw [skipChar_shift hl, skipChar_shift hl, shB_snd]
    exact (apply_ite (shB k) ..).symm
  have hr2 : r2' = shB k r2 := by
    unfold r2' r2
    rw [hr1, shB_fst, skipChar_shift hl, skipChar_shift hl, apply_ite (shB k), apply_ite (shB k)]
    rfl
  have g1 : Good E r1.1 := by
    unfold r1; split <;> exact (skipChar_bok h _ g).good
  have g2 : Good E r2.1 := by
    unfold r2; split
    · exact (skipChar_bok h 45 g1).good
    · split
      · exact (skipChar_bok h 42 g1).good
      · exact g1
  have hc : c' = c := rfl
  clear_value c' r1' r2' r1 r2
  subst hc hr1 hr2
  rw [shB_snd, shB_snd, shB_fst, shiftEnv_len, Nat.add_right_comm,
    commentLoop_shift hl _ _ _ (commentLoop_isSome h _ g2)]
  refine ite_sh (shB k) (fun _ => ite_sh (shB k) (fun _ => ?_) fun _ => rfl) fun _ => rfl
  cases commentLoop E (if c = 45 then 10 else 42) (E.len + 1) r2.1 <;> rfl

theorem strLitLoop_shift (h : DecOK E) (hl : DecLocal E) (c f : Nat) (b : Bool) {s : Sc}
    (g : Good E s) :
    ShTo (·.isSome) (Option.map (Option.map (Sc.sh k))) (strLitLoop E c f b s)
      (strLitLoop (shiftEnv k E) c (f + k) b (s.sh k)) := by
  induction f generalizing s b with
  | zero => intro hs; cases hs
  | succ f ih =>
    rw [Nat.add_right_comm]
    unfold strLitLoop
    simp only [skipCharFind_shift h hl c g, shB_snd, shB_fst, peekChar_shift]
    exact .ite (fun _ => .ite (fun _ => .refl) fun _ => ih _ (skipCharFind_bok h c g).good) fun _ => .refl

theorem skipStringLiteral_shift (h : DecOK E) (hl : DecLocal E) {s : Sc} (g : Good E s) :
    skipStringLiteral (shiftEnv k E) (s.sh k) = shR k id (skipStringLiteral E s) := by
  unfold skipStringLiteral
  extract_lets c' a' r' c a r
  have hr : r' = shB k r := by
    unfold r' r a' a
    rw [skipChar_shift hl, skipChar_shift hl, shB_snd]
    exact (apply_ite (shB k) ..).symm
  have g1 : Good E r.1 := by
    unfold r; split <;> exact (skipChar_bok h _ g).good
  have hc : c' = c := rfl
  clear_value c' r' r
  subst hc hr
  rw [shB_snd, shB_fst, shiftEnv_len, Nat.add_right_comm,
    strLitLoop_shift h hl _ _ _ g1 (strLitLoop_isSome h _ _ g1)]
  refine ite_sh (shR k id) (fun _ => ?_) fun _ => rfl
  rcases strLitLoop E c (E.len + 1) true r.1 with _ | _ | s'
  · simp only [Option.map_none, shR_mk, Res.sh_err, errAt_sh]
  · simp only [Option.map_some, Option.map_none, shR_mk, Res.sh_err, errAt_sh]
  · rfl

theorem shift_sim (h : DecOK E) (hl : DecLocal E) : Sim E (shiftEnv k E) k (Good E) Eq where
  dec := h
  len := shiftEnv_len k E
  letter := rfl
  digit := rfl
  good := id
  adv_code := fun g _ _ => ⟨advanceChar_good h g, advanceChar_shift hl _⟩
  adv_name := fun g _ => ⟨advanceChar_good h g, advanceChar_shift hl _⟩
  skipString := fun hkw g =>
    ⟨by rcases hkw with rfl | rfl
        · exact (skipString_AS_bok g).good
        · exact (skipString_VALUES_bok g).good,
      skipString_shift hl _ _⟩
  skipComment := fun g => ⟨(skipComment_bok h g).good, skipComment_shift h hl g⟩
  skipStringLiteral := fun g => ⟨(skipStringLiteral_xok h g).good, skipStringLiteral_shift h hl g⟩
  extract := fun _ _ => (shift_extract k E.inp _ _).symm
  refl := fun _ => rfl
  star := fun e => e ▸ Iff.rfl

end
end Sqlair
