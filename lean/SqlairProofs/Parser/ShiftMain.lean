/-
  Translation invariance, main loop.

  * the preamble: on the shifted input the first call of `advanceToNextExpression` passes the
    `k` newlines in front and lands in the shifted counterpart of the state the base run reaches
    with its first call (this is where the only position-absolute test of the parser, the
    name at offset 0, is dealt with);
  * the main loop: from then on both runs proceed in lockstep (`sim_parseLoop` at `shift_sim`);
  * the nodes: all spans move by `k`, except that the shifted run has the `k` newlines in
    its first bypass node.
-/
import SqlairProofs.Parser.ShiftScan
import SqlairProofs.Sim.Exprs

namespace Sqlair

section
variable {E : Env} {k : Nat}

theorem toOSeg_sh (k : Nat) (E : Env) (x : Seg) :
    (x.sh k).toOSeg (shiftEnv k E).inp = x.toOSeg E.inp := by
  unfold Seg.toOSeg Seg.sh
  simp only [shiftEnv_inp, shift_extract]

/-- the state of the shifted run on the newline at offset `j < k` -/
def nlState (j : Nat) : Sc :=
  { pos := j, nextPos := j + 1, char := 10, lineNum := j + 1, lineStart := j }

theorem advanceChar_zero_sh (hl : DecLocal E) {j : Nat} (hj : j < k) :
    advanceChar (shiftEnv k E) (Sc.zero.sh j) = nlState j := by
  have h2 : ¬ (E.len + k ≤ j) := by omega
  simp only [advanceChar_eq, Sc.zero, Sc.sh, nlState, shiftEnv_len, h2, hl.dec_lt hj, if_false,
    Nat.zero_add, Nat.add_comm 1 j, Nat.reduceEqDiff, false_and]

theorem advanceChar_nlState {j : Nat} (hj : j < k) :
    advanceChar (shiftEnv k E) (nlState j) = advanceChar (shiftEnv k E) (Sc.zero.sh (j + 1)) := by
  have h1 : j < E.len + k := by omega
  simp only [advanceChar_eq, Sc.zero, Sc.sh, nlState, shiftEnv_len, h1, and_self, if_true,
    Nat.zero_add, Nat.add_comm 1 (j + 1), Nat.reduceEqDiff, false_and, if_false]

theorem advFrom_nl (f : Nat) {s : Sc} (hp : s.pos < E.len) (hc : s.char = 10) :
    advFrom E (f + 1) s =
      if (advanceChar E s).pos ≥ E.len then (advanceChar E s, none)
      else if isNameChar E (advanceChar E s).char = true then (skipBlanks E (advanceChar E s), none)
      else advFrom E f (advanceChar E s) := by
  rw [advFrom, advLoop, if_pos hp, skipStringLiteral_of_not (by omega)]
  simp only [skipComment_of_not (E := E) (s := s) (by omega) (by omega), hc, Bool.false_eq_true, if_false,
    show isExprTrigger 10 = false from rfl, show isBlankLikeTrigger 10 = true from rfl, if_true]
  by_cases h1 : (advanceChar E s).pos ≥ E.len
  · rw [if_pos h1, if_pos h1]
  rw [if_neg h1, if_neg h1]
  by_cases h2 : isNameChar E (advanceChar E s).char = true
  · rw [if_pos h2, if_pos h2]
  · rw [if_neg h2, if_neg h2]; rfl

theorem advFrom_newlines (hl : DecLocal E) (hsep : ClassSep E) (f d j : Nat) (hjd : j + d < k) :
    advFrom (shiftEnv k E) (f + d + 1) (nlState j) = advFrom (shiftEnv k E) (f + 1) (nlState (j + d)) := by
  induction d generalizing j with
  | zero => rfl
  | succ d ih =>
    have hj : j + 1 < k := by omega
    have hp : (nlState j).pos < (shiftEnv k E).len := by
      rw [shiftEnv_len]; exact Nat.lt_add_left _ (Nat.lt_of_succ_lt hj)
    have hge : ¬ (nlState (j + 1)).pos ≥ E.len + k := Nat.not_le.mpr (Nat.lt_add_left _ hj)
    have hnl : isNameChar E (nlState (j + 1)).char = false := hsep.not_nameChar (.inr (.inl rfl))
    rw [← Nat.add_assoc, advFrom_nl _ hp rfl, advanceChar_nlState (Nat.lt_of_succ_lt hj),
      advanceChar_zero_sh hl hj, shiftEnv_len, if_neg hge, shiftEnv_isNameChar, hnl,
      if_neg Bool.false_ne_true, ih (j + 1) (by omega), Nat.add_right_comm]
    rfl

theorem preamble_shift (h : DecOK E) (hl : DecLocal E) (hsep : ClassSep E) (hk : 0 < k) :
    SimA (Good E) k Eq (advanceToNextExpression E (initSc E))
      (advanceToNextExpression (shiftEnv k E) (initSc (shiftEnv k E))) := by
  obtain ⟨g0, hp0⟩ := initSc_good (E := E)
  obtain ⟨m, rfl⟩ : ∃ m, k = m + 1 := ⟨k - 1, (Nat.sub_add_cancel hk).symm⟩
  have hm := Nat.lt_succ_self m
  have hnl : isNameChar E (nlState 0).char = false := hsep.not_nameChar (.inr (.inl rfl))
  -- the shifted run starts on the first of the `k` newlines
  have hinit : initSc (shiftEnv (m + 1) E) = nlState 0 := by
    rw [initSc, ← Sc.sh_zero Sc.zero, advanceChar_zero_sh hl hk]
  -- `m` rounds take it to the last of them, one more to the shifted first state of the base run:
  -- what is left is the base run's first call without its test at offset 0
  have hrounds : advFrom (shiftEnv (m + 1) E) ((shiftEnv (m + 1) E).len + 1) (nlState 0) =
      if (initSc E).pos + (m + 1) ≥ E.len + (m + 1) then ((initSc E).sh (m + 1), none)
      else if isNameChar E (initSc E).char = true then ((skipBlanks E (initSc E)).sh (m + 1), none)
      else advFrom (shiftEnv (m + 1) E) (E.len + 1) ((initSc E).sh (m + 1)) := by
    rw [shiftEnv_len, show E.len + (m + 1) + 1 = E.len + 1 + m + 1 by omega,
      advFrom_newlines hl hsep (E.len + 1) m 0 (by rw [Nat.zero_add]; exact hm), Nat.zero_add,
      advFrom_nl _ (by rw [shiftEnv_len]; exact Nat.lt_add_left _ hm) rfl,
      advanceChar_nlState hm, advanceChar_shift hl, ← initSc,
      shiftEnv_len, Sc.sh_pos, Sc.sh_char, shiftEnv_isNameChar,
      (sim_skipBlanks (shift_sim h hl) g0).2]
  rw [hinit, advanceToNextExpression_eq (E := shiftEnv (m + 1) E),
    if_neg (fun hc => by rw [shiftEnv_isNameChar, hnl] at hc; cases hc.2.2), hrounds,
    advanceToNextExpression_eq]
  by_cases hE : E.len = 0
  · have hno : ¬ (initSc E).pos < E.len := by omega
    rw [if_neg (fun hc => by omega), if_pos (by omega), advFrom_eof _ hno]
    exact ⟨g0, rfl, .none⟩
  · rw [if_neg (show ¬ _ ≥ _ by omega)]
    by_cases hn : isNameChar E (initSc E).char = true
    · rw [if_pos ⟨by omega, hp0, hn⟩, if_pos hn, skipBlanks_nameChar hsep hn]
      exact ⟨g0, rfl, .none⟩
    · rw [if_neg (fun hc => hn hc.2.2), if_neg hn]
      exact sim_advFrom (shift_sim h hl) (E.len + 1) (j := 0) g0 (by omega)

/-- `fresh`: the `k` newlines in front form a first bypass node of their own (the base run starts
    with an expression, or has no node at all); `merged`: they are added to the first bypass node
    of the base run. -/
inductive SegsShift (k : Nat) : List Seg → List Seg → Prop where
  | fresh (l : List Seg) :
      SegsShift k l ({ kind := .bypass, a := 0, b := k } :: l.map (Seg.sh k))
  | merged (b : Nat) (rest : List Seg) :
      SegsShift k ({ kind := .bypass, a := 0, b := b } :: rest)
        ({ kind := .bypass, a := 0, b := b + k } :: rest.map (Seg.sh k))

theorem SegsShift.snoc {l l' : List Seg} (hs : SegsShift k l l') (y : Seg) :
    SegsShift k (l ++ [y]) (l' ++ [y.sh k]) := by
  cases hs with
  | fresh l =>
    have := SegsShift.fresh (k := k) (l ++ [y])
    rwa [List.map_append] at this
  | merged b rest =>
    have := SegsShift.merged (k := k) b (rest ++ [y])
    rwa [List.map_append] at this

theorem SegsShift.snoc_opt {l l' : List Seg} (hs : SegsShift k l l') (e : Option Seg) :
    SegsShift k (l ++ e.toList) (l' ++ (e.map (Seg.sh k)).toList) := by
  cases e with
  | none => rw [Option.map, Option.toList, List.append_nil, List.append_nil]; exact hs
  | some y => exact hs.snoc y

def ShiftNodes (k : Nat) (st st' : PS) : Prop :=
  (st.exprs = [] ∧ st'.exprs = [] ∧ st.prevExprEnd = 0 ∧ st'.prevExprEnd = 0) ∨
  (SegsShift k st.exprs st'.exprs ∧ st'.prevExprEnd = st.prevExprEnd + k)

theorem add_segsShift (hk : 0 < k) {st st' : PS} (hn : ShiftNodes k st st')
    (hcur : st'.currentExprStart = st.currentExprStart + k) (e : Option Seg) :
    SegsShift k (st.add e).exprs (st'.add (e.map (Seg.sh k))).exprs := by
  rw [PS.add_exprs, PS.add_exprs]
  apply SegsShift.snoc_opt
  rcases hn with ⟨h1, h2, h3, h4⟩ | ⟨hs, hp⟩
  · have hne : 0 ≠ st.currentExprStart + k := by omega
    rw [h1, h2, h3, h4, hcur, if_pos hne]
    by_cases hc : 0 = st.currentExprStart
    · rw [if_neg (fun hx : 0 ≠ st.currentExprStart => hx hc), ← hc, Nat.zero_add]
      exact SegsShift.fresh []
    · rw [if_pos hc]
      exact SegsShift.merged _ []
  · rw [hp, hcur]
    simp only [ne_eq, Nat.add_right_cancel_iff]
    split
    · exact hs.snoc _
    · rw [List.append_nil, List.append_nil]; exact hs

def PRel (k : Nat) : Except PErr (List Seg) → Except PErr (List Seg) → Prop
  | .ok segs, .ok segs' => SegsShift k segs segs'
  | .error e, .error e' => e' = e.sh k
  | _, _ => False

theorem PRel.of_ok {segs : List Seg} {y : Except PErr (List Seg)} (h : PRel k (.ok segs) y) :
    ∃ segs', y = .ok segs' ∧ SegsShift k segs segs' := by
  cases y with
  | ok segs' => exact ⟨segs', rfl, h⟩
  | error _ => exact h.elim

theorem PRel.of_error {e : PErr} {y : Except PErr (List Seg)} (h : PRel k (.error e) y) :
    y = .error (e.sh k) := by
  cases y with
  | ok _ => exact h.elim
  | error e' => exact congrArg _ h

theorem parse_shift (h : DecOK E) (hl : DecLocal E) (hsep : ClassSep E) (hk : 0 < k) :
    PRel k (parse E) (parse (shiftEnv k E)) := by
  -- the first round by the preamble, the others by the simulation walk
  have hL := sim_parse (shift_sim h hl) hsep (N := ShiftNodes k) (M := SegsShift k) (fun _ _ _ _ hn => hn)
    (fun {st st' x y} hn hsc hcur hxy =>
      .inr ⟨hxy.eq ▸ add_segsShift hk hn hcur (some x), congrArg Sc.pos hsc⟩)
    (fun hn hcur => add_segsShift hk hn hcur none)
    (.inl ⟨rfl, rfl, rfl, rfl⟩) initSc_good.1 (preamble_shift h hl hsep hk)
  generalize parse E = x at hL ⊢
  generalize parse (shiftEnv k E) = y at hL ⊢
  cases hL with
  | ok hs => exact hs
  | error he => exact he.eq

end
end Sqlair
