/-
  Translation invariance (C19, newline shift): definitions and primitive facts.

  `shiftEnv k E` is `E` with `k` newline bytes put in front of the input.  A scanner state
  `s` of the run on `E` corresponds to `s.sh k` of the run on `shiftEnv k E`: offsets and the
  line number move by `k`, the current rune is the same (`Sc.sh`, and `PErr.sh`, `Res.sh`,
  `shB`, `shR` for answers, `Seg.sh` for nodes, in `Sim/Defs.lean`).
-/
import SqlairProofs.Utf8

namespace Sqlair

def shiftEnv (k : Nat) (E : Env) : Env := { E with inp := Array.replicate k 10 ++ E.inp }

/-- What the correspondence assumes of the rune decoder; it holds for `decodeRune`
    (`decodeRune_DecLocal`). -/
structure DecLocal (E : Env) : Prop where
  shift : ∀ k p, p < E.len → E.dec (Array.replicate k 10 ++ E.inp) (k + p) = E.dec E.inp p
  nl : ∀ k i, i < k → E.dec (Array.replicate k 10 ++ E.inp) i = (10, 1)

section
variable (k : Nat) (inp : Bytes)

theorem shift_size : (Array.replicate k (10 : UInt8) ++ inp).size = inp.size + k := by
  simp [Nat.add_comm]

theorem shift_bAt_ge (i : Nat) : bAt (Array.replicate k (10 : UInt8) ++ inp) (i + k) = bAt inp i := by
  have := bAt_append_right (Array.replicate k 10) inp i
  rwa [Array.size_replicate, Nat.add_comm] at this

theorem shift_bAt_ge' (i : Nat) : bAt (Array.replicate k (10 : UInt8) ++ inp) (k + i) = bAt inp i := by
  rw [Nat.add_comm]; exact shift_bAt_ge k inp i

theorem shift_bAt_lt (i : Nat) (hi : i < k) : bAt (Array.replicate k (10 : UInt8) ++ inp) i = 10 := by
  simp [bAt, Array.getD_eq_getD_getElem?, Array.getElem?_append, hi]

theorem shift_extract (a b : Nat) :
    (Array.replicate k (10 : UInt8) ++ inp).extract (a + k) (b + k) = inp.extract a b := by
  rw [Array.extract_append]
  simp

theorem shift_extract_zero (b : Nat) :
    (Array.replicate k (10 : UInt8) ++ inp).extract 0 (b + k) =
      Array.replicate k 10 ++ inp.extract 0 b := by
  rw [Array.extract_append]
  simp

theorem shift_extract_nl :
    (Array.replicate k (10 : UInt8) ++ inp).extract 0 k = Array.replicate k 10 := by
  simp

theorem shift_foldEqAt (p : Nat) (kw : List Nat) :
    foldEqAt (Array.replicate k (10 : UInt8) ++ inp) (p + k) kw = foldEqAt inp p kw := by
  induction kw generalizing p with
  | nil => rfl
  | cons c cs ih =>
    unfold foldEqAt
    rw [shift_bAt_ge, show p + k + 1 = (p + 1) + k by omega, ih]

theorem shift_hasNewline (hk : 0 < k) : hasNewline (Array.replicate k (10 : UInt8) ++ inp) = true := by
  unfold hasNewline
  rw [Array.any_eq_true]
  refine ⟨0, by rw [shift_size]; omega, ?_⟩
  simp [hk]

end

section
variable (k : Nat) (E : Env)

@[simp] theorem shiftEnv_len : (shiftEnv k E).len = E.len + k := shift_size k E.inp
@[simp] theorem shiftEnv_letter : (shiftEnv k E).letter = E.letter := rfl
@[simp] theorem shiftEnv_digit : (shiftEnv k E).digit = E.digit := rfl
theorem shiftEnv_dec : (shiftEnv k E).dec = E.dec := rfl
theorem shiftEnv_inp : (shiftEnv k E).inp = Array.replicate k 10 ++ E.inp := rfl

@[simp] theorem shiftEnv_isNameChar (c : Nat) : isNameChar (shiftEnv k E) c = isNameChar E c := rfl
@[simp] theorem shiftEnv_isInitialNameChar (c : Nat) :
    isInitialNameChar (shiftEnv k E) c = isInitialNameChar E c := rfl

theorem shiftEnv_zero : shiftEnv 0 E = E := by
  unfold shiftEnv; simp

variable {k E}

theorem DecLocal.dec_ge (hl : DecLocal E) {p : Nat} (hp : p < E.len) :
    (shiftEnv k E).dec (shiftEnv k E).inp (p + k) = E.dec E.inp p := by
  rw [Nat.add_comm]; exact hl.shift k p hp

theorem DecLocal.dec_lt (hl : DecLocal E) {i : Nat} (hi : i < k) :
    (shiftEnv k E).dec (shiftEnv k E).inp i = (10, 1) := hl.nl k i hi

theorem shiftEnv_DecOK (h : DecOK E) (hl : DecLocal E) (k : Nat) : DecOK (shiftEnv k E) := by
  -- at one of the `k` newlines in front the rune is `(10, 1)`, elsewhere it is the rune of `E`
  have key : ∀ p, p < (shiftEnv k E).len →
      1 ≤ ((shiftEnv k E).dec (shiftEnv k E).inp p).2 ∧
      p + ((shiftEnv k E).dec (shiftEnv k E).inp p).2 ≤ (shiftEnv k E).len ∧
      (((shiftEnv k E).dec (shiftEnv k E).inp p).1 = 10 →
        ((shiftEnv k E).dec (shiftEnv k E).inp p).2 = 1 ∧ bAt (shiftEnv k E).inp p = 10) ∧
      (((shiftEnv k E).dec (shiftEnv k E).inp p).1 ≠ 10 → ∀ i, p ≤ i →
        i < p + ((shiftEnv k E).dec (shiftEnv k E).inp p).2 → bAt (shiftEnv k E).inp i ≠ 10) := by
    intro p hp
    rw [shiftEnv_len] at hp ⊢
    by_cases hpk : p < k
    · rw [hl.dec_lt hpk]
      exact ⟨Nat.le_refl _, hp, fun _ => ⟨rfl, shift_bAt_lt k E.inp p hpk⟩, fun hne => (hne rfl).elim⟩
    · obtain ⟨q, rfl⟩ : ∃ q, p = q + k := ⟨p - k, (Nat.sub_add_cancel (Nat.le_of_not_lt hpk)).symm⟩
      have hq : q < E.len := Nat.lt_of_add_lt_add_right hp
      rw [hl.dec_ge hq, shiftEnv_inp, shift_bAt_ge]
      refine ⟨h.size_pos q hq, ?_, h.nl q hq, fun hne i hi hi' => ?_⟩
      · have := h.size_le q hq; omega
      · obtain ⟨j, rfl⟩ : ∃ j, i = j + k := ⟨i - k, by omega⟩
        rw [shift_bAt_ge]
        exact h.no_nl q hq hne j (by omega) (by omega)
  exact ⟨fun p hp => (key p hp).1, fun p hp => (key p hp).2.1, fun p hp => (key p hp).2.2.1,
    fun p hp => (key p hp).2.2.2⟩

end

theorem decodeRune_DecLocal (inp : Bytes) (letter digit : Nat → Bool) :
    DecLocal { inp := inp, dec := decodeRune, letter := letter, digit := digit } where
  shift := fun k p hp => by
    have := decodeRune_append (Array.replicate k 10) inp p hp
    rwa [Array.size_replicate] at this
  nl := fun k i hi => by
    have := decodeRune_ascii (Array.replicate k 10 ++ inp) i
      (by rw [shift_size]; exact Nat.lt_add_left _ hi)
    rw [shift_bAt_lt k inp i hi] at this
    exact this (by decide)

end Sqlair
