/-
  The main loop of `Parse`.  `LoopMove` says what one round can do, `parseLoop_rule` is the
  induction over the loop of one run (`sim_parseLoop` in `Sim/Exprs.lean` is the one over two runs):
  it never runs out of fuel, every error it reports is positioned, and what every round keeps holds
  at the end.  Instances: the nodes chain from offset 0 to the end of the input (`parse_spec`), and
  every node is a bypass node or comes from one of the two expression parsers (`parse_nodes`).
-/
import SqlairProofs.Parser.Exprs

namespace Sqlair

section
variable {E : Env}

theorem SpansChain.le {a b : Nat} {l : List Seg} (hc : SpansChain a b l) : a ≤ b := by
  induction hc with
  | nil x => exact Nat.le_refl _
  | cons s rest to hle _ ih => exact Nat.le_trans hle ih

theorem spansOf_fold (inp : Bytes) {a b : Nat} {segs : List Seg} (hc : SpansChain a b segs)
    (hb : b ≤ inp.size) (acc : List (SegKind × Nat × Nat)) :
    (segs.map (Seg.toOSeg inp)).foldl (fun (acc : Nat × List (SegKind × Nat × Nat)) s =>
      (acc.1 + s.raw.size, (s.kind, acc.1, acc.1 + s.raw.size) :: acc.2)) (a, acc) =
    (b, (segs.map fun s => (s.kind, s.a, s.b)).reverse ++ acc) := by
  induction hc generalizing acc with
  | nil x => rfl
  | cons s rest to hle hrest ih =>
    have hsize : (Seg.toOSeg inp s).raw.size = s.b - s.a := by
      show (inp.extract s.a s.b).size = _
      rw [Array.size_extract, Nat.min_eq_left (Nat.le_trans hrest.le hb)]
    simp only [List.map_cons, List.foldl_cons, hsize]
    rw [Nat.add_sub_cancel' hle]
    rw [ih hb]
    simp [Seg.toOSeg]

theorem spansOf_chain (inp : Bytes) {segs : List Seg} (hc : SpansChain 0 inp.size segs) :
    spansOf (segs.map (Seg.toOSeg inp)) = segs.map fun s => (s.kind, s.a, s.b) := by
  unfold spansOf
  rw [spansOf_fold inp hc (Nat.le_refl _) []]
  simp

theorem SpansChain.snoc {a b : Nat} {l : List Seg} (hc : SpansChain a b l) (x : Seg)
    (hx : x.a = b) (hle : x.a ≤ x.b) : SpansChain a x.b (l ++ [x]) := by
  induction hc with
  | nil x0 =>
    subst hx
    exact SpansChain.cons x [] x.b hle (SpansChain.nil x.b)
  | cons s rest to hsle _ ih =>
    exact SpansChain.cons s (rest ++ [x]) x.b hsle (ih hx)

theorem flattenRaws_chain (inp : Bytes) {a b : Nat} {segs : List Seg} (hc : SpansChain a b segs) :
    (segs.map (Seg.toOSeg inp)).foldl (fun acc s => acc ++ s.raw) (inp.extract 0 a) = inp.extract 0 b := by
  induction hc with
  | nil x => rfl
  | cons s rest to hle _ ih =>
    simp only [List.map_cons, List.foldl_cons]
    have : inp.extract 0 s.a ++ (Seg.toOSeg inp s).raw = inp.extract 0 s.b := by
      show inp.extract 0 s.a ++ inp.extract s.a s.b = _
      rw [Array.extract_append_extract, Nat.zero_min, Nat.max_eq_right hle]
    rw [this]; exact ih

theorem initSc_good : Good E (initSc E) ∧ (initSc E).pos = 0 := by
  unfold initSc
  have hpos : (advanceChar E Sc.zero).pos = 0 := advanceChar_pos _
  have hnl : ¬ (Sc.zero.char = 10 ∧ Sc.zero.pos < E.len) := fun hc => by cases hc.1
  refine ⟨?_, hpos⟩
  apply Good.mk' <;> rw [hpos]
  · exact Nat.zero_le _
  · intro hlt
    have : ¬ (Sc.zero.nextPos ≥ E.len) := Nat.not_le.mpr hlt
    rw [advanceChar_nextPos, advanceChar_char, if_neg this, if_neg this]
    exact ⟨rfl, rfl⟩
  · intro heq
    have : Sc.zero.nextPos ≥ E.len := Nat.le_of_eq heq.symm
    rw [advanceChar_nextPos, if_pos this]; rfl
  · rw [advanceChar_lineNum, nlCount_zero, if_neg hnl]; rfl
  · rw [advanceChar_lineStart, lastNl_zero, if_neg hnl]; rfl

theorem PS.add_exprs (st : PS) (e : Option Seg) : (st.add e).exprs = st.exprs ++
    (if st.prevExprEnd ≠ st.currentExprStart
      then [{ kind := .bypass, a := st.prevExprEnd, b := st.currentExprStart }] else []) ++
    e.toList := by
  unfold PS.add
  split <;> cases e <;> simp only [List.append_nil, Option.toList]

theorem PS.add_prevExprEnd (st : PS) (e : Option Seg) : (st.add e).prevExprEnd = st.sc.pos := rfl

theorem PS.add_forall {P : Seg → Prop} {st : PS} (hall : ∀ x ∈ st.exprs, P x)
    (hb : ∀ a b, P { kind := .bypass, a := a, b := b }) (e : Option Seg)
    (he : ∀ x, e = some x → P x) : ∀ x ∈ (st.add e).exprs, P x := by
  intro x hx
  rw [PS.add_exprs, List.mem_append, List.mem_append] at hx
  rcases hx with (hx | hx) | hx
  · exact hall x hx
  · split at hx
    · exact List.mem_singleton.1 hx ▸ hb _ _
    · cases hx
  · exact he x (Option.mem_toList.1 hx)

theorem add_chain {st : PS} (hc : SpansChain 0 st.prevExprEnd st.exprs)
    (hle : st.prevExprEnd ≤ st.currentExprStart) (hle' : st.currentExprStart ≤ st.sc.pos)
    (e : Option Seg) (he : ∀ x, e = some x → x.a = st.currentExprStart ∧ x.b = st.sc.pos)
    (hn : e = none → st.currentExprStart = st.sc.pos) :
    SpansChain 0 st.sc.pos (st.add e).exprs := by
  rw [PS.add_exprs]
  have hc1 : SpansChain 0 st.currentExprStart (st.exprs ++
      (if st.prevExprEnd ≠ st.currentExprStart
        then [{ kind := .bypass, a := st.prevExprEnd, b := st.currentExprStart }] else [])) := by
    split
    · exact hc.snoc { kind := .bypass, a := st.prevExprEnd, b := st.currentExprStart } rfl hle
    · next heq => rw [List.append_nil, ← Decidable.not_not.1 heq]; exact hc
  cases e with
  | none => rw [← hn rfl, Option.toList, List.append_nil]; exact hc1
  | some x =>
    obtain ⟨ha, hb⟩ := he x rfl
    rw [← hb]
    exact hc1.snoc x ha (by omega)

def ExprRun (E : Env) (sc1 t : Sc) (x : Seg) : Prop :=
  parseOutputExpr E sc1 = (t, .ok x) ∨
    (parseOutputExpr E sc1 = (sc1, .no) ∧ parseInputExpr E sc1 = (t, .ok x))

structure ExprRound (E : Env) (s0 sc1 t : Sc) (x : Seg) : Prop where
  adv : advanceToNextExpression E s0 = (sc1, none)
  g1 : Good E sc1
  gt : Good E t
  lt : sc1.pos < t.pos
  a : x.a = sc1.pos
  b : x.b = t.pos
  run : ExprRun E sc1 t x

/-- A round of `parseLoop` that does not end the loop: `node` and `skip` are the arguments of its two
    recursive calls. -/
inductive LoopMove (E : Env) (st : PS) : PS → Prop where
  | node {sc1 t : Sc} {x : Seg} : ExprRound E st.sc sc1 t x →
      LoopMove E st (PS.add { st with sc := t, currentExprStart := sc1.pos } (some x))
  | skip {sc1 : Sc} : advanceToNextExpression E st.sc = (sc1, none) → Good E sc1 → sc1.pos < E.len →
      LoopMove E st { st with sc := advanceChar E sc1, currentExprStart := sc1.pos }

theorem LoopMove.good (hd : DecOK E) {st st1 : PS} (m : LoopMove E st st1) : Good E st1.sc := by
  cases m with
  | node r => exact r.gt
  | skip _ g1 _ => exact advanceChar_good hd g1

theorem advanceToNextExpression_mono (hd : DecOK E) {s sc1 : Sc} {o : Option PErr} (g : Good E s)
    (hadv : advanceToNextExpression E s = (sc1, o)) : s.pos ≤ sc1.pos := by
  have := (advanceToNextExpression_post hd g).1.mono
  rwa [hadv] at this

theorem LoopMove.lt (hd : DecOK E) {st st1 : PS} (g : Good E st.sc) (m : LoopMove E st st1) :
    st.sc.pos < st1.sc.pos := by
  cases m with
  | node r => exact Nat.lt_of_le_of_lt (advanceToNextExpression_mono hd g r.adv) r.lt
  | skip hadv g1 hlt =>
    exact Nat.lt_of_le_of_lt (advanceToNextExpression_mono hd g hadv) (advanceChar_lt hd g1 hlt)

/-- The answer of the loop when every round keeps `P`.  An `.ok` answer is not itself a state with `P`: the loop returns from inside its last round, before any `PS.add`, so
    the answer is the state `st0` with `P` at which that round began, with the scanner moved by
    `advanceToNextExpression` to the end of the input. -/
def LoopEnds (E : Env) (P : PS → Prop) : Except PErr PS → Prop
  | .error e => ErrOK E e
  | .ok st' => ∃ st0 sc1, P st0 ∧ Good E st0.sc ∧ advanceToNextExpression E st0.sc = (sc1, none) ∧
      sc1.pos = E.len ∧ st' = { st0 with sc := sc1, currentExprStart := sc1.pos }

theorem parseLoop_rule (hd : DecOK E) {P : PS → Prop}
    (hmove : ∀ st st1, Good E st.sc → P st → LoopMove E st st1 → P st1)
    (f : Nat) {st : PS} (g : Good E st.sc) (h0 : P st) (hf : E.len - st.sc.pos < f) :
    LoopEnds E P (parseLoop E f st) := by
  induction f generalizing st with
  | zero => omega
  | succ f ih =>
    unfold parseLoop
    obtain ⟨hp1, he1⟩ := advanceToNextExpression_post hd g
    generalize hadv : advanceToNextExpression E st.sc = r at hp1 he1 ⊢
    obtain ⟨sc1, _ | e⟩ := r
    · have g1 : Good E sc1 := hp1.good
      dsimp -zeta only
      extract_lets st1
      refine iteInduction (fun hlen => ⟨st, sc1, h0, g, hadv, hlen, rfl⟩) fun hlen => ?_
      have hp : sc1.pos < E.len := Nat.lt_of_le_of_ne g1.pos_le hlen
      have next : ∀ {st2 : PS}, LoopMove E st st2 → LoopEnds E P (parseLoop E f st2) := fun m =>
        ih (m.good hd) (hmove _ _ g h0 m)
          (Parser.fuel_step hf (Nat.lt_of_le_of_lt hp1.mono hp) (m.lt hd g))
      have ho := parseOutputExpr_eok hd g1
      generalize hro : parseOutputExpr E sc1 = r at ho ⊢
      obtain ⟨sc2, seg | _ | e⟩ := r
      · exact next (.node ⟨hadv, g1, ho.good, ho.prog seg rfl, (ho.span seg rfl).1, (ho.span seg rfl).2,
          .inl hro⟩)
      · obtain rfl : sc2 = sc1 := ho.no rfl
        have hi := parseInputExpr_eok hd g1
        dsimp -zeta only
        generalize hri : parseInputExpr E sc2 = r at hi ⊢
        obtain ⟨sc3, seg | _ | e⟩ := r
        · exact next (.node ⟨hadv, g1, hi.good, hi.prog seg rfl, (hi.span seg rfl).1, (hi.span seg rfl).2,
            .inr ⟨hro, hri⟩⟩)
        · obtain rfl : sc3 = sc2 := hi.no rfl
          exact next (.skip hadv g1 hp)
        · exact hi.err e rfl
      · exact ho.err e rfl
    · exact he1 e rfl

theorem parse_loopEnds (hd : DecOK E) {P : PS → Prop}
    (hmove : ∀ st st1, Good E st.sc → P st → LoopMove E st st1 → P st1)
    (h0 : P { sc := initSc E, prevExprEnd := 0, currentExprStart := 0, exprs := [] }) :
    LoopEnds E P (parseLoop E (E.len + 2)
      { sc := initSc E, prevExprEnd := 0, currentExprStart := 0, exprs := [] }) :=
  parseLoop_rule hd hmove _ initSc_good.1 h0
    (Nat.lt_succ_of_le (Nat.le_succ_of_le (Nat.sub_le _ _)))

structure TileInv (st : PS) : Prop where
  le : st.prevExprEnd ≤ st.sc.pos
  chain : SpansChain 0 st.prevExprEnd st.exprs

theorem TileInv.move (hd : DecOK E) {st st1 : PS} (g : Good E st.sc) (hinv : TileInv st)
    (m : LoopMove E st st1) : TileInv st1 := by
  cases m with
  | @node sc1 t x r =>
    exact ⟨Nat.le_refl _, add_chain (st := { st with sc := t, currentExprStart := sc1.pos }) hinv.chain
      (Nat.le_trans hinv.le (advanceToNextExpression_mono hd g r.adv)) (Nat.le_of_lt r.lt) (some x)
      (fun x hx => by cases hx; exact ⟨r.a, r.b⟩) (fun hx => by cases hx)⟩
  | @skip sc1 hadv g1 hlt =>
    exact ⟨Nat.le_trans hinv.le (Nat.le_trans (advanceToNextExpression_mono hd g hadv) (advanceChar_mono g1)),
      hinv.chain⟩

/-- what C01 (the nodes tile the input), C18 (no fuel error) and C19 (errors are positioned) take from
    the parser -/
def ParsePost (E : Env) : Except PErr (List Seg) → Prop
  | .error e => ErrOK E e
  | .ok segs => SpansChain 0 E.len segs

theorem parse_spec (h : DecOK E) : ParsePost E (parse E) := by
  unfold parse
  have hl := parse_loopEnds h (P := TileInv) (fun _ _ g hinv m => hinv.move h g m)
    ⟨Nat.zero_le _, SpansChain.nil 0⟩
  split
  · next e heq => rw [heq] at hl; exact hl
  · next st heq =>
    rw [heq] at hl
    obtain ⟨st0, sc1, hinv, g0, hadv, hlen, rfl⟩ := hl
    have := add_chain (st := { st0 with sc := sc1, currentExprStart := sc1.pos }) hinv.chain
      (Nat.le_trans hinv.le (advanceToNextExpression_mono h g0 hadv)) (Nat.le_refl _) none
      (fun x hx => by cases hx) (fun _ => rfl)
    show SpansChain 0 E.len _
    rw [← hlen]
    exact this

theorem parse_err (h : DecOK E) {e : PErr} (hp : parse E = .error e) : ErrOK E e := by
  have := parse_spec h
  rwa [hp] at this

theorem parse_ok (h : DecOK E) {segs : List Seg} (hp : parse E = .ok segs) : SpansChain 0 E.len segs := by
  have := parse_spec h
  rwa [hp] at this

theorem modelObs_ok {segs : List Seg} (hp : parse E = .ok segs) :
    modelObs E = .ok (segs.map (Seg.toOSeg E.inp)) := by
  rw [modelObs, hp]

theorem modelObs_error {e : PErr} (hp : parse E = .error e) :
    modelObs E = .err (if hasNewline E.inp then some e.line else none) (some e.col) e.kind.render := by
  rw [modelObs, hp]

theorem parse_single {t : Sc} {seg : Seg} (hlen : 0 < E.len)
    (hadv : advanceToNextExpression E (initSc E) = (initSc E, none))
    (hex : ExprRun E (initSc E) t seg)
    (hend : t.pos = E.len) : parse E = .ok [seg] := by
  have h0 : (initSc E).pos = 0 := (initSc_good (E := E)).2
  have hne : ¬ (initSc E).pos = E.len := by omega
  have hadv2 : advanceToNextExpression E t = (t, none) := advanceToNextExpression_at_eof (by omega)
  -- the second round of the loop ends it
  have hsecond : ∀ f (st : PS), st.sc = t →
      parseLoop E (f + 1) st = .ok { st with sc := t, currentExprStart := t.pos } := by
    intro f st hst
    rw [parseLoop]
    simp only [hst, hadv2, hend, if_true]
  have hloop : parseLoop E (E.len + 1 + 1)
      { sc := initSc E, prevExprEnd := 0, currentExprStart := 0, exprs := [] } =
      .ok { PS.add { sc := t, prevExprEnd := 0, currentExprStart := (initSc E).pos, exprs := [] }
        (some seg) with sc := t, currentExprStart := t.pos } := by
    rw [parseLoop]
    simp only [hadv, if_neg hne]
    rcases hex with ho | ⟨ho, hi⟩
    · simp only [ho]; exact hsecond _ _ rfl
    · simp only [ho, hi]; exact hsecond _ _ rfl
  unfold parse
  rw [show E.len + 2 = E.len + 1 + 1 from rfl, hloop]
  simp only [PS.add_exprs, PS.add_prevExprEnd, h0, ne_eq, not_true_eq_false, if_false,
    List.nil_append, List.append_nil, Option.toList]

def ExprNode (E : Env) (x : Seg) : Prop := ∃ s0 sc1 t, ExprRound E s0 sc1 t x

def NodeFrom (E : Env) (x : Seg) : Prop :=
  (∃ a b, x = { kind := .bypass, a := a, b := b }) ∨ ExprNode E x

theorem parse_nodes (hd : DecOK E) {segs : List Seg} (hp : parse E = .ok segs) :
    ∀ x ∈ segs, NodeFrom E x := by
  unfold parse at hp
  have hl := parse_loopEnds hd (P := fun st => ∀ x ∈ st.exprs, NodeFrom E x)
    (fun st st1 _ hall m => by
      cases m with
      | @node sc1 t x r =>
        exact PS.add_forall (st := { st with sc := t, currentExprStart := sc1.pos }) hall
          (fun _ _ => .inl ⟨_, _, rfl⟩) (some x)
          (fun x hx => by cases hx; exact .inr ⟨_, _, _, r⟩)
      | skip => exact hall)
    (by intro x hx; cases hx)
  split at hp
  · cases hp
  · next st heq =>
    cases hp
    rw [heq] at hl
    obtain ⟨st0, sc1, hall, _, _, _, rfl⟩ := hl
    exact PS.add_forall (st := { st0 with sc := sc1, currentExprStart := sc1.pos }) hall
      (fun _ _ => .inl ⟨_, _, rfl⟩) none (fun _ hx => by cases hx)

end
end Sqlair
