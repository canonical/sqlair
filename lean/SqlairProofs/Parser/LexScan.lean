/-
  Property C02, scanner side: the parser's skippers agree with the reference lexer
  (`skipStringLiteral_eq_lexer`, `skipComment_eq_lexer`), and the primitives through which the parser reads
  its input lead from a state at a code offset of the lexer to a state at a code offset (`LC`).  Together they
  are the instance `lc_sim` of the interface `Sim`, from which every parse function keeps `LC`.
-/
import SqlairProofs.Parser.LexDefs
import SqlairProofs.Sim.Defs

namespace Sqlair

section
variable {E : Env} {s : Sc} {c : Nat}

structure LC (E : Env) (s : Sc) : Prop where
  good : Good E s
  code : LexCode E s.pos

theorem LC.of_eq {α : Type} {r : Sc × α} {s1 : Sc} {x : α} (hl : LC E r.1) (heq : r = (s1, x)) :
    LC E s1 := by
  subst heq; exact hl

theorem initSc_lc : LC E (initSc E) := by
  obtain ⟨g, hp⟩ := initSc_good (E := E)
  exact ⟨g, by rw [hp]; exact LexCode.zero⟩

theorem Good.char_eq (g : Good E s) (hp : s.pos < E.len) : s.char = rn E s.pos := (g.next hp).2

theorem advanceChar_pos_sz (g : Good E s) (hp : s.pos < E.len) :
    (advanceChar E s).pos = s.pos + sz E s.pos := by
  rw [advanceChar_pos, (g.next hp).1]

theorem Good.at_iff (g : Good E s) (c : Nat) :
    (s.pos < E.len ∧ s.char = c) ↔ (s.pos < E.len ∧ rn E s.pos = c) :=
  and_congr_right fun hp => by rw [g.char_eq hp]

theorem Good.next_at_iff (h : DecOK E) (g : Good E s) (hp : s.pos < E.len) (c : Nat) :
    ((advanceChar E s).pos < E.len ∧ (advanceChar E s).char = c) ↔
      (s.pos + sz E s.pos < E.len ∧ rn E (s.pos + sz E s.pos) = c) := by
  rw [(advanceChar_good h g).at_iff, advanceChar_pos_sz g hp]

theorem PlainAt.of_ne {p : Nat} (hc : rn E p ≠ 34 ∧ rn E p ≠ 39 ∧ rn E p ≠ 45 ∧ rn E p ≠ 47) :
    PlainAt E p :=
  ⟨hc.1, hc.2.1, fun hl => hc.2.2.1 hl.1, fun hb => hc.2.2.2 hb.1⟩

theorem advanceChar_lc (h : DecOK E) (l : LC E s) (hpl : s.pos < E.len → PlainAt E s.pos) :
    LC E (advanceChar E s) := by
  refine ⟨advanceChar_good h l.good, ?_⟩
  by_cases hp : s.pos < E.len
  · rw [advanceChar_pos_sz l.good hp]; exact l.code.plain h hp (hpl hp)
  · rw [advanceChar_pos, l.good.next_eof (l.good.pos_eof hp)]; exact l.code

theorem asciiLower_eq_upper {b k : Nat} (hk : 65 ≤ k ∧ k ≤ 90) (h : asciiLower b = asciiLower k) :
    65 ≤ b ∧ b ≤ 122 := by
  unfold asciiLower at h
  rw [if_pos hk] at h
  rcases of_ite_eq h with ⟨hb, _⟩ | ⟨_, e⟩
  · exact ⟨hb.1, Nat.le_trans hb.2 (by decide)⟩
  · exact e ▸ ⟨Nat.le_trans hk.1 (Nat.le_add_right _ _), Nat.add_le_add_right hk.2 32⟩

theorem foldEqAt_lc (h : DecOK E) (ha : AsciiDec E) : ∀ (kw : List Nat),
    (∀ k, k ∈ kw → 65 ≤ k ∧ k ≤ 90) → ∀ (p : Nat), p + kw.length ≤ E.len →
    foldEqAt E.inp p kw = true → LexCode E p → LexCode E (p + kw.length)
  | [], _, _, _, _, hl => hl
  | k :: ks, hkw, p, hle, hf, hl => by
    rw [foldEqAt_cons_iff] at hf
    have hb := asciiLower_eq_upper (hkw k List.mem_cons_self) hf.1
    have e : p + (k :: ks).length = p + 1 + ks.length := Nat.add_right_comm p ks.length 1
    have hp : p < E.len := Nat.lt_of_lt_of_le (Nat.lt_add_of_pos_right (Nat.succ_pos _)) hle
    have hd := ha.ascii p hp (Nat.lt_of_le_of_lt hb.2 (by decide))
    have hrn : rn E p = bAt E.inp p := congrArg Prod.fst hd
    have hsz : sz E p = 1 := congrArg Prod.snd hd
    have hb1 : 65 ≤ rn E p := hrn ▸ hb.1
    have hl1 := hl.plain h hp (PlainAt.of_ne (by omega))
    rw [hsz] at hl1
    exact e ▸ foldEqAt_lc h ha ks (fun k hk => hkw k (List.mem_cons_of_mem _ hk)) (p+1) (e ▸ hle)
      hf.2 hl1

theorem skipString_lc (h : DecOK E) (ha : AsciiDec E) (kw : List Nat) (hne : 0 < kw.length)
    (hkw : ∀ k, k ∈ kw → 65 ≤ k ∧ k ≤ 90) (l : LC E s) : LC E (skipString E kw s).1 := by
  have hb := skipString_bok kw hne (fun k hk hx => absurd (hx ▸ (hkw k hk).1) (by decide)) l.good
  refine ⟨hb.good, ?_⟩
  by_cases hc : s.pos + kw.length ≤ E.len ∧ foldEqAt E.inp s.pos kw = true
  · rw [(skipString_of_match hc).2]; exact foldEqAt_lc h ha kw hkw s.pos hc.1 hc.2 l.code
  · rw [skipString_of_not hc]; exact l.code

theorem kwAS_upper : ∀ k, k ∈ kwAS → 65 ≤ k ∧ k ≤ 90 := by decide
theorem kwVALUES_upper : ∀ k, k ∈ kwVALUES → 65 ≤ k ∧ k ≤ 90 := by decide

/-- True of every state produced by `advanceChar`; `Good` says nothing about the character at the end of the
    input.  With it a `Good` state is determined by its offset also there (`opq_sc_eq`, `Opaque/Scan.lean`), so
    the loop lemmas carry it along. -/
def EofZ (E : Env) (s : Sc) : Prop := E.len ≤ s.pos → s.char = 0

theorem advanceChar_eofZ (s : Sc) : EofZ E (advanceChar E s) := by
  intro hp
  rw [advanceChar_pos] at hp
  rw [advanceChar_char, if_pos hp]

def EndsAt (E : Env) (x : Nat) (r : Option Sc) : Prop := ∃ s', r = some s' ∧ s'.pos = x ∧ EofZ E s'

theorem commentLoop_line (h : DecOK E) : ∀ (f : Nat) (s : Sc), Good E s → EofZ E s →
    E.len - s.pos < f → EndsAt E (LCE E s.pos) (commentLoop E 10 f s)
  | 0, _, _, _, hf => absurd hf (Nat.not_lt_zero _)
  | f+1, s, g, hz, hf => by
    unfold commentLoop
    refine iteInduction (fun hp => ?_)
      (fun hp => ⟨s, rfl, (g.pos_eof hp).trans (LCE_eof (Nat.not_lt.mp hp)).symm, hz⟩)
    have hr := g.char_eq hp
    refine iteInduction (fun hc => iteInduction (fun h42 => absurd h42 (by decide))
      (fun _ => ⟨s, rfl, (LCE_nl hp (hr.symm.trans hc)).symm, hz⟩)) (fun hc => ?_)
    rw [LCE_skip h hp (fun hx => hc (hr.trans hx)), ← advanceChar_pos_sz g hp]
    exact commentLoop_line h f _ (advanceChar_good h g) (advanceChar_eofZ s)
      (Parser.fuel_step hf hp (advanceChar_lt h g hp))

theorem commentLoop_block (h : DecOK E) : ∀ (f : Nat) (s : Sc), Good E s → EofZ E s →
    E.len - s.pos < f → EndsAt E (BCE E s.pos) (commentLoop E 42 f s)
  | 0, _, _, _, hf => absurd hf (Nat.not_lt_zero _)
  | f+1, s, g, hz, hf => by
    unfold commentLoop
    refine iteInduction (fun hp => ?_)
      (fun hp => ⟨s, rfl, (g.pos_eof hp).trans (BCE_eof (Nat.not_lt.mp hp)).symm, hz⟩)
    have g1 := advanceChar_good h g
    have hp1 := advanceChar_pos_sz g hp
    have hr := g.char_eq hp
    have h2 := g.next_at_iff h hp 47
    have ih := commentLoop_block h f _ g1 (advanceChar_eofZ s) (Parser.fuel_step hf hp (advanceChar_lt h g hp))
    rw [hp1] at ih
    refine iteInduction (fun hc => iteInduction (fun _ => ?_) (fun h42 => absurd rfl h42))
      (fun hc => by rw [BCE_skip h hp (fun hx => hc (hr.trans hx.1))]; exact ih)
    refine iteInduction (fun ht => ?_) (fun hf' => ?_)
    · obtain ⟨hlt, hc1, heq⟩ := skipChar_true ht
      have hx := h2.mp ⟨hlt, hc1⟩
      exact ⟨_, rfl, by rw [heq, advanceChar_pos_sz g1 hlt, hp1, BCE_close hp (hr.symm.trans hc) hx.1 hx.2],
        heq ▸ advanceChar_eofZ _⟩
    · have hn := skipChar_false (Bool.eq_false_iff.mpr hf')
      rw [skipChar_of_not hn, BCE_skip h hp (fun hx => hn (h2.mpr hx.2))]
      exact ih

structure CommentOK (E : Env) (s : Sc) (r : Sc × Bool) : Prop where
  yes : r.2 = true → s.pos < E.len ∧
    ((LineOpen E s.pos ∧ r.1.pos = LCE E (s.pos + sz E s.pos + sz E (s.pos + sz E s.pos))) ∨
     (BlockOpen E s.pos ∧ r.1.pos = BCE E (s.pos + sz E s.pos + sz E (s.pos + sz E s.pos))))
  no : r.2 = false → r.1 = s ∧ (s.pos < E.len → ¬ LineOpen E s.pos ∧ ¬ BlockOpen E s.pos)
  eofZ : r.2 = true → EofZ E r.1

theorem CommentOK.stay (hn : s.pos < E.len → ¬ LineOpen E s.pos ∧ ¬ BlockOpen E s.pos) :
    CommentOK E s (s, false) :=
  ⟨fun hf => Bool.noConfusion hf, fun _ => ⟨rfl, hn⟩, fun hf => Bool.noConfusion hf⟩

theorem skipComment_ok (h : DecOK E) (g : Good E s) : CommentOK E s (skipComment E s) := by
  have g1 := advanceChar_good h g
  have g2 := advanceChar_good h g1
  have hfuel : E.len - (advanceChar E (advanceChar E s)).pos < E.len + 1 :=
    Parser.fuel_init _ _
  by_cases h45 : s.pos < E.len ∧ s.char = 45
  · -- `-`
    obtain ⟨hp, h45⟩ := h45
    have hch := g.char_eq hp
    have h2 := g.next_at_iff h hp 45
    unfold skipComment
    simp only [skipChar_of_eq hp h45, if_true, h45]
    by_cases hn : (advanceChar E s).pos < E.len ∧ (advanceChar E s).char = 45
    · obtain ⟨s3, hs3, hpos, hz3⟩ := commentLoop_line h (E.len + 1) _ g2 (advanceChar_eofZ _) hfuel
      simp only [skipChar_of_eq hn.1 hn.2, if_true, hs3]
      exact ⟨fun _ => ⟨hp, Or.inl ⟨⟨hch.symm.trans h45, h2.mp hn⟩,
        by rw [hpos, advanceChar_pos_sz g1 hn.1, advanceChar_pos_sz g hp]⟩⟩, nofun, fun _ => hz3⟩
    · simp only [skipChar_of_not hn]
      exact CommentOK.stay fun _ => ⟨fun hl => hn (h2.mpr hl.2),
        fun hb => absurd (h45.symm.trans (hch.trans hb.1)) (by decide)⟩
  · by_cases h47 : s.pos < E.len ∧ s.char = 47
    · -- `/`
      obtain ⟨hp, h47⟩ := h47
      have hch := g.char_eq hp
      have h2 := g.next_at_iff h hp 42
      unfold skipComment
      simp only [skipChar_of_not h45, skipChar_of_eq hp h47, h47, Bool.false_eq_true,
        if_false, if_true, (by decide : ¬ (47 : Nat) = 45)]
      by_cases hn : (advanceChar E s).pos < E.len ∧ (advanceChar E s).char = 42
      · obtain ⟨s3, hs3, hpos, hz3⟩ := commentLoop_block h (E.len + 1) _ g2 (advanceChar_eofZ _) hfuel
        simp only [skipChar_of_eq hn.1 hn.2, hs3, if_true]
        exact ⟨fun _ => ⟨hp, Or.inr ⟨⟨hch.symm.trans h47, h2.mp hn⟩,
          by rw [hpos, advanceChar_pos_sz g1 hn.1, advanceChar_pos_sz g hp]⟩⟩, nofun, fun _ => hz3⟩
      · simp only [skipChar_of_not hn]
        exact CommentOK.stay fun _ => ⟨fun hl => h45 ⟨hp, hch.trans hl.1⟩,
          fun hb => hn (h2.mpr hb.2)⟩
    · rw [skipComment_of_not h45 h47]
      exact CommentOK.stay fun hp => ⟨fun hl => h45 ⟨hp, (g.char_eq hp).trans hl.1⟩,
        fun hb => h47 ⟨hp, (g.char_eq hp).trans hb.1⟩⟩

theorem skipComment_flag (h : DecOK E) (g : Good E s) :
    (skipComment E s).2 = true ↔ (s.pos < E.len ∧ (LineOpen E s.pos ∨ BlockOpen E s.pos)) := by
  have c := skipComment_ok h g
  refine ⟨fun hx => (c.yes hx).imp_right (Or.imp And.left And.left), fun hx => ?_⟩
  cases hb : (skipComment E s).2 with
  | true => rfl
  | false => exact (hx.2.elim ((c.no hb).2 hx.1).1 ((c.no hb).2 hx.1).2).elim

/-- Bridge lemma of C02 for comments: `skipComment` and the reference lexer see the same comments (a line
    comment ends before the newline, an unterminated block comment at the end of the input).  `CommentOK.yes`
    and `.no` written out; the proofs use `skipComment_ok`, which has `eofZ` besides. -/
theorem skipComment_eq_lexer (h : DecOK E) {s : Sc} (g : Good E s) :
    ((skipComment E s).2 = true → s.pos < E.len ∧
      ((LineOpen E s.pos ∧
          (skipComment E s).1.pos = LCE E (s.pos + sz E s.pos + sz E (s.pos + sz E s.pos))) ∨
       (BlockOpen E s.pos ∧
          (skipComment E s).1.pos = BCE E (s.pos + sz E s.pos + sz E (s.pos + sz E s.pos))))) ∧
    ((skipComment E s).2 = false → (skipComment E s).1 = s ∧
      (s.pos < E.len → ¬ LineOpen E s.pos ∧ ¬ BlockOpen E s.pos)) :=
  ⟨(skipComment_ok h g).yes, (skipComment_ok h g).no⟩

theorem skipComment_lexNext (h : DecOK E) (g : Good E s) (ht : (skipComment E s).2 = true) :
    s.pos < E.len ∧ lexNext E s.pos = some (skipComment E s).1.pos := by
  obtain ⟨hp, hor⟩ := (skipComment_ok h g).yes ht
  refine ⟨hp, ?_⟩
  rcases hor with ⟨hl, hpos⟩ | ⟨hb, hpos⟩
  · rw [hpos]; exact lexNext_line h hp hl
  · rw [hpos]; exact lexNext_block h hp hb

theorem skipComment_lc (h : DecOK E) (l : LC E s) : LC E (skipComment E s).1 := by
  refine ⟨(skipComment_bok h l.good).good, ?_⟩
  cases ht : (skipComment E s).2 with
  | true =>
    obtain ⟨hp, hn⟩ := skipComment_lexNext h l.good ht
    exact l.code.next hp hn
  | false =>
    rw [((skipComment_ok h l.good).no ht).1]; exact l.code

/-- `skipCharFindLoop` from offset `p` against the lexer's `LE E c p` -/
def FindOK (E : Env) (c p : Nat) (r : Option (Option Sc)) : Prop :=
  (∃ s' p', r = some (some s') ∧ Good E s' ∧ p ≤ p' ∧ p' < E.len ∧ rn E p' = c ∧
    s'.pos = p' + sz E p' ∧ LE E c p = LE E c p' ∧ EofZ E s') ∨
  (r = some none ∧ LE E c p = none)

theorem skipCharFindLoop_lex (h : DecOK E) (c : Nat) : ∀ (f : Nat) (s : Sc), Good E s →
    E.len - s.pos < f → FindOK E c s.pos (skipCharFindLoop E c f s)
  | 0, _, _, hf => absurd hf (Nat.not_lt_zero _)
  | f+1, s, g, hf => by
    unfold skipCharFindLoop
    refine iteInduction (fun hp => ?_) (fun hp => Or.inr ⟨rfl, LE_eof c (Nat.not_lt.mp hp)⟩)
    have g1 := advanceChar_good h g
    have hp1 := advanceChar_pos_sz g hp
    have hlt := advanceChar_lt h g hp
    have hr := g.char_eq hp
    refine iteInduction
      (fun hc => Or.inl ⟨_, s.pos, rfl, g1, Nat.le_refl _, hp, hr.symm.trans hc, hp1, rfl, advanceChar_eofZ s⟩)
      (fun hc => ?_)
    have hskip : LE E c s.pos = LE E c (advanceChar E s).pos :=
      hp1 ▸ LE_skip h hp (fun hx => hc (hr.trans hx))
    rcases skipCharFindLoop_lex h c f _ g1 (Parser.fuel_step hf hp hlt) with
      ⟨s', p', hs', g', hle, hr'⟩ | ⟨hs', hLE⟩
    · exact Or.inl ⟨s', p', hs', g', Nat.le_trans (Nat.le_of_lt hlt) hle, hr'.1, hr'.2.1, hr'.2.2.1,
        hskip.trans hr'.2.2.2.1, hr'.2.2.2.2⟩
    · exact Or.inr ⟨hs', hskip.trans hLE⟩

/-- `strLitLoop` does not run out of fuel and ends where the lexer's scan `x` ends, or like it not at all -/
def LitOK (E : Env) (x : Option Nat) (r : Option (Option Sc)) : Prop :=
  ∃ y, r = some y ∧ y.map (·.pos) = x ∧ ∀ s', y = some s' → EofZ E s'

/-- The invariant of the loop of `skipStringLiteral`: with `maybeCloser` (`b`) the state is inside
    the literal; without, it is on the second quote of a doubled quote, behind which the lexer's
    scan goes on. -/
theorem strLitLoop_lex (h : DecOK E) (c : Nat) : ∀ (f : Nat) (b : Bool) (s : Sc), Good E s →
    E.len - s.pos < f → (b = false → s.pos < E.len ∧ s.char = c) →
    LitOK E (LE E c (if b then s.pos else s.nextPos)) (strLitLoop E c f b s)
  | 0, _, _, _, hf, _ => absurd hf (Nat.not_lt_zero _)
  | f+1, false, s, g, hf, hb => by
    obtain ⟨hp, hc⟩ := hb rfl
    have ih := strLitLoop_lex h c f true _ (advanceChar_good h g)
      (Parser.fuel_step hf hp (advanceChar_lt h g hp)) nofun
    rw [if_pos rfl, advanceChar_pos] at ih
    unfold strLitLoop
    rw [skipCharFind_of_eq hp hc]
    exact ih
  | f+1, true, s, g, hf, _ => by
    unfold strLitLoop skipCharFind
    rcases skipCharFindLoop_lex h c (E.len + 1) s g (Parser.fuel_init _ _) with
      ⟨s1, p', hs1, g1, hle, hlt, hrn, hpos, hLE, hz1⟩ | ⟨hs1, hLE⟩
    · have hpk := (peekChar_true_iff (E := E) (c := c) (s := s1)).trans ((g1.at_iff c).trans (by rw [hpos]))
      rw [hs1, if_pos rfl, hLE]
      dsimp only
      cases ht : peekChar E c s1 with
      | false =>
        exact ⟨_, rfl, (congrArg some hpos).trans
          (LE_close hlt hrn (fun hx => absurd (hpk.mpr hx) (ht ▸ Bool.false_ne_true))).symm,
          fun _ hs => Option.some.inj hs ▸ hz1⟩
      | true =>
        have hx := hpk.mp ht
        have ih := strLitLoop_lex h c f false s1 g1
          (Parser.fuel_step hf (Nat.lt_of_le_of_lt hle hlt)
            (hpos ▸ Nat.lt_of_le_of_lt hle (sz_lt_next h hlt)))
          (fun _ => peekChar_true_iff.mp ht)
        rw [if_neg Bool.false_ne_true, (g1.next (peekChar_true_iff.mp ht).1).1, hpos,
          ← LE_dbl h hlt hrn hx.1 hx.2] at ih
        exact ih
    · rw [hs1, if_pos rfl, hLE]
      exact ⟨none, rfl, rfl, nofun⟩

theorem lexNext_quote (h : DecOK E) (g : Good E s) (hp : s.pos < E.len)
    (hc : s.char = 34 ∨ s.char = 39) : lexNext E s.pos = LE E s.char (s.pos + sz E s.pos) := by
  rw [g.char_eq hp] at hc ⊢
  exact lexNext_lit h hp hc

theorem skipStringLiteral_quote (h : DecOK E) (g : Good E s) (hp : s.pos < E.len)
    (hc : s.char = 34 ∨ s.char = 39) :
    ∃ r, skipStringLiteral E s =
        (match r with
          | some s' => (s', .ok ())
          | none => (s, .err (errAt s .missingQuote))) ∧
      r.map (·.pos) = LE E s.char (s.pos + sz E s.pos) ∧ ∀ s', r = some s' → EofZ E s' := by
  obtain ⟨r, hr, hpos⟩ := strLitLoop_lex h s.char (E.len + 1) true _ (advanceChar_good h g)
    (Parser.fuel_init _ _) nofun
  rw [if_pos rfl, advanceChar_pos_sz g hp] at hpos
  have hsk : (if (skipChar E 34 s).2 = true then skipChar E 34 s else skipChar E 39 s) =
      (advanceChar E s, true) := by
    rcases hc with hc | hc
    · rw [skipChar_of_eq hp hc, if_pos rfl]
    · have hneg : ¬ (s.pos < E.len ∧ s.char = 34) := fun hx =>
        absurd (hx.2.symm.trans hc) (by decide)
      rw [skipChar_of_not hneg, skipChar_of_eq hp hc]; rfl
  refine ⟨r, ?_, hpos⟩
  unfold skipStringLiteral
  simp only [hsk, if_true, hr]
  cases r <;> rfl

/-- Bridge lemma of C02 for literals: `skipStringLiteral` and the reference lexer see the same literals, and
    `missingQuote` is reported exactly when the lexer finds the literal unclosed.  `skipStringLiteral_quote`
    gives `EofZ` of the end state besides. -/
theorem skipStringLiteral_eq_lexer (h : DecOK E) {s : Sc} (g : Good E s) :
    (∀ s1 u, skipStringLiteral E s = (s1, .ok u) →
      s.pos < E.len ∧ (s.char = 34 ∨ s.char = 39) ∧
        LE E s.char (s.pos + sz E s.pos) = some s1.pos) ∧
    (∀ s1 e, skipStringLiteral E s = (s1, .err e) →
      s.pos < E.len ∧ (s.char = 34 ∨ s.char = 39) ∧
        LE E s.char (s.pos + sz E s.pos) = none ∧ s1 = s ∧ e = errAt s .missingQuote) ∧
    (∀ s1, skipStringLiteral E s = (s1, .no) →
      s1 = s ∧ ¬ (s.pos < E.len ∧ (s.char = 34 ∨ s.char = 39))) := by
  by_cases hq : s.pos < E.len ∧ (s.char = 34 ∨ s.char = 39)
  · obtain ⟨hp, hc⟩ := hq
    obtain ⟨r, hres, hpos, _⟩ := skipStringLiteral_quote h g hp hc
    rw [hres]
    cases r with
    | none => exact ⟨fun _ _ he => (by cases he), fun _ _ he => by cases he; exact ⟨hp, hc, hpos.symm, rfl, rfl⟩,
      fun _ he => (by cases he)⟩
    | some s' => exact ⟨fun _ _ he => by cases he; exact ⟨hp, hc, hpos.symm⟩, fun _ _ he => (by cases he),
      fun _ he => (by cases he)⟩
  · rw [skipStringLiteral_of_not hq]
    exact ⟨fun _ _ he => (by cases he), fun _ _ he => (by cases he), fun _ he => by cases he; exact ⟨rfl, hq⟩⟩

theorem skipStringLiteral_lc (h : DecOK E) (l : LC E s) : LC E (skipStringLiteral E s).1 := by
  refine ⟨(skipStringLiteral_xok h l.good).good, ?_⟩
  obtain ⟨hok, herr, hno⟩ := skipStringLiteral_eq_lexer h l.good
  rcases hr : skipStringLiteral E s with ⟨s1, u | _ | e⟩
  · obtain ⟨hp, hc, hle⟩ := hok s1 u hr
    exact l.code.next hp ((lexNext_quote h l.good hp hc).trans hle)
  · rw [(hno s1 hr).1]; exact l.code
  · rw [(herr s1 e hr).2.2.2.1]; exact l.code

theorem plainAt_of_noComment (h : DecOK E) (g : Good E s) {s1 : Sc} (heq : skipStringLiteral E s = (s1, .no))
    (hf : ¬ (skipComment E s).2 = true) (hp : s.pos < E.len) : PlainAt E s.pos := by
  have hq := ((skipStringLiteral_eq_lexer h g).2.2 s1 heq).2
  obtain ⟨hl, hb⟩ := ((skipComment_ok h g).no (Bool.eq_false_iff.mpr hf)).2 hp
  have hch := g.char_eq hp
  exact ⟨fun hx => hq ⟨hp, Or.inl (hch.trans hx)⟩, fun hx => hq ⟨hp, Or.inr (hch.trans hx)⟩, hl, hb⟩

theorem advanceChar_lc_code (h : DecOK E) {s1 : Sc} (l : LC E s)
    (heq : skipStringLiteral E s = (s1, .no)) (hf : ¬ (skipComment E s).2 = true) :
    LC E (advanceChar E s) :=
  advanceChar_lc h l (plainAt_of_noComment h l.good heq hf)

theorem nameChar_plain (hc : ClassAscii E) (hn : isNameChar E c = true) :
    c ≠ 34 ∧ c ≠ 39 ∧ c ≠ 45 ∧ c ≠ 47 :=
  have ne : ∀ {k}, isNameChar E k = false → c ≠ k := fun hk hx =>
    Bool.noConfusion ((hx ▸ hn).symm.trans hk)
  ⟨ne hc.dquote, ne hc.squote, ne hc.minus, ne hc.slash⟩

theorem advanceChar_lc_name (h : DecOK E) (hc : ClassAscii E) (l : LC E s)
    (hn : isNameChar E s.char = true) : LC E (advanceChar E s) :=
  advanceChar_lc h l fun hp => .of_ne (l.good.char_eq hp ▸ nameChar_plain hc hn)

theorem lc_sim (h : DecOK E) (ha : AsciiDec E) (hc : ClassAscii E) : Sim E E 0 (LC E) Eq where
  dec := h
  len := rfl
  letter := rfl
  digit := rfl
  good := LC.good
  adv_code := fun l hq hf => ⟨advanceChar_lc_code h l hq hf, (Sc.sh_zero _).symm⟩
  adv_name := fun l hn => ⟨advanceChar_lc_name h hc l hn, (Sc.sh_zero _).symm⟩
  skipString := fun hkw l => by
    rcases hkw with rfl | rfl
    · exact ⟨skipString_lc h ha _ kwAS_ok.1 kwAS_upper l, (shB_zero _).symm⟩
    · exact ⟨skipString_lc h ha _ kwVALUES_ok.1 kwVALUES_upper l, (shB_zero _).symm⟩
  skipComment := fun l => ⟨skipComment_lc h l, (shB_zero _).symm⟩
  skipStringLiteral := fun l => ⟨skipStringLiteral_lc h l, (shR_zero _).symm⟩
  extract := fun _ _ => rfl
  refl := fun _ => rfl
  star := fun e => e ▸ Iff.rfl

end
end Sqlair
