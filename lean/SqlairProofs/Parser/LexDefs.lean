/-
  Property C02, lexer side.  The loop of the reference lexer iterates `lexNext` from one code offset (`LexCode`) to
  the next and collects `stepRegions` (`lexLoop_next`).  So its regions are exactly the literal and comment steps
  (`lexLoop_spec`), no code offset lies strictly inside one (`lexRegions_clear`), and where it reports an unclosed
  literal the end of the input is no code offset (`lexLoop_error`).
-/
import SqlairProofs.Parser.Scan
import SqlairProofs.Utf8

namespace Sqlair

/-- The classifier assumption of C02.  True of every classifier that agrees with the ASCII tables below 128
    (`ClassAscii.of_ascii`), so of `unicode.IsLetter` / `unicode.IsDigit`. -/
structure ClassAscii (E : Env) : Prop where
  dquote : isNameChar E 34 = false
  squote : isNameChar E 39 = false
  minus : isNameChar E 45 = false
  slash : isNameChar E 47 = false
  space : isNameChar E 32 = false
  tab : isNameChar E 9 = false
  cr : isNameChar E 13 = false
  nl : isNameChar E 10 = false

theorem ClassAscii.of_ascii (E : Env) (hl : ∀ c, c < 128 → E.letter c = asciiLetter c)
    (hd : ∀ c, c < 128 → E.digit c = asciiDigit c) : ClassAscii E :=
  have key := not_nameChar_of_ascii hl hd
  ⟨key 34 (by decide), key 39 (by decide), key 45 (by decide), key 47 (by decide),
    key 32 (by decide), key 9 (by decide), key 13 (by decide), key 10 (by decide)⟩

theorem ClassAscii.classSep {E : Env} (hc : ClassAscii E) : ClassSep E := by
  have six : ∀ c, c = 9 ∨ c = 10 ∨ c = 13 ∨ c = 32 ∨ c = 45 ∨ c = 47 → isNameChar E c = false := by
    rintro c (rfl | rfl | rfl | rfl | rfl | rfl)
    · exact hc.tab
    · exact hc.nl
    · exact hc.cr
    · exact hc.space
    · exact hc.minus
    · exact hc.slash
  exact ⟨fun c hcc => (isNameChar_eq_false_iff.mp (six c hcc)).1,
    fun c hcc => (isNameChar_eq_false_iff.mp (six c hcc)).2.1⟩

section
variable {E : Env} {p : Nat}

abbrev rn (E : Env) (p : Nat) : Nat := (E.dec E.inp p).1
abbrev sz (E : Env) (p : Nat) : Nat := (E.dec E.inp p).2

/-- `litEnd` with the fuel `lexLoop` gives it (`LCE`, `BCE`: the same for the two comment scanners).
    Inside `namespace Sqlair` the name hides core's class `LE`; the notation `≤` is not affected. -/
abbrev LE (E : Env) (q p : Nat) : Option Nat := litEnd E q (E.len + 1) p
abbrev LCE (E : Env) (p : Nat) : Nat := lineCommentEnd E (E.len + 1) p
abbrev BCE (E : Env) (p : Nat) : Nat := blockCommentEnd E (E.len + 1) p

theorem max_sz (h : DecOK E) (hp : p < E.len) : max (sz E p) 1 = sz E p :=
  Nat.max_eq_left (h.size_pos p hp)

/-! Each scanning function recurses on its fuel, always at a larger offset, so fuel beyond
    the distance to the end of the input is never used. -/

theorem sz_lt_skip (p : Nat) : p < p + max (sz E p) 1 :=
  Nat.lt_add_of_pos_right (Nat.le_max_right _ _)

theorem sz_lt_dbl (h1 : 1 ≤ sz E p) : p < p + sz E p + sz E (p + sz E p) :=
  Nat.lt_of_lt_of_le (Nat.lt_add_of_pos_right h1) (Nat.le_add_right _ _)

theorem sz_lt_next (h : DecOK E) (hp : p < E.len) : p < p + sz E p :=
  Nat.lt_add_of_pos_right (h.size_pos p hp)

theorem sz_skip_le (h : DecOK E) (hp : p < E.len) : p + max (sz E p) 1 ≤ E.len := by
  rw [max_sz h hp]; exact h.size_le p hp

def LexAfter (E : Env) (p : Nat) (r : Option Nat) : Prop := ∀ e, r = some e → p < e ∧ e ≤ E.len

theorem LexAfter.some {e : Nat} (h1 : p < e) (h2 : e ≤ E.len) : LexAfter E p (some e) :=
  fun _ he => Option.some.inj he ▸ ⟨h1, h2⟩

theorem LexAfter.mono {p' : Nat} {r : Option Nat} (ha : LexAfter E p' r) (hlt : p < p') : LexAfter E p r :=
  fun e he => ⟨Nat.lt_trans hlt (ha e he).1, (ha e he).2⟩

theorem litEnd_succ (q f p : Nat) : litEnd E q (f+1) p =
    if p ≥ E.len then none else
    if rn E p = q then
      if p + sz E p < E.len ∧ rn E (p + sz E p) = q then litEnd E q f (p + sz E p + sz E (p + sz E p))
      else some (p + sz E p)
    else litEnd E q f (p + max (sz E p) 1) :=
  rfl

theorem litEnd_fuel (h : DecOK E) (q : Nat) : ∀ (f p : Nat), E.len - p < f →
    litEnd E q (f+1) p = litEnd E q f p
  | 0, _, hf => absurd hf (Nat.not_lt_zero _)
  | f+1, p, hf => by
    rw [litEnd_succ q (f+1), litEnd_succ q f]
    refine ite_congr rfl (fun _ => rfl) (fun hp => ?_)
    have hp := Nat.not_le.mp hp
    exact ite_congr rfl
      (fun _ => ite_congr rfl
        (fun _ => litEnd_fuel h q f _ (Parser.fuel_step hf hp (sz_lt_dbl (h.size_pos p hp)))) (fun _ => rfl))
      (fun _ => litEnd_fuel h q f _ (Parser.fuel_step hf hp (sz_lt_skip p)))

theorem LE_eof (q : Nat) (hp : E.len ≤ p) : LE E q p = none := by
  unfold LE
  rw [litEnd_succ, if_pos hp]

theorem LE_skip (h : DecOK E) {q : Nat} (hp : p < E.len) (hq : rn E p ≠ q) :
    LE E q p = LE E q (p + sz E p) := by
  unfold LE
  rw [litEnd_succ, if_neg (Nat.not_le.mpr hp), if_neg hq, max_sz h hp]
  exact (litEnd_fuel h q _ _ (Parser.fuel_step (Parser.fuel_init _ _) hp (sz_lt_next h hp))).symm

theorem LE_close {q : Nat} (hp : p < E.len) (hq : rn E p = q)
    (hn : ¬ (p + sz E p < E.len ∧ rn E (p + sz E p) = q)) : LE E q p = some (p + sz E p) := by
  unfold LE
  rw [litEnd_succ, if_neg (Nat.not_le.mpr hp), if_pos hq, if_neg hn]

theorem LE_dbl (h : DecOK E) {q : Nat} (hp : p < E.len) (hq : rn E p = q)
    (hp1 : p + sz E p < E.len) (hq1 : rn E (p + sz E p) = q) :
    LE E q p = LE E q (p + sz E p + sz E (p + sz E p)) := by
  unfold LE
  rw [litEnd_succ, if_neg (Nat.not_le.mpr hp), if_pos hq, if_pos ⟨hp1, hq1⟩]
  exact (litEnd_fuel h q _ _ (Parser.fuel_step (Parser.fuel_init _ _) hp (sz_lt_dbl (h.size_pos p hp)))).symm

/-- True of `decodeRune`, which accepts no over-long encoding (`decodeRune_small`). -/
def SmallDec (E : Env) : Prop :=
  ∀ p, p < E.len → rn E p < 128 → sz E p = 1 ∧ bAt E.inp p = rn E p

/-- Two ASCII runes in a row (the openers `--`, `/*` and the closer `*/`) are two bytes. -/
theorem SmallDec.open_bytes (hsm : SmallDec E) {a b p : Nat}
    (h : rn E p = a ∧ p + sz E p < E.len ∧ rn E (p + sz E p) = b)
    (ha : a < 128 := by decide) (hb : b < 128 := by decide) :
    sz E p = 1 ∧ bAt E.inp p = a ∧ p + 1 < E.len ∧ sz E (p + 1) = 1 ∧ bAt E.inp (p + 1) = b := by
  obtain ⟨h1, h2, h3⟩ := h
  obtain ⟨hs1, hb1⟩ := hsm p (by omega) (by omega)
  rw [hs1] at h2 h3
  obtain ⟨hs2, hb2⟩ := hsm _ h2 (by omega)
  exact ⟨hs1, hb1.trans h1, h2, hs2, hb2.trans h3⟩

theorem LE_shape (h : DecOK E) (hsm : SmallDec E) {c : Nat} (hc : c < 128) {s e : Nat}
    (he : LE E c s = some e) :
    ∃ q, e = q + 1 ∧ s ≤ q ∧ bAt E.inp q = c ∧ ¬ (q + 1 < E.len ∧ rn E (q + 1) = c) := by
  by_cases hp : s < E.len
  · by_cases hq : rn E s = c
    · obtain ⟨hs1, hb⟩ := hsm s hp (hq ▸ hc)
      by_cases hdb : s + sz E s < E.len ∧ rn E (s + sz E s) = c
      · rw [LE_dbl h hp hq hdb.1 hdb.2] at he
        obtain ⟨q, rfl, hsq, hrest⟩ := LE_shape h hsm hc he
        exact ⟨q, rfl, Nat.le_trans (Nat.le_add_right _ _) (Nat.le_trans (Nat.le_add_right _ _) hsq),
          hrest⟩
      · rw [LE_close hp hq hdb] at he
        rw [hs1] at he hdb
        cases he
        exact ⟨s, rfl, Nat.le_refl _, hb.trans hq, hdb⟩
    · rw [LE_skip h hp hq] at he
      obtain ⟨q, rfl, hsq, hrest⟩ := LE_shape h hsm hc he
      exact ⟨q, rfl, Nat.le_trans (Nat.le_add_right _ _) hsq, hrest⟩
  · rw [LE_eof c (Nat.not_lt.mp hp)] at he
    cases he
termination_by E.len - s
decreasing_by
  · exact Nat.sub_lt_sub_left hp (sz_lt_dbl (h.size_pos s hp))
  · exact Nat.sub_lt_sub_left hp (sz_lt_next h hp)

theorem litEnd_after (h : DecOK E) (q : Nat) : ∀ (f p : Nat), LexAfter E p (litEnd E q f p)
  | 0, _ => nofun
  | f+1, p => by
    rw [litEnd_succ]
    refine iteInduction (fun _ => nofun) (fun hp => ?_)
    have hp := Nat.not_le.mp hp
    exact iteInduction
      (fun _ => iteInduction (fun _ => (litEnd_after h q f _).mono (sz_lt_dbl (h.size_pos p hp)))
        (fun _ => LexAfter.some (sz_lt_next h hp) (h.size_le p hp)))
      (fun _ => (litEnd_after h q f _).mono (sz_lt_skip p))

theorem LE_bounds (h : DecOK E) {q e : Nat} (he : LE E q p = some e) : p < e ∧ e ≤ E.len :=
  litEnd_after h q _ _ e he

theorem lineCommentEnd_succ (f p : Nat) : lineCommentEnd E (f+1) p =
    if p ≥ E.len then E.len else
    if rn E p = 10 then p else lineCommentEnd E f (p + max (sz E p) 1) :=
  rfl

theorem lineCommentEnd_fuel : ∀ (f p : Nat), E.len - p < f →
    lineCommentEnd E (f+1) p = lineCommentEnd E f p
  | 0, _, hf => absurd hf (Nat.not_lt_zero _)
  | f+1, p, hf => by
    rw [lineCommentEnd_succ (f+1), lineCommentEnd_succ f]
    exact ite_congr rfl (fun _ => rfl) (fun hp => ite_congr rfl (fun _ => rfl)
      (fun _ => lineCommentEnd_fuel f _ (Parser.fuel_step hf (Nat.not_le.mp hp) (sz_lt_skip p))))

theorem LCE_eof (hp : E.len ≤ p) : LCE E p = E.len := by
  unfold LCE
  rw [lineCommentEnd_succ, if_pos hp]

theorem LCE_nl (hp : p < E.len) (hq : rn E p = 10) : LCE E p = p := by
  unfold LCE
  rw [lineCommentEnd_succ, if_neg (Nat.not_le.mpr hp), if_pos hq]

theorem LCE_skip (h : DecOK E) (hp : p < E.len) (hq : rn E p ≠ 10) :
    LCE E p = LCE E (p + sz E p) := by
  unfold LCE
  rw [lineCommentEnd_succ, if_neg (Nat.not_le.mpr hp), if_neg hq, max_sz h hp]
  exact (lineCommentEnd_fuel _ _ (Parser.fuel_step (Parser.fuel_init _ _) hp (sz_lt_next h hp))).symm

theorem lineCommentEnd_bounds (h : DecOK E) : ∀ (f p : Nat), p ≤ E.len →
    p ≤ lineCommentEnd E f p ∧ lineCommentEnd E f p ≤ E.len
  | 0, p, hp => ⟨Nat.le_refl p, hp⟩
  | f+1, p, hp => by
    rw [lineCommentEnd_succ]
    split
    · exact ⟨hp, Nat.le_refl _⟩
    · next hlt =>
      split
      · exact ⟨Nat.le_refl p, hp⟩
      · have ih := lineCommentEnd_bounds h f _ (sz_skip_le h (Nat.not_le.mp hlt))
        exact ⟨Nat.le_trans (Nat.le_of_lt (sz_lt_skip p)) ih.1, ih.2⟩

theorem LCE_bounds (h : DecOK E) (hp : p ≤ E.len) : p ≤ LCE E p ∧ LCE E p ≤ E.len :=
  lineCommentEnd_bounds h _ _ hp

theorem LCE_shape (h : DecOK E) (s : Nat) :
    (∀ i, s ≤ i → i < LCE E s → bAt E.inp i ≠ 10) ∧ (LCE E s = E.len ∨ bAt E.inp (LCE E s) = 10) := by
  by_cases hlt : s < E.len
  · by_cases hq : rn E s = 10
    · rw [LCE_nl hlt hq]
      exact ⟨fun i h1 h2 => absurd h2 (Nat.not_lt.mpr h1), Or.inr (h.nl s hlt hq).2⟩
    · rw [LCE_skip h hlt hq]
      obtain ⟨ih1, ih2⟩ := LCE_shape h (s + sz E s)
      refine ⟨fun i hi hie => ?_, ih2⟩
      by_cases hin : i < s + sz E s
      · exact h.no_nl s hlt hq i hi hin
      · exact ih1 i (Nat.not_lt.mp hin) hie
  · rw [LCE_eof (Nat.not_lt.mp hlt)]
    exact ⟨fun i h1 h2 => absurd h2 (Nat.not_lt.mpr (Nat.le_trans (Nat.not_lt.mp hlt) h1)), Or.inl rfl⟩
termination_by E.len - s
decreasing_by exact Nat.sub_lt_sub_left hlt (sz_lt_next h hlt)

/-- The end of a line comment is the first newline byte (or the end of the input), so it is
    the same on two inputs with the same newline bytes. -/
theorem LCE_congr {F : Env} (hE : DecOK E) (hF : DecOK F) (hlen : F.len = E.len)
    (hnl : ∀ i, bAt F.inp i = 10 ↔ bAt E.inp i = 10) {s : Nat} (hs : s ≤ E.len) :
    LCE F s = LCE E s := by
  obtain ⟨a1, a2⟩ := LCE_shape hE s
  obtain ⟨b1, b2⟩ := LCE_shape hF s
  have ba := LCE_bounds hE hs
  have bb := LCE_bounds hF (hlen ▸ hs)
  rcases Nat.lt_trichotomy (LCE F s) (LCE E s) with hlt | heq | hgt
  · rcases b2 with b2 | b2
    · omega
    · exact absurd ((hnl _).mp b2) (a1 _ bb.1 hlt)
  · exact heq
  · rcases a2 with a2 | a2
    · omega
    · exact absurd ((hnl _).mpr a2) (b1 _ ba.1 hgt)

theorem blockCommentEnd_succ (f p : Nat) : blockCommentEnd E (f+1) p =
    if p ≥ E.len then E.len else
    if rn E p = 42 ∧ p + sz E p < E.len ∧ rn E (p + sz E p) = 47
    then p + sz E p + sz E (p + sz E p)
    else blockCommentEnd E f (p + max (sz E p) 1) :=
  rfl

theorem blockCommentEnd_fuel : ∀ (f p : Nat), E.len - p < f →
    blockCommentEnd E (f+1) p = blockCommentEnd E f p
  | 0, _, hf => absurd hf (Nat.not_lt_zero _)
  | f+1, p, hf => by
    rw [blockCommentEnd_succ (f+1), blockCommentEnd_succ f]
    exact ite_congr rfl (fun _ => rfl) (fun hp => ite_congr rfl (fun _ => rfl)
      (fun _ => blockCommentEnd_fuel f _ (Parser.fuel_step hf (Nat.not_le.mp hp) (sz_lt_skip p))))

theorem BCE_eof (hp : E.len ≤ p) : BCE E p = E.len := by
  unfold BCE
  rw [blockCommentEnd_succ, if_pos hp]

theorem BCE_close (hp : p < E.len) (hq : rn E p = 42) (hp1 : p + sz E p < E.len)
    (hq1 : rn E (p + sz E p) = 47) : BCE E p = p + sz E p + sz E (p + sz E p) := by
  unfold BCE
  rw [blockCommentEnd_succ, if_neg (Nat.not_le.mpr hp), if_pos ⟨hq, hp1, hq1⟩]

theorem BCE_skip (h : DecOK E) (hp : p < E.len)
    (hn : ¬ (rn E p = 42 ∧ p + sz E p < E.len ∧ rn E (p + sz E p) = 47)) :
    BCE E p = BCE E (p + sz E p) := by
  unfold BCE
  rw [blockCommentEnd_succ, if_neg (Nat.not_le.mpr hp), if_neg hn, max_sz h hp]
  exact (blockCommentEnd_fuel _ _ (Parser.fuel_step (Parser.fuel_init _ _) hp (sz_lt_next h hp))).symm

theorem blockCommentEnd_bounds (h : DecOK E) : ∀ (f p : Nat), p ≤ E.len →
    p ≤ blockCommentEnd E f p ∧ blockCommentEnd E f p ≤ E.len
  | 0, p, hp => ⟨Nat.le_refl p, hp⟩
  | f+1, p, hp => by
    rw [blockCommentEnd_succ]
    split
    · exact ⟨hp, Nat.le_refl _⟩
    · next hlt =>
      split
      · next hq =>
        exact ⟨Nat.le_trans (Nat.le_add_right _ _) (Nat.le_add_right _ _), h.size_le _ hq.2.1⟩
      · have ih := blockCommentEnd_bounds h f _ (sz_skip_le h (Nat.not_le.mp hlt))
        exact ⟨Nat.le_trans (Nat.le_of_lt (sz_lt_skip p)) ih.1, ih.2⟩

theorem BCE_bounds (h : DecOK E) (hp : p ≤ E.len) : p ≤ BCE E p ∧ BCE E p ≤ E.len :=
  blockCommentEnd_bounds h _ _ hp

theorem BCE_shape (h : DecOK E) (hsm : SmallDec E) (s : Nat) :
    BCE E s = E.len ∨ ∃ q, BCE E s = q + 2 ∧ s ≤ q ∧ bAt E.inp q = 42 ∧ bAt E.inp (q + 1) = 47 := by
  by_cases hlt : s < E.len
  · by_cases hq : rn E s = 42 ∧ s + sz E s < E.len ∧ rn E (s + sz E s) = 47
    · obtain ⟨hs1, hb1, _, hs2, hb2⟩ := hsm.open_bytes hq
      rw [BCE_close hlt hq.1 hq.2.1 hq.2.2, hs1, hs2]
      exact Or.inr ⟨s, rfl, Nat.le_refl _, hb1, hb2⟩
    · rw [BCE_skip h hlt hq]
      rcases BCE_shape h hsm (s + sz E s) with ih | ⟨q, hq, hsq, hrest⟩
      · exact Or.inl ih
      · exact Or.inr ⟨q, hq, Nat.le_trans (Nat.le_add_right _ _) hsq, hrest⟩
  · exact Or.inl (BCE_eof (Nat.not_lt.mp hlt))
termination_by E.len - s
decreasing_by exact Nat.sub_lt_sub_left hlt (sz_lt_next h hlt)

def LineOpen (E : Env) (p : Nat) : Prop := rn E p = 45 ∧ p + sz E p < E.len ∧ rn E (p + sz E p) = 45

def BlockOpen (E : Env) (p : Nat) : Prop := rn E p = 47 ∧ p + sz E p < E.len ∧ rn E (p + sz E p) = 42

instance (E : Env) (p : Nat) : Decidable (LineOpen E p) := inferInstanceAs (Decidable (_ ∧ _ ∧ _))
instance (E : Env) (p : Nat) : Decidable (BlockOpen E p) := inferInstanceAs (Decidable (_ ∧ _ ∧ _))

structure PlainAt (E : Env) (p : Nat) : Prop where
  dquote : rn E p ≠ 34
  squote : rn E p ≠ 39
  line : ¬ LineOpen E p
  block : ¬ BlockOpen E p

/-- One step of `lexLoop`: the next code offset after the code offset `p < len`; `none` = the literal opened at `p`
    never closes. -/
def lexNext (E : Env) (p : Nat) : Option Nat :=
  let p1 := p + max (sz E p) 1
  if rn E p = 34 ∨ rn E p = 39 then litEnd E (rn E p) (E.len + 1) p1
  else if rn E p = 45 ∧ p1 < E.len ∧ rn E p1 = 45 then
    some (lineCommentEnd E (E.len + 1) (p1 + sz E p1))
  else if rn E p = 47 ∧ p1 < E.len ∧ rn E p1 = 42 then
    some (blockCommentEnd E (E.len + 1) (p1 + sz E p1))
  else some p1

theorem lexNext_eq (h : DecOK E) (hp : p < E.len) : lexNext E p =
    if rn E p = 34 ∨ rn E p = 39 then LE E (rn E p) (p + sz E p)
    else if rn E p = 45 ∧ p + sz E p < E.len ∧ rn E (p + sz E p) = 45 then
      some (LCE E (p + sz E p + sz E (p + sz E p)))
    else if rn E p = 47 ∧ p + sz E p < E.len ∧ rn E (p + sz E p) = 42 then
      some (BCE E (p + sz E p + sz E (p + sz E p)))
    else some (p + sz E p) := by
  unfold lexNext
  rw [max_sz h hp]

theorem lexNext_lit (h : DecOK E) (hp : p < E.len) (hq : rn E p = 34 ∨ rn E p = 39) :
    lexNext E p = LE E (rn E p) (p + sz E p) := by
  rw [lexNext_eq h hp, if_pos hq]

theorem lexNext_line (h : DecOK E) (hp : p < E.len) (hl : LineOpen E p) :
    lexNext E p = some (LCE E (p + sz E p + sz E (p + sz E p))) := by
  unfold LineOpen at hl
  rw [lexNext_eq h hp, if_neg (by rw [hl.1]; decide), if_pos hl]

theorem lexNext_block (h : DecOK E) (hp : p < E.len) (hb : BlockOpen E p) :
    lexNext E p = some (BCE E (p + sz E p + sz E (p + sz E p))) := by
  unfold BlockOpen at hb
  rw [lexNext_eq h hp, if_neg (by rw [hb.1]; decide),
    if_neg (fun hl => absurd (hb.1.symm.trans hl.1) (by decide)), if_pos hb]

theorem lexNext_plain (h : DecOK E) (hp : p < E.len) (hpl : PlainAt E p) :
    lexNext E p = some (p + sz E p) := by
  have hl := hpl.line
  have hb := hpl.block
  unfold LineOpen at hl
  unfold BlockOpen at hb
  rw [lexNext_eq h hp, if_neg (fun hq => hq.elim hpl.dquote hpl.squote), if_neg hl, if_neg hb]

theorem lexNext_after (h : DecOK E) (hp : p < E.len) : LexAfter E p (lexNext E p) := by
  have comment : ∀ {x : Nat}, p + sz E p + sz E (p + sz E p) ≤ x ∧ x ≤ E.len →
      LexAfter E p (some x) :=
    fun hb => LexAfter.some (Nat.lt_of_lt_of_le (sz_lt_dbl (h.size_pos p hp)) hb.1) hb.2
  rw [lexNext_eq h hp]
  exact iteInduction (fun _ => (litEnd_after h _ _ _).mono (sz_lt_next h hp)) (fun _ =>
    iteInduction (fun hl => comment (LCE_bounds h (h.size_le _ hl.2.1))) (fun _ =>
    iteInduction (fun hb => comment (BCE_bounds h (h.size_le _ hb.2.1))) (fun _ =>
    LexAfter.some (sz_lt_next h hp) (h.size_le p hp))))

/-- `Reach E p x`: the lexer, in state *code* at offset `p`, later is in state *code* at
    offset `x` -/
inductive Reach (E : Env) : Nat → Nat → Prop where
  | refl (p : Nat) : Reach E p p
  | step {p e x : Nat} : p < E.len → lexNext E p = some e → Reach E e x → Reach E p x

def LexCode (E : Env) (x : Nat) : Prop := Reach E 0 x

theorem Reach.trans {a b c : Nat} (h1 : Reach E a b) (h2 : Reach E b c) : Reach E a c := by
  induction h1 with
  | refl p => exact h2
  | step hp he _ ih => exact Reach.step hp he (ih h2)

theorem Reach.le (h : DecOK E) {p x : Nat} (hr : Reach E p x) : p ≤ x := by
  induction hr with
  | refl p => exact Nat.le_refl _
  | step hp he _ ih => exact Nat.le_trans (Nat.le_of_lt (lexNext_after h hp _ he).1) ih

theorem LexCode.zero : LexCode E 0 := Reach.refl 0

theorem LexCode.next {e : Nat} (hc : LexCode E p) (hp : p < E.len) (he : lexNext E p = some e) :
    LexCode E e :=
  Reach.trans hc (Reach.step hp he (Reach.refl e))

theorem Reach.next {e x : Nat} (hn : lexNext E p = some e) (hr : Reach E p x) :
    x = p ∨ Reach E e x := by
  cases hr with
  | refl => exact Or.inl rfl
  | step _ hn' hr' => exact Or.inr (Option.some.inj (hn.symm.trans hn') ▸ hr')

theorem Reach.iff_next {e x : Nat} (hp : p < E.len) (hn : lexNext E p = some e) :
    Reach E p x ↔ x = p ∨ Reach E e x :=
  ⟨Reach.next hn, fun h => h.elim (· ▸ Reach.refl _) (Reach.step hp hn)⟩

end

section
variable {E : Env}

theorem LexCode.plain (h : DecOK E) {p : Nat} (hc : LexCode E p) (hp : p < E.len) (hpl : PlainAt E p) :
    LexCode E (p + sz E p) :=
  hc.next hp (lexNext_plain h hp hpl)

/-- With `r.a` and `lexNext E r.a = some r.b` this describes a region of the reference lexer completely
    (`lexLoop_spec`). -/
def OpqKind (E : Env) (r : Region) : Prop :=
  (r.kind = .lit ∧ (rn E r.a = 34 ∨ rn E r.a = 39)) ∨
  (r.kind = .comment ∧ ¬ (rn E r.a = 34 ∨ rn E r.a = 39) ∧ (LineOpen E r.a ∨ BlockOpen E r.a))

theorem OpqKind.unique {r r' : Region} (ha : r.a = r'.a) (hk : OpqKind E r) (hk' : OpqKind E r') :
    r.kind = r'.kind := by
  rcases hk with ⟨h1, h2⟩ | ⟨h1, h2, _⟩ <;> rcases hk' with ⟨h1', h2'⟩ | ⟨h1', h2', _⟩
  · rw [h1, h1']
  · rw [ha] at h2; exact absurd h2 h2'
  · rw [ha] at h2; exact absurd h2' h2
  · rw [h1, h1']

theorem Region.ext_of {r r' : Region} (ha : r.a = r'.a) (hb : r.b = r'.b) (hk : r.kind = r'.kind) :
    r = r' := by
  cases r; cases r'
  simp only [] at ha hb hk
  subst ha hb hk
  rfl

theorem Region.eq_iff {r0 : Region} (hk : OpqKind E r0) (r : Region) :
    r = r0 ↔ r.a = r0.a ∧ r.b = r0.b ∧ OpqKind E r :=
  ⟨fun h => h ▸ ⟨rfl, rfl, h ▸ hk⟩, fun ⟨ha, hb, hk'⟩ => Region.ext_of ha hb (OpqKind.unique ha hk' hk)⟩

def stepRegions (E : Env) (p e : Nat) : List Region :=
  if rn E p = 34 ∨ rn E p = 39 then [⟨.lit, p, e⟩]
  else if LineOpen E p ∨ BlockOpen E p then [⟨.comment, p, e⟩] else []

theorem mem_stepRegions {p e : Nat} (r : Region) :
    r ∈ stepRegions E p e ↔ r.a = p ∧ r.b = e ∧ OpqKind E r := by
  unfold stepRegions
  by_cases hq : rn E p = 34 ∨ rn E p = 39
  · rw [if_pos hq, List.mem_singleton]
    exact Region.eq_iff (r0 := ⟨.lit, p, e⟩) (.inl ⟨rfl, hq⟩) r
  rw [if_neg hq]
  by_cases hlb : LineOpen E p ∨ BlockOpen E p
  · rw [if_pos hlb, List.mem_singleton]
    exact Region.eq_iff (r0 := ⟨.comment, p, e⟩) (.inr ⟨rfl, hq, hlb⟩) r
  · rw [if_neg hlb]
    refine ⟨nofun, ?_⟩
    rintro ⟨ha, _, ⟨_, h2⟩ | ⟨_, _, h2⟩⟩
    · exact absurd (ha ▸ h2) hq
    · exact absurd (ha ▸ h2) hlb

theorem lexLoop_next (h : DecOK E) (f p : Nat) (acc : List Region) :
    lexLoop E (f+1) p acc =
      if p ≥ E.len then .ok acc.reverse else
      match lexNext E p with
      | none => .error p
      | some e => lexLoop E f e (stepRegions E p e ++ acc) := by
  rw [lexLoop]
  refine ite_congr rfl (fun _ => rfl) fun hp => ?_
  unfold runeAt lexNext stepRegions LineOpen BlockOpen
  dsimp only
  rw [max_sz h (Nat.not_le.mp hp)]
  by_cases hq : rn E p = 34 ∨ rn E p = 39
  · simp only [if_pos hq]
    rfl
  by_cases hl : rn E p = 45 ∧ p + sz E p < E.len ∧ rn E (p + sz E p) = 45
  · simp only [if_neg hq, if_pos hl, if_pos (Or.inl hl)]
    rfl
  by_cases hb : rn E p = 47 ∧ p + sz E p < E.len ∧ rn E (p + sz E p) = 42
  · simp only [if_neg hq, if_neg hl, if_pos hb, if_pos (Or.inr hb)]
    rfl
  · simp only [if_neg hq, if_neg hl, if_neg hb, if_neg (not_or.mpr ⟨hl, hb⟩)]
    rfl

theorem lexLoop_spec (h : DecOK E) : ∀ (f p : Nat) (acc regions : List Region),
    lexLoop E f p acc = .ok regions → E.len - p < f →
    (∀ r, r ∈ regions ↔
      r ∈ acc ∨ (Reach E p r.a ∧ r.a < E.len ∧ lexNext E r.a = some r.b ∧ OpqKind E r)) ∧
    ∀ x, Reach E p x → x < E.len → ∃ e, lexNext E x = some e := by
  intro f
  induction f with
  | zero => intros; omega
  | succ f ih =>
    intro p acc regions he hf
    by_cases hp : p < E.len
    · rw [lexLoop_next h, if_neg (Nat.not_le.mpr hp)] at he
      cases hn : lexNext E p with
      | none => rw [hn] at he; cases he
      | some e =>
        rw [hn] at he
        have hb := lexNext_after h hp _ hn
        obtain ⟨ih1, ih2⟩ := ih e _ regions he (by omega)
        refine ⟨fun r => ?_, fun x hr hx => ?_⟩
        · -- on the path from `p` lie `p`, where the step is the one to `e`, and the path from `e`
          rw [ih1 r, List.mem_append, mem_stepRegions, Reach.iff_next hp hn]
          constructor
          · rintro ((⟨ha, hb', hk⟩ | hm) | ⟨hr, hq⟩)
            · exact .inr ⟨.inl ha, ha ▸ hp, by rw [ha, hb']; exact hn, hk⟩
            · exact .inl hm
            · exact .inr ⟨.inr hr, hq⟩
          · rintro (hm | ⟨ha | hr, hlt, hnx, hk⟩)
            · exact .inl (.inr hm)
            · exact .inl (.inl ⟨ha, Option.some.inj ((ha ▸ hnx).symm.trans hn), hk⟩)
            · exact .inr ⟨hr, hlt, hnx, hk⟩
        · rcases Reach.next hn hr with rfl | hr'
          · exact ⟨e, hn⟩
          · exact ih2 x hr' hx
    · rw [lexLoop_next h, if_pos (Nat.not_lt.mp hp)] at he
      cases he
      refine ⟨fun r => ?_, fun x hr hx => absurd (Nat.lt_of_le_of_lt (hr.le h) hx) hp⟩
      rw [List.mem_reverse]
      exact ⟨Or.inl, fun hm => hm.elim id (fun hm => absurd (Nat.lt_of_le_of_lt (hm.1.le h) hm.2.1) hp)⟩

theorem Reach.not_in_step (h : DecOK E) {q p e x : Nat} (hq : Reach E q p) (hp : p < E.len)
    (he : lexNext E p = some e) (hx : Reach E q x) : ¬ (p < x ∧ x < e) := by
  induction hq with
  | refl p =>
    rcases Reach.next he hx with rfl | hr'
    · exact fun hc => Nat.lt_irrefl _ hc.1
    · exact fun hc => Nat.not_lt.mpr (hr'.le h) hc.2
  | step hq0 hn0 hr0 ih =>
    rcases Reach.next hn0 hx with rfl | hr'
    · exact fun hc => Nat.not_lt.mpr (Nat.le_trans (Nat.le_of_lt (lexNext_after h hq0 _ hn0).1) (hr0.le h)) hc.1
    · exact ih hp he hr'

theorem lexLoop_error (h : DecOK E) : ∀ (f p : Nat) (acc : List Region) (q : Nat),
    lexLoop E f p acc = .error q → ¬ Reach E p E.len
  | 0, _, _, _, he, _ => by cases he
  | f+1, p, acc, q, he, hr => by
    by_cases hp : p < E.len
    · cases hr with
      | refl => exact Nat.lt_irrefl _ hp
      | step _ hn hr' =>
        rw [lexLoop_next h, if_neg (Nat.not_le.mpr hp), hn] at he
        exact lexLoop_error h f _ _ q he hr'
    · rw [lexLoop_next h, if_pos (Nat.not_lt.mp hp)] at he
      cases he

theorem lexRegions_clear (h : DecOK E) {regions : List Region} (he : lexRegions E = .ok regions)
    {r : Region} (hr : r ∈ regions) {x : Nat} (hx : LexCode E x) : ¬ (r.a < x ∧ x < r.b) := by
  rcases ((lexLoop_spec h _ _ _ _ he (Parser.fuel_init _ _)).1 r).mp hr with hm | ⟨hra, hlt, hn, _⟩
  · cases hm
  · exact Reach.not_in_step h hra hlt hn hx

end
end Sqlair
