/-
  The line bookkeeping: `lineColOf`, `nlCount`, the start-of-line function, and what the scanner
  invariant `Good` says in those terms.
-/
import SqlairProofs.Utf8

namespace Sqlair

/-- offset of the start of the line containing offset `i` (for `i ≤ inp.size`) -/
abbrev lastNl (inp : Bytes) (i : Nat) : Nat := lineColOf.lastNl inp i

theorem lastNl_zero (inp : Bytes) : lastNl inp 0 = 0 := rfl

theorem lastNl_succ (inp : Bytes) (i : Nat) :
    lastNl inp (i+1) = if inp.getD i 0 == 10 then i+1 else lastNl inp i := rfl

theorem lineColOf_eq (inp : Bytes) (off : Nat) :
    lineColOf inp off = (1 + nlCount inp off, off - lastNl inp (min off inp.size) + 1) := rfl

theorem lastNl_le (inp : Bytes) (i : Nat) : lastNl inp i ≤ i := by
  induction i with
  | zero => simp [lastNl_zero]
  | succ i ih => rw [lastNl_succ]; split <;> omega

theorem lastNl_succ_nl (inp : Bytes) (i : Nat) (h : bAt inp i = 10) : lastNl inp (i+1) = i+1 := by
  rw [lastNl_succ, if_pos ((getD_beq_iff inp i 10).mpr h)]

theorem lastNl_succ_not_nl (inp : Bytes) (i : Nat) (h : bAt inp i ≠ 10) :
    lastNl inp (i+1) = lastNl inp i := by
  rw [lastNl_succ, if_neg (fun hc => h ((getD_beq_iff inp i 10).mp hc))]

theorem nlCount_succ (inp : Bytes) (p : Nat) (hp : p < inp.size) :
    nlCount inp (p+1) = nlCount inp p + (if bAt inp p = 10 then 1 else 0) := by
  unfold nlCount
  rw [Array.extract_succ_right (by omega) hp]
  simp only [Array.toList_push, List.filter_append, List.length_append]
  congr 1
  have hb : bAt inp p = inp[p].toNat := by
    unfold bAt; simp [Array.getD_eq_getD_getElem?, hp]
  by_cases h : inp[p] = 10
  · simp [h, hb]
  · have : ¬ inp[p].toNat = 10 := fun hc => h (UInt8.toNat_inj.mp hc)
    simp [h, hb, this]

theorem nlCount_zero (inp : Bytes) : nlCount inp 0 = 0 := by
  unfold nlCount; simp

theorem no_nl_stretch (inp : Bytes) (p k : Nat) (hk : p + k ≤ inp.size)
    (h : ∀ i, p ≤ i → i < p + k → bAt inp i ≠ 10) :
    nlCount inp (p+k) = nlCount inp p ∧ lastNl inp (p+k) = lastNl inp p := by
  induction k with
  | zero => exact ⟨rfl, rfl⟩
  | succ k ih =>
    have ih := ih (Nat.le_of_succ_le hk) (fun i hi hi' => h i hi (Nat.lt_succ_of_lt hi'))
    have hb := h (p+k) (Nat.le_add_right p k) (Nat.lt_succ_self _)
    refine ⟨?_, ?_⟩
    · rw [← Nat.add_assoc, nlCount_succ inp (p+k) hk, if_neg hb, ih.1]; rfl
    · rw [← Nat.add_assoc, lastNl_succ_not_nl inp (p+k) hb, ih.2]

theorem nlCount_of_not_hasNewline (inp : Bytes) (h : hasNewline inp = false) (off : Nat) :
    nlCount inp off = 0 := by
  unfold nlCount
  rw [List.length_eq_zero_iff, List.filter_eq_nil_iff]
  intro a ha
  have ha' : a ∈ inp := by
    have := Array.mem_toList_iff.mp ha
    obtain ⟨k, hk, rfl⟩ := Array.mem_extract_iff_getElem.mp this
    exact Array.getElem_mem _
  intro hc
  have : hasNewline inp = true := by
    unfold hasNewline
    rw [Array.any_eq_true]
    obtain ⟨i, hi, rfl⟩ := Array.mem_iff_getElem.mp ha'
    exact ⟨i, hi, hc⟩
  rw [h] at this; cases this

section
variable {a b : Bytes}

theorem nlCount_ge (a : Bytes) (off : Nat) (h : a.size ≤ off) : nlCount a off = nlCount a a.size := by
  unfold nlCount
  rw [Array.extract_eq_self_of_le h, Array.extract_eq_self_of_le (Nat.le_refl _)]

theorem nlCount_congr (hs : b.size = a.size) (h : ∀ i, bAt b i = 10 ↔ bAt a i = 10) (off : Nat) :
    nlCount b off = nlCount a off := by
  have hlt : ∀ off, off ≤ a.size → nlCount b off = nlCount a off := by
    intro off
    induction off with
    | zero => intro _; rw [nlCount_zero, nlCount_zero]
    | succ n ih =>
      intro hn
      rw [nlCount_succ b n (by omega), nlCount_succ a n (by omega), ih (by omega)]
      by_cases hb : bAt a n = 10
      · rw [if_pos hb, if_pos ((h n).mpr hb)]
      · rw [if_neg hb, if_neg (fun hc => hb ((h n).mp hc))]
  by_cases ho : off ≤ a.size
  · exact hlt off ho
  · rw [nlCount_ge a off (by omega), nlCount_ge b off (by omega), hs]
    exact hlt _ (Nat.le_refl _)

theorem lastNl_congr (h : ∀ i, bAt b i = 10 ↔ bAt a i = 10) (i : Nat) : lastNl b i = lastNl a i := by
  induction i with
  | zero => rfl
  | succ n ih =>
    by_cases hb : bAt a n = 10
    · rw [lastNl_succ_nl a n hb, lastNl_succ_nl b n ((h n).mpr hb)]
    · rw [lastNl_succ_not_nl a n hb, lastNl_succ_not_nl b n (fun hc => hb ((h n).mp hc)), ih]

theorem lineColOf_congr (hs : b.size = a.size) (h : ∀ i, bAt b i = 10 ↔ bAt a i = 10) (off : Nat) :
    lineColOf b off = lineColOf a off := by
  rw [lineColOf_eq, lineColOf_eq, nlCount_congr hs h, lastNl_congr h, hs]

theorem hasNewline_iff (a : Bytes) : hasNewline a = true ↔ ∃ i, i < a.size ∧ bAt a i = 10 := by
  unfold hasNewline
  rw [Array.any_eq_true]
  have key : ∀ i (hi : i < a.size), (a[i] == 10) = true ↔ bAt a i = 10 := fun i hi => by
    have h := getD_beq_iff a i 10; rw [Array.getD_eq_getD_getElem?, Array.getElem?_eq_getElem hi] at h; exact h
  exact ⟨fun ⟨i, hi, hx⟩ => ⟨i, hi, (key i hi).mp hx⟩, fun ⟨i, hi, hx⟩ => ⟨i, hi, (key i hi).mpr hx⟩⟩

theorem hasNewline_congr (hs : b.size = a.size) (h : ∀ i, bAt b i = 10 ↔ bAt a i = 10) :
    hasNewline b = hasNewline a := by
  rw [Bool.eq_iff_iff, hasNewline_iff, hasNewline_iff, hs]
  exact exists_congr fun i => and_congr_right fun _ => h i

end

section
variable {E : Env} {s : Sc}

theorem Good.lineNum_eq (g : Good E s) : s.lineNum = 1 + nlCount E.inp s.pos := by
  have := g.line
  rw [lineColOf_eq] at this
  exact (Prod.mk.inj this).1

theorem Good.lineStart_eq (g : Good E s) : s.lineStart = lastNl E.inp s.pos := by
  have := g.line
  rw [lineColOf_eq] at this
  have h2 := Nat.add_right_cancel (Prod.mk.inj this).2
  rw [Nat.min_eq_left (show s.pos ≤ E.inp.size from g.pos_le)] at h2
  rw [← Nat.sub_sub_self g.lineStart_le, h2, Nat.sub_sub_self (lastNl_le _ _)]

/-- the position the `unqualified` error reports: its column (`identifierCol := p.colNum() - 1` in
    `parseTypeAndMember`) is taken before the type name -/
theorem Good.prev_col {s : Sc} (g : Good E s) (hls : s.lineStart < s.pos) :
    (s.lineNum, colNum s - 1) = lineColOf E.inp (s.pos - 1) := by
  obtain ⟨q, hq⟩ := Nat.exists_eq_add_one_of_ne_zero (Nat.ne_of_gt (Nat.zero_lt_of_lt hls))
  have hq' : q < E.inp.size := Nat.lt_of_lt_of_le (hq ▸ Nat.lt_succ_self q) g.pos_le
  have hls' := g.lineStart_eq
  have hln := g.lineNum_eq
  rw [hq] at hls' hln hls
  have hb : bAt E.inp q ≠ 10 := fun hb =>
    Nat.lt_irrefl _ ((lastNl_succ_nl _ _ hb ▸ hls') ▸ hls)
  rw [lastNl_succ_not_nl _ _ hb] at hls'
  rw [nlCount_succ _ _ hq', if_neg hb] at hln
  rw [lineColOf_eq, hq, Nat.add_sub_cancel, Nat.min_eq_left (Nat.le_of_lt hq'), ← hls', hln]
  unfold colNum
  rw [hq, Nat.succ_sub (Nat.le_of_lt_succ hls)]
  rfl

/-- `Good.line` is stated through the specification's `lineColOf`; the proofs build `Good` from the explicit
    form of the bookkeeping and read it through `Good.lineNum_eq`, `Good.lineStart_eq`. -/
theorem Good.mk' (pos_le : s.pos ≤ E.len)
    (next : s.pos < E.len → s.nextPos = s.pos + (E.dec E.inp s.pos).2 ∧ s.char = (E.dec E.inp s.pos).1)
    (next_eof : s.pos = E.len → s.nextPos = s.pos)
    (lineNum : s.lineNum = 1 + nlCount E.inp s.pos)
    (lineStart : s.lineStart = lastNl E.inp s.pos) : Good E s where
  pos_le := pos_le
  next := next
  next_eof := next_eof
  line := by
    have hm : min s.pos E.inp.size = s.pos := Nat.min_eq_left pos_le
    rw [lineColOf_eq, hm, lineNum, lineStart]
  lineStart_le := by rw [lineStart]; exact lastNl_le _ _

end

end Sqlair
