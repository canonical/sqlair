/-
  The item parsers: parentheses, literals in lists, identifiers, column and type
  accessors, and the generic list parser.  The loops with a checkpoint (`parenLoop`, `listLoop`)
  satisfy `LOK`, everything else `ROK`, `SOK` or `XOK` (the family: head of `Parser/Scan.lean`).
-/
import SqlairProofs.Parser.Scan

namespace Sqlair

section
variable {E : Env}

/-- One round of `parenLoop`, as a rule for any property `P` of its result. -/
theorem parenLoop_round (h : DecOK E) {P : Sc × Res Unit → Prop} {cp s : Sc} (gcp : Good E cp)
    (g : Good E s) (f count : Nat) (herr : ∀ e, ErrOK E e → P (cp, .err e))
    (hend : ¬ (count > 0 ∧ s.pos ≠ E.len) → P (s, .ok ()))
    (hstep : s.pos < E.len → ∀ count' {s1 : Sc}, Good E s1 → s.pos < s1.pos →
      P (parenLoop E cp f count' s1)) : P (parenLoop E cp (f + 1) count s) := by
  unfold parenLoop
  refine iteInduction (fun hc => ?_) fun hc =>
    iteInduction (fun _ => herr _ (errAt_ok gcp (by simp))) fun _ => hend hc
  have hp : s.pos < E.len := Nat.lt_of_le_of_ne g.pos_le hc.2
  have step := @hstep hp
  have hsl := skipStringLiteral_xok h g
  generalize skipStringLiteral E s = r at hsl ⊢
  obtain ⟨s1, x | _ | e⟩ := r
  · exact step count hsl.good (hsl.prog x rfl)
  · extract_lets r1 r2 r3
    have hb1 : BOK E s r1 := skipComment_bok h g
    have hb2 : BOK E s r2 := skipChar_bok h 40 g
    have hb3 : BOK E s r3 := skipChar_bok h 41 g
    exact iteInduction (fun ht => step count hb1.good (hb1.prog ht)) fun _ =>
      iteInduction (fun ht => step _ hb2.good (hb2.prog ht)) fun _ =>
        iteInduction (fun ht => step _ hb3.good (hb3.prog ht)) fun _ =>
          step count (advanceChar_good h g) (advanceChar_lt h g hp)
  · exact herr e (hsl.err e rfl)

theorem parenLoop_lok (h : DecOK E) {cp : Sc} (gcp : Good E cp) (f count : Nat) {s : Sc} (g : Good E s)
    (hle : cp.pos ≤ s.pos) (hf : E.len - s.pos < f) : LOKne E cp s (parenLoop E cp f count s) := by
  induction f generalizing s count with
  | zero => omega
  | succ f ih =>
    refine parenLoop_round h gcp g f count (fun e he => ⟨LOK.cp_err gcp he, nofun⟩)
      (fun _ => ⟨LOK.mk_ok g hle (Nat.le_refl _) (), nofun⟩) fun hp count' s1 g1 hlt => ?_
    have r := ih count' g1 (Nat.le_trans hle (Nat.le_of_lt hlt)) (Parser.fuel_step hf hp hlt)
    exact ⟨r.toLOK.step (Nat.le_of_lt hlt), r.ne_no⟩

theorem parenLoop_ok_lt (h : DecOK E) {cp : Sc} (gcp : Good E cp) {f count : Nat} {s t : Sc}
    (g : Good E s) (hle : cp.pos ≤ s.pos) (hf : E.len - s.pos < f + 1)
    (hc : count > 0 ∧ s.pos ≠ E.len) (he : parenLoop E cp (f + 1) count s = (t, .ok ())) :
    s.pos < t.pos := by
  refine parenLoop_round h (P := fun r => r = (t, .ok ()) → s.pos < t.pos) gcp g f count
    (fun _ _ he => by cases he) (fun hn => absurd hc hn) (fun hp count' s1 g1 hlt he1 => ?_) he
  have r := (parenLoop_lok h gcp f count' g1 (Nat.le_trans hle (Nat.le_of_lt hlt))
    (Parser.fuel_step hf hp hlt)).okmono () (congrArg (·.2) he1)
  rw [he1] at r
  exact Nat.lt_of_lt_of_le hlt r

theorem skipEnclosedParentheses_xok (h : DecOK E) {s : Sc} (g : Good E s) :
    XOK E s (skipEnclosedParentheses E s) := by
  unfold skipEnclosedParentheses
  extract_lets r
  have hb : BOK E s r := skipChar_bok h 40 g
  refine iteInduction (fun ht => ?_) fun _ => XOK.refl_no g
  have hlt := hb.prog ht
  have hl := parenLoop_lok h g (E.len + 1) 1 hb.good (Nat.le_of_lt hlt) (Parser.fuel_init _ _)
  exact ⟨⟨hl.toROK, fun x hx => Nat.lt_of_lt_of_le hlt (hl.okmono x hx)⟩, fun hn => absurd hn hl.ne_no⟩

theorem litLoop_rok (h : DecOK E) (f : Nat) {s : Sc} (g : Good E s) (hf : E.len - s.pos < f) :
    ROK E s (litLoop E f s) := by
  induction f generalizing s with
  | zero => omega
  | succ f ih =>
    unfold litLoop
    refine iteInduction (fun hp => ?_) fun _ => ROK.refl_no g
    have step : ∀ {s1 : Sc}, Good E s1 → s.pos < s1.pos → ROK E s (litLoop E f s1) :=
      fun g1 hlt =>
        let hr := ih g1 (Parser.fuel_step hf hp hlt)
        ⟨hr.good, Nat.le_trans (Nat.le_of_lt hlt) hr.mono, hr.err⟩
    have hsl := skipStringLiteral_xok h g
    generalize skipStringLiteral E s = r at hsl ⊢
    obtain ⟨s1, x | _ | e⟩ := r
    · exact step hsl.good (hsl.prog x rfl)
    · have hpar := skipEnclosedParentheses_xok h g
      generalize skipEnclosedParentheses E s = r at hpar ⊢
      obtain ⟨s1, x | _ | e⟩ := r
      · exact step hpar.good (hpar.prog x rfl)
      · extract_lets r1
        have hb1 : BOK E s r1 := skipComment_bok h g
        exact iteInduction (fun ht => step hb1.good (hb1.prog ht)) fun _ =>
          iteInduction (fun _ => ROK.mk_ok g (Nat.le_refl _) ()) fun _ =>
            step (advanceChar_good h g) (advanceChar_lt h g hp)
      · exact hpar.toROK
    · exact hsl.toROK

section
variable (h : DecOK E) {s : Sc} (g : Good E s)
include h g

theorem skipLiteralInList_rok :
    ROK E s (skipLiteralInList E s) :=
  litLoop_rok h (E.len + 1) g (Parser.fuel_init _ _)

theorem parseIdentifier_rok : ROK E s (parseIdentifier E s) := by
  unfold parseIdentifier
  have hsl := skipStringLiteral_xok h g
  generalize skipStringLiteral E s = r at hsl ⊢
  obtain ⟨s1, x | _ | e⟩ := r
  · exact ROK.mk_ok hsl.good hsl.mono _
  · extract_lets s2
    have hp2 : Post E s s2 := by
      unfold s2
      obtain ⟨s', hs', hp', _⟩ := nameLoop_spec h (E.len + 1) g (Parser.fuel_init _ _)
      rw [hs']; exact hp'
    exact iteInduction (fun _ => ROK.mk_ok hp2.good hp2.mono _) fun _ => ROK.mk_no hp2.good hp2.mono
  · exact ROK.mk_err hsl.good hsl.mono (hsl.err e rfl)

theorem parseIdentifierAsterisk_rok :
    ROK E s (parseIdentifierAsterisk E s) := by
  unfold parseIdentifierAsterisk
  have hb := skipChar_bok h 42 g
  exact iteInduction (fun _ => ROK.mk_ok hb.good hb.mono _) fun _ => parseIdentifier_rok h g

theorem parseColumnAccessor_rok :
    ROK E s (parseColumnAccessor E s) := by
  unfold parseColumnAccessor
  have hb := skipChar_bok h 42 g
  refine iteInduction (fun _ => ROK.mk_ok hb.good hb.mono _) fun _ => ?_
  have hid := parseIdentifier_rok h g
  generalize parseIdentifier E s = r at hid ⊢
  obtain ⟨s1, id | _ | e⟩ := r
  · have hb1 := skipChar_bok h 46 hid.good
    refine iteInduction (fun _ => ?_) fun _ => ?_
    · have hia := parseIdentifierAsterisk_rok h hb1.good
      have hm := Nat.le_trans hid.mono hb1.mono
      generalize parseIdentifierAsterisk E (skipChar E 46 s1).1 = r at hia ⊢
      obtain ⟨s2, x | _ | e⟩ := r
      · exact ROK.mk_ok hia.good (Nat.le_trans hm hia.mono) _
      · exact ROK.refl_no g
      · exact ROK.mk_err hia.good (Nat.le_trans hm hia.mono) (hia.err e rfl)
    · have hpar := skipEnclosedParentheses_xok h hid.good
      generalize skipEnclosedParentheses E s1 = r at hpar ⊢
      obtain ⟨s2, x | _ | e⟩ := r
      · exact ROK.mk_ok hpar.good (Nat.le_trans hid.mono hpar.mono) _
      · exact ROK.mk_ok hid.good hid.mono _
      · exact ROK.refl_err g (hpar.err e rfl)
  · exact ROK.refl_no g
  · exact ROK.refl_err g (hid.err e rfl)

theorem parseSliceAccessor_rok :
    ROK E s (parseSliceAccessor E s) ∧
      ((parseSliceAccessor E s).2 = .no → (parseSliceAccessor E s).1.pos = s.pos) := by
  generalize hx : parseSliceAccessor E s = x
  unfold parseSliceAccessor at hx
  obtain ⟨hp1, _, hnone⟩ := parseTypeName_post h g
  rcases heq : parseTypeName E s with ⟨s1, _ | id⟩ <;> rw [heq] at hx hp1 hnone <;> dsimp only at hx
  · subst hx
    exact ⟨ROK.mk_no hp1.good hp1.mono, fun _ => hnone rfl⟩
  have hb1 := skipChar_bok h 91 hp1.good
  have hp2 := skipBlanks_post h hb1.good
  have hb2 := skipChar_bok h 58 hp2.good
  have hp3 := skipBlanks_post h hb2.good
  have hb3 := skipChar_bok h 93 hp3.good
  have hle2 := Nat.le_trans hp1.mono (Nat.le_trans hb1.mono (Nat.le_trans hp2.mono hb2.mono))
  have hle3 := Nat.le_trans hle2 (Nat.le_trans hp3.mono hb3.mono)
  obtain ⟨_, rfl⟩ | ⟨_, hx⟩ := of_ite_eq hx
  · exact ⟨ROK.refl_no g, fun _ => rfl⟩
  obtain ⟨_, rfl⟩ | ⟨_, hx⟩ := of_ite_eq hx
  · exact ⟨ROK.mk_err hb2.good hle2 (errAt_ok g (by simp)), fun hn => by cases hn⟩
  obtain ⟨_, rfl⟩ | ⟨_, rfl⟩ := of_ite_eq hx
  · exact ⟨ROK.mk_err hb3.good hle3 (errAt_ok g (by simp)), fun hn => by cases hn⟩
  · exact ⟨ROK.mk_ok hb3.good hle3 _, fun hn => by cases hn⟩

theorem parseTypeAndMember_rok (hls : s.lineStart < s.pos) :
    ROK E s (parseTypeAndMember E s) := by
  unfold parseTypeAndMember
  extract_lets identifierCol
  obtain ⟨hp1, hline, _⟩ := parseTypeName_post h g
  rcases heq : parseTypeName E s with ⟨s1, _ | id⟩
  · exact ROK.refl_no g
  rw [heq] at hp1 hline
  have hle1 : s.pos ≤ s1.pos := hp1.mono
  have hb := skipChar_bok h 46 hp1.good
  have hler := Nat.le_trans hle1 hb.mono
  refine iteInduction (fun hf => ?_) fun _ => ?_
  · refine ROK.mk_err hb.good hler ⟨by simp, fun hc' => ?_⟩
    have hc : ClassOK E := hc'.elim (fun hc => hc) fun hk => (hk id rfl).elim
    refine ⟨s.pos - 1, Nat.le_trans (Nat.sub_le _ _) g.pos_le, ?_⟩
    rw [hb.rest (by simpa using hf)]
    show (s1.lineNum, colNum s - 1) = _
    rw [hline hc]
    exact g.prev_col hls
  · have hia := parseIdentifierAsterisk_rok h hb.good
    generalize parseIdentifierAsterisk E (skipChar E 46 s1).1 = r at hia ⊢
    obtain ⟨s2, x | _ | e⟩ := r
    · exact ROK.mk_ok hia.good (Nat.le_trans hler hia.mono) _
    · exact ROK.mk_err hia.good (Nat.le_trans hler hia.mono) (errAt_ok hia.good (by simp))
    · exact ROK.mk_err hia.good (Nat.le_trans hler hia.mono) (hia.err e rfl)

theorem parseTargetType_xok : XOK E s (parseTargetType E s) := by
  unfold parseTargetType
  extract_lets r
  have hb : BOK E s r := skipChar_bok h 38 g
  refine iteInduction (fun ht => ?_) fun _ => XOK.refl_no g
  have hsame := skipChar_sameLine (c := 38) (by decide) h g ht
  obtain ⟨hsl, hno⟩ := parseSliceAccessor_rok h hb.good
  have hm := Nat.le_of_lt (hb.prog ht)
  generalize parseSliceAccessor E r.1 = r1 at hsl hno ⊢
  obtain ⟨s1, st | _ | e⟩ := r1
  · exact XOK.mk_err hsl.good (Nat.le_trans hm hsl.mono) (errAt_ok g (by simp))
  · have g1 : Good E s1 := hsl.good
    have hpos : s1.pos = r.1.pos := hno rfl
    have hls : s1.lineStart < s1.pos := by
      rw [g1.lineStart_eq, hpos, ← hb.good.lineStart_eq]; exact hsame.2
    have htm := parseTypeAndMember_rok h g1 hls
    have hlt := Nat.lt_of_lt_of_le (hb.prog ht) (Nat.le_trans hsl.mono htm.mono)
    dsimp only
    split
    · exact XOK.refl_no g
    · next hnn =>
      exact ⟨⟨⟨htm.good, Nat.le_of_lt hlt, htm.err⟩, fun _ _ => hlt⟩,
        fun hn => (hnn (parseTypeAndMember E s1).1 (Prod.ext rfl hn)).elim⟩
  · exact XOK.mk_err hsl.good (Nat.le_trans hm hsl.mono) (errAt_ok g (by simp))

theorem parseInputMemberAccessor_sok :
    SOK E s (parseInputMemberAccessor E s) := by
  unfold parseInputMemberAccessor
  extract_lets r
  have hb : BOK E s r := skipChar_bok h 36 g
  refine iteInduction (fun ht => ?_) fun _ => SOK.refl_no g
  have hsame := skipChar_sameLine (c := 36) (by decide) h g ht
  have htm := parseTypeAndMember_rok h hb.good hsame.2
  have hlt := Nat.lt_of_lt_of_le (hb.prog ht) htm.mono
  exact ⟨⟨htm.good, Nat.le_of_lt hlt, htm.err⟩, fun _ _ => hlt⟩

end

theorem listLoop_lok (h : DecOK E) {α : Type} {fn : Sc → Sc × Res α}
    (hfn : ∀ s, Good E s → ROK E s (fn s)) {cp : Sc} (gcp : Good E cp)
    (f : Nat) (first : Bool) (acc : List α) {s : Sc} (g : Good E s)
    (hle : cp.pos ≤ s.pos) (hf : E.len - s.pos < f) :
    LOK E cp s (listLoop E fn cp f first acc s) := by
  induction f generalizing s first acc with
  | zero => omega
  | succ f ih =>
    unfold listLoop
    extract_lets s1
    have hp1 : Post E s s1 := skipBlanks_post h g
    have hr := hfn s1 hp1.good
    generalize fn s1 = r at hr ⊢
    obtain ⟨s2, x | _ | e⟩ := r
    · have hp3 := skipBlanks_post h hr.good
      have hb1 := skipChar_bok h 41 hp3.good
      have hb2 := skipChar_bok h 44 hp3.good
      have hs3 : s.pos ≤ (skipBlanks E s2).pos := Nat.le_trans hp1.mono (Nat.le_trans hr.mono hp3.mono)
      refine iteInduction (fun _ => ?_) fun _ => iteInduction (fun ht => ?_) fun _ =>
        LOK.cp_err gcp (errAt_ok gcp (by simp))
      · have hle4 := Nat.le_trans hs3 hb1.mono
        exact LOK.mk_ok hb1.good (Nat.le_trans hle hle4) hle4 _
      · have hlt4 := Nat.lt_of_le_of_lt hs3 (hb2.prog ht)
        exact (ih false _ hb2.good (Nat.le_trans hle (Nat.le_of_lt hlt4))
          (Parser.fuel_step hf (Nat.lt_of_lt_of_le hlt4 hb2.good.pos_le) hlt4)).step (Nat.le_of_lt hlt4)
    · exact iteInduction (fun _ => LOK.cp_no gcp) fun _ => LOK.cp_err gcp (errAt_ok hr.good (by simp))
    · exact LOK.mk_err hr.good (Nat.le_trans hle (Nat.le_trans hp1.mono hr.mono)) (hr.err e rfl)

theorem parseList_rok (h : DecOK E) {α : Type} {fn : Sc → Sc × Res α}
    (hfn : ∀ s, Good E s → ROK E s (fn s)) {s : Sc} (g : Good E s) :
    ROK E s (parseList E fn s) := by
  unfold parseList
  have hb := skipChar_bok h 40 g
  exact iteInduction
    (fun _ => (listLoop_lok h hfn g (E.len + 1) true [] hb.good hb.mono (Parser.fuel_init _ _)).toROK)
    fun _ => ROK.refl_no g

theorem parseColumns_post (h : DecOK E) {s : Sc} (g : Good E s) : Post E s (parseColumns E s).1 := by
  unfold parseColumns
  have hc := parseColumnAccessor_rok h g
  generalize parseColumnAccessor E s = r at hc ⊢
  have hl := parseList_rok h (fun s g => parseColumnAccessor_rok h g) hc.good
  obtain ⟨s1, c | _ | e⟩ := r
  · exact ⟨hc.good, hc.mono⟩
  -- `.no` and `.err` go the same way
  all_goals
    dsimp only
    generalize parseList E (parseColumnAccessor E) s1 = r at hl ⊢
    obtain ⟨s2, cs | _ | e⟩ := r <;> exact ⟨hl.good, Nat.le_trans hc.mono hl.mono⟩

theorem parseTargetTypes_rok (h : DecOK E) {s : Sc} (g : Good E s) :
    ROK E s (parseTargetTypes E s) := by
  unfold parseTargetTypes
  have ht := (parseTargetType_xok h g).toROK
  generalize parseTargetType E s = r at ht ⊢
  obtain ⟨s1, t | _ | e⟩ := r
  · exact ROK.mk_ok ht.good ht.mono _
  · have hl := parseList_rok h (fun s g => (parseTargetType_xok h g).toROK) ht.good
    dsimp only
    generalize parseList E (parseTargetType E) s1 = r at hl ⊢
    obtain ⟨s2, ts | _ | e⟩ := r
    · exact ROK.mk_ok hl.good (Nat.le_trans ht.mono hl.mono) _
    · exact ROK.mk_no hl.good (Nat.le_trans ht.mono hl.mono)
    · exact ROK.mk_err hl.good (Nat.le_trans ht.mono hl.mono) (hl.err e rfl)
  · exact ROK.mk_err ht.good ht.mono (ht.err e rfl)

/-! What one run tells about the state it was entered at, and the equations of the loops for one
    round. -/

theorem parseTypeAndMember_no {s t : Sc} (he : parseTypeAndMember E s = (t, .no)) : t = s := by
  unfold parseTypeAndMember at he
  simp only [] at he
  split at he
  · split at he
    · cases he
    · split at he <;> cases he
  · cases he; rfl

theorem parseIdentifier_err {s t : Sc} {e : PErr}
    (h : parseIdentifier E s = (t, .err e)) : t = s ∧ (s.char = 34 ∨ s.char = 39) := by
  unfold parseIdentifier at h
  split at h
  · next heq => cases h; exact skipStringLiteral_err heq
  · cases h
  · simp only [] at h
    split at h <;> cases h

theorem parseIdentifierAsterisk_err {s t : Sc} {e : PErr}
    (h : parseIdentifierAsterisk E s = (t, .err e)) : t = s ∧ (s.char = 34 ∨ s.char = 39) := by
  unfold parseIdentifierAsterisk at h
  simp only [] at h
  split at h
  · cases h
  · exact parseIdentifier_err h

theorem parseIdentifier_nonname {s : Sc} (h34 : s.char ≠ 34) (h39 : s.char ≠ 39)
    (hn : isNameChar E s.char = false) : parseIdentifier E s = (s, .no) := by
  unfold parseIdentifier
  rw [skipStringLiteral_of_not fun hx => hx.2.elim h34 h39]
  simp only []
  have hnl : nameLoop E (E.len + 1) s = some s := by
    rw [nameLoop]
    exact if_neg (fun hx => by rw [hn] at hx; cases hx.2)
  rw [hnl]
  simp only [Option.getD_some]
  rw [if_neg (by omega)]

theorem parseColumnAccessor_nonname {s : Sc} (h42 : s.char ≠ 42) (h34 : s.char ≠ 34) (h39 : s.char ≠ 39)
    (hn : isNameChar E s.char = false) : parseColumnAccessor E s = (s, .no) := by
  unfold parseColumnAccessor
  rw [skipChar_of_ne h42]
  simp only [Bool.false_eq_true, if_false]
  rw [parseIdentifier_nonname h34 h39 hn]

theorem parseColumnAccessor_star {s : Sc} (h : (skipChar E 42 s).2 = true) :
    parseColumnAccessor E s =
      ((skipChar E 42 s).1, .ok { table := #[], column := star, func := false }) := by
  unfold parseColumnAccessor
  simp only []
  rw [if_pos h]

theorem parseColumnAccessor_fail {s sA : Sc} {res : Res Col} (h : parseColumnAccessor E s = (sA, res))
    (hn : ∀ c, res ≠ .ok c) : sA = s ∨ sA.char = 34 ∨ sA.char = 39 := by
  unfold parseColumnAccessor at h
  simp only [] at h
  split at h
  · cases h; exact absurd rfl (hn _)
  split at h
  · cases h; exact Or.inl rfl
  · cases h; exact Or.inl rfl
  · split at h
    · split at h
      · next heq2 =>
        cases h
        obtain ⟨h1, h2⟩ := parseIdentifierAsterisk_err heq2
        rw [h1]
        exact Or.inr h2
      · cases h; exact absurd rfl (hn _)
      · cases h; exact Or.inl rfl
    · split at h
      · cases h; exact Or.inl rfl
      · cases h; exact absurd rfl (hn _)
      · cases h; exact absurd rfl (hn _)

theorem parseInputMemberAccessor_ok {s t : Sc} {ma : Acc} (h : parseInputMemberAccessor E s = (t, .ok ma)) :
    (skipChar E 36 s).2 = true ∧ parseTypeAndMember E (skipChar E 36 s).1 = (t, .ok ma) := by
  unfold parseInputMemberAccessor at h
  obtain ⟨hr, h⟩ | ⟨_, h⟩ := of_ite_eq h
  · exact ⟨hr, h⟩
  · cases h

theorem parseInputMemberAccessor_of_ne {s : Sc} (h : s.char ≠ 36) :
    parseInputMemberAccessor E s = (s, .no) := by
  unfold parseInputMemberAccessor
  simp only [skipChar_of_ne h, Bool.false_eq_true, if_false]

theorem parseTargetType_of_ne {s : Sc} (h : s.char ≠ 38) : parseTargetType E s = (s, .no) := by
  unfold parseTargetType
  simp only [skipChar_of_ne h, Bool.false_eq_true, if_false]

theorem parseList_of_paren {α : Type} {fn : Sc → Sc × Res α} {s : Sc} (h : (skipChar E 40 s).2 = true) :
    parseList E fn s = listLoop E fn s (E.len + 1) true [] (skipChar E 40 s).1 := by
  unfold parseList
  exact if_pos h

theorem parseList_of_not {α : Type} {fn : Sc → Sc × Res α} {s : Sc} (h : ¬ (skipChar E 40 s).2 = true) :
    parseList E fn s = (s, .no) := by
  unfold parseList
  exact if_neg h

theorem parseList_ok {α : Type} {fn : Sc → Sc × Res α} {s t : Sc} {xs : List α}
    (h : parseList E fn s = (t, .ok xs)) : (skipChar E 40 s).2 = true ∧
      listLoop E fn s (E.len + 1) true [] (skipChar E 40 s).1 = (t, .ok xs) := by
  by_cases hr : (skipChar E 40 s).2 = true
  · exact ⟨hr, parseList_of_paren hr ▸ h⟩
  · rw [parseList_of_not hr] at h; cases h

theorem parseList_ok_char {α : Type} {fn : Sc → Sc × Res α} {s t : Sc} {xs : List α}
    (h : parseList E fn s = (t, .ok xs)) : s.char = 40 :=
  (skipChar_true (parseList_ok h).1).2.1

theorem parseColumns_paren {s s1 : Sc} {cols : List Col}
    (h : parseColumns E s = (s1, some (cols, true))) :
    s.char = 40 ∧ parseList E (parseColumnAccessor E) s = (s1, .ok cols) := by
  unfold parseColumns at h
  split at h
  · cases h
  · next sA res hres heq =>
    split at h
    · next s2 cs heq2 =>
      cases h
      have h40 := parseList_ok_char heq2
      have hs : sA = s := by
        rcases parseColumnAccessor_fail heq (fun c hc => hres c hc) with h1 | h1 | h1
        · exact h1
        · omega
        · omega
      subst hs
      exact ⟨h40, heq2⟩
    · cases h

theorem listLoop_one {α : Type} {fn : Sc → Sc × Res α} {cp st s2 : Sc} {f : Nat} {first : Bool}
    {acc : List α} {x : α} (h1 : fn (skipBlanks E st) = (s2, .ok x))
    (h41 : (skipChar E 41 (skipBlanks E s2)).2 = true) :
    listLoop E fn cp (f + 1) first acc st = ((skipChar E 41 (skipBlanks E s2)).1, .ok (acc ++ [x])) := by
  rw [listLoop]
  simp only [h1, h41, if_true]

theorem listLoop_false_ne_no {α : Type} (fn : Sc → Sc × Res α) :
    ∀ (f : Nat) (cp : Sc) (acc : List α) (u v : Sc), listLoop E fn cp f false acc u ≠ (v, .no) := by
  intro f
  induction f with
  | zero => intro cp acc u v h; unfold listLoop at h; cases h
  | succ f ih =>
    intro cp acc u v h
    unfold listLoop at h
    simp only [] at h
    split at h
    · split at h
      · cases h
      · split at h
        · exact ih _ _ _ _ h
        · cases h
    · cases h
    · simp only [Bool.false_eq_true, if_false] at h; cases h

end
end Sqlair
