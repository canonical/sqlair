/-
  The contracts of the parser's functions, and the scanner primitives under them: each keeps the
  scanner invariant `Good`, never moves backwards, and never exhausts the fuel of its loop (for a
  loop `X`, `X_spec` is the working lemma and `X_isSome` says that `X` does not return `none`).
-/
import SqlairProofs.Basics
import SqlairProofs.Parser.Lines
import SqlairProofs.Utf8

namespace Sqlair

section
variable {E : Env}

/-! ### The contracts

One contract per type of result, each saying that the end state is `Good` and not before the entry
state `s`: `Post` for `Sc → Sc`, `BOK` for the `Sc × Bool` skippers, `ROK ⊂ SOK ⊂ XOK ⊂ EOK` for the
`Sc × Res α` parse functions (`XOK.no` is the restore discipline), and `LOK ⊂ LOKne` for the loops
that carry a checkpoint `cp`, to which errors and not-this restore: there `ROK` is relative to `cp`.
Each function `f` has one lemma `f_post`, `f_bok`, `f_rok`, ….  Three of these are the contract and
a further clause: `parseTypeName_post` (the line does not change under `ClassOK`, which puts the
column of the `unqualified` error on the line reported; and without a name the offset stays),
`parseSliceAccessor_rok` (on `.no` the offset stays: that carries `lineStart < pos` over to
`parseTypeAndMember_rok` in `parseTargetType_xok`), and `advanceToNextExpression_post` (its answer
is an `Option PErr`, for which there is no contract: the second clause is `ROK.err`).

The proofs of `Parser/*` walk the body of a function with one idiom.  At a call `f E s1` in the
body: forget the call, keep its contract, split on the result,
`have h := f_xok hd g1; generalize f E s1 = r at h ⊢; obtain ⟨s2, x | _ | e⟩ := r`,
and go on with `h.good`, `h.prog x rfl`, `h.no rfl`, `h.err e rfl`.  The proofs elsewhere that
`split` on the unfolded body get an equation `f E s1 = (s2, res)` instead; the `elim` lemmas at the
end of this block transport the contract along it. -/

def ErrPos (E : Env) (e : PErr) : Prop := ∃ off, off ≤ E.len ∧ (e.line, e.col) = lineColOf E.inp off

theorem posInRange_of_errPos {E : Env} {e : PErr} (h : ErrPos E e) :
    posInRange E.inp e.line e.col = true := by
  obtain ⟨off, hle, heq⟩ := h
  unfold posInRange
  rw [List.any_eq_true]
  refine ⟨off, List.mem_range.mpr (by show off < E.len + 1; omega), ?_⟩
  rw [beq_iff_eq]; exact heq.symm

theorem errPos_line_single {E : Env} {e : PErr} (h : ErrPos E e) (hnl : hasNewline E.inp = false) :
    e.line = 1 := by
  obtain ⟨off, _, heq⟩ := h
  rw [lineColOf_eq] at heq
  have := (Prod.mk.inj heq).1
  rw [nlCount_of_not_hasNewline _ hnl] at this
  exact this

/-- `pos` has a premise because the `unqualified` error takes its line after the type name and its
    column before it: that is a position of the input only if names cannot span lines (`ClassOK`). -/
structure ErrOK (E : Env) (e : PErr) : Prop where
  not_fuel : e.kind ≠ EKind.fuel
  pos : (ClassOK E ∨ ∀ n, e.kind ≠ EKind.unqualified n) → ErrPos E e

theorem errAt_ok {s : Sc} (g : Good E s) {k : EKind} (hk : k ≠ EKind.fuel) : ErrOK E (errAt s k) where
  not_fuel := hk
  pos := fun _ => ⟨s.pos, g.pos_le, g.line⟩

theorem Res.ok_ne_err {α : Type} {x : α} (e : PErr) : (Res.ok x : Res α) ≠ .err e := nofun

theorem Res.no_ne_err {α : Type} (e : PErr) : (Res.no : Res α) ≠ .err e := nofun

structure Post (E : Env) (s s' : Sc) : Prop where
  good : Good E s'
  mono : s.pos ≤ s'.pos

structure BOK (E : Env) (s : Sc) (r : Sc × Bool) : Prop where
  good : Good E r.1
  mono : s.pos ≤ r.1.pos
  prog : r.2 = true → s.pos < r.1.pos
  rest : r.2 = false → r.1 = s

theorem BOK.refl {s : Sc} (g : Good E s) : BOK E s (s, false) :=
  ⟨g, Nat.le_refl _, fun hf => Bool.noConfusion hf, fun _ => rfl⟩

theorem BOK.adv {s s' : Sc} (g : Good E s') (hlt : s.pos < s'.pos) : BOK E s (s', true) :=
  ⟨g, Nat.le_of_lt hlt, fun _ => hlt, fun hf => Bool.noConfusion hf⟩

structure ROK {α : Type} (E : Env) (s : Sc) (r : Sc × Res α) : Prop where
  good : Good E r.1
  mono : s.pos ≤ r.1.pos
  err : ∀ e, r.2 = .err e → ErrOK E e

structure SOK {α : Type} (E : Env) (s : Sc) (r : Sc × Res α) : Prop extends ROK E s r where
  prog : ∀ x, r.2 = .ok x → s.pos < r.1.pos

structure XOK {α : Type} (E : Env) (s : Sc) (r : Sc × Res α) : Prop extends SOK E s r where
  no : r.2 = .no → r.1 = s

section
variable {α : Type} {s s' : Sc} {e : PErr}

theorem ROK.mk_ok (g : Good E s') (hle : s.pos ≤ s'.pos) (x : α) : ROK E s (s', .ok x) :=
  ⟨g, hle, fun _ he => by cases he⟩

theorem ROK.mk_no (g : Good E s') (hle : s.pos ≤ s'.pos) : ROK (α := α) E s (s', .no) :=
  ⟨g, hle, fun _ he => by cases he⟩

theorem ROK.mk_err (g : Good E s') (hle : s.pos ≤ s'.pos) (he : ErrOK E e) :
    ROK (α := α) E s (s', .err e) :=
  ⟨g, hle, fun _ h => by cases h; exact he⟩

theorem ROK.refl_no (g : Good E s) : ROK (α := α) E s (s, .no) := ROK.mk_no g (Nat.le_refl _)

theorem ROK.refl_err (g : Good E s) (he : ErrOK E e) : ROK (α := α) E s (s, .err e) :=
  ROK.mk_err g (Nat.le_refl _) he

theorem SOK.refl_no (g : Good E s) : SOK (α := α) E s (s, .no) :=
  ⟨ROK.refl_no g, fun _ hx => (by cases hx)⟩

theorem XOK.refl_no (g : Good E s) : XOK (α := α) E s (s, .no) := ⟨SOK.refl_no g, fun _ => rfl⟩

theorem XOK.mk_err (g : Good E s') (hle : s.pos ≤ s'.pos) (he : ErrOK E e) :
    XOK (α := α) E s (s', .err e) :=
  ⟨⟨ROK.mk_err g hle he, fun _ hx => (by cases hx)⟩, fun hx => (by cases hx)⟩

theorem XOK.mk_ok (g : Good E s') (hlt : s.pos < s'.pos) (x : α) : XOK E s (s', .ok x) :=
  ⟨⟨ROK.mk_ok g (Nat.le_of_lt hlt) x, fun _ _ => hlt⟩, fun hx => (by cases hx)⟩

end

structure LOK {α : Type} (E : Env) (cp s : Sc) (r : Sc × Res α) : Prop extends ROK E cp r where
  okmono : ∀ x, r.2 = .ok x → s.pos ≤ r.1.pos

section
variable {α : Type} {cp s s' : Sc} {e : PErr}

theorem LOK.step {r : Sc × Res α} (hr : LOK E cp s' r) (hle : s.pos ≤ s'.pos) : LOK E cp s r :=
  ⟨hr.toROK, fun x hx => Nat.le_trans hle (hr.okmono x hx)⟩

theorem LOK.mk_err (g : Good E s') (hle : cp.pos ≤ s'.pos) (he : ErrOK E e) :
    LOK (α := α) E cp s (s', .err e) :=
  ⟨ROK.mk_err g hle he, fun _ hx => (by cases hx)⟩

theorem LOK.mk_no (g : Good E s') (hle : cp.pos ≤ s'.pos) : LOK (α := α) E cp s (s', .no) :=
  ⟨ROK.mk_no g hle, fun _ hx => (by cases hx)⟩

theorem LOK.mk_ok (g : Good E s') (hle : cp.pos ≤ s'.pos) (hle' : s.pos ≤ s'.pos) (x : α) :
    LOK E cp s (s', .ok x) :=
  ⟨ROK.mk_ok g hle x, fun _ _ => hle'⟩

theorem LOK.cp_err (g : Good E cp) (he : ErrOK E e) : LOK (α := α) E cp s (cp, .err e) :=
  LOK.mk_err g (Nat.le_refl _) he

theorem LOK.cp_no (g : Good E cp) : LOK (α := α) E cp s (cp, .no) := LOK.mk_no g (Nat.le_refl _)

end

structure LOKne {α : Type} (E : Env) (cp s : Sc) (r : Sc × Res α) : Prop extends LOK E cp s r where
  ne_no : r.2 ≠ .no

structure EOK (E : Env) (s : Sc) (r : Sc × Res Seg) : Prop extends XOK E s r where
  span : ∀ seg, r.2 = .ok seg → seg.a = s.pos ∧ seg.b = r.1.pos

section
variable {s s' : Sc} {e : PErr}

theorem EOK.refl_no (g : Good E s) : EOK E s (s, .no) :=
  ⟨XOK.refl_no g, fun _ hx => (by cases hx)⟩

theorem EOK.mk_err (g : Good E s') (hle : s.pos ≤ s'.pos) (he : ErrOK E e) : EOK E s (s', .err e) :=
  ⟨XOK.mk_err g hle he, fun _ hx => (by cases hx)⟩

theorem EOK.refl_err (g : Good E s) (he : ErrOK E e) : EOK E s (s, .err e) :=
  EOK.mk_err g (Nat.le_refl _) he

theorem EOK.mk_ok (g : Good E s') (hlt : s.pos < s'.pos) (seg : Seg) (ha : seg.a = s.pos)
    (hb : seg.b = s'.pos) : EOK E s (s', .ok seg) :=
  ⟨XOK.mk_ok g hlt seg, fun _ hx => (by cases hx; exact ⟨ha, hb⟩)⟩

end

def ResP {α : Type} (P : α → Prop) (r : Sc × Res α) : Prop := ∀ x, r.2 = .ok x → P x

theorem ResP.of_err {α : Type} {P : α → Prop} {s : Sc} {e : PErr} : ResP P (s, .err e) :=
  fun _ hx => by cases hx

theorem ResP.of_no {α : Type} {P : α → Prop} {s : Sc} : ResP (α := α) P (s, .no) :=
  fun _ hx => by cases hx

theorem ResP.of_ok {α : Type} {P : α → Prop} {s : Sc} {x : α} (h : P x) : ResP P (s, .ok x) :=
  fun _ hx => by cases hx; exact h

theorem ResP.elim {α : Type} {P : α → Prop} {r : Sc × Res α} (hr : ResP P r) {s1 : Sc} {x : α}
    (heq : r = (s1, .ok x)) : P x := by
  subst heq; exact hr x rfl

theorem ResP.ite {α : Type} {P : α → Prop} {c : Prop} [Decidable c] {a b : Sc × Res α}
    (ha : ResP P a) (hb : ResP P b) : ResP P (if c then a else b) :=
  iteInduction (fun _ => ha) fun _ => hb

theorem ROK.elim {α : Type} {s : Sc} {r : Sc × Res α} (hr : ROK E s r) {s1 : Sc} {res : Res α}
    (heq : r = (s1, res)) : Good E s1 ∧ s.pos ≤ s1.pos ∧ ∀ e, res = .err e → ErrOK E e := by
  subst heq; exact ⟨hr.good, hr.mono, hr.err⟩

theorem SOK.elim_ok {α : Type} {s : Sc} {r : Sc × Res α} (hr : SOK E s r) {s1 : Sc} {x : α}
    (heq : r = (s1, .ok x)) : Good E s1 ∧ s.pos < s1.pos := by
  subst heq; exact ⟨hr.good, hr.prog x rfl⟩

theorem XOK.elim_no {α : Type} {s : Sc} {r : Sc × Res α} (hr : XOK E s r) {s1 : Sc}
    (heq : r = (s1, .no)) : s1 = s := by
  subst heq; exact hr.no rfl

theorem LOK.elim_ok {α : Type} {cp s : Sc} {r : Sc × Res α} (hr : LOK E cp s r) {s1 : Sc} {x : α}
    (heq : r = (s1, .ok x)) : Good E s1 ∧ s.pos ≤ s1.pos := by
  subst heq; exact ⟨hr.good, hr.okmono x rfl⟩

theorem advanceChar_eq (s : Sc) : advanceChar E s =
    { pos := s.nextPos
      nextPos := if s.nextPos ≥ E.len then s.nextPos else s.nextPos + (E.dec E.inp s.nextPos).2
      char := if s.nextPos ≥ E.len then 0 else (E.dec E.inp s.nextPos).1
      lineNum := if s.char = 10 ∧ s.pos < E.len then s.lineNum + 1 else s.lineNum
      lineStart := if s.char = 10 ∧ s.pos < E.len then s.nextPos else s.lineStart } := by
  unfold advanceChar; simp only []; split <;> split <;> rfl

theorem advanceChar_pos (s : Sc) : (advanceChar E s).pos = s.nextPos :=
  congrArg Sc.pos (advanceChar_eq s)

theorem advanceChar_lineNum (s : Sc) :
    (advanceChar E s).lineNum = if s.char = 10 ∧ s.pos < E.len then s.lineNum + 1 else s.lineNum :=
  congrArg Sc.lineNum (advanceChar_eq s)

theorem advanceChar_lineStart (s : Sc) :
    (advanceChar E s).lineStart = if s.char = 10 ∧ s.pos < E.len then s.nextPos else s.lineStart :=
  congrArg Sc.lineStart (advanceChar_eq s)

theorem advanceChar_nextPos (s : Sc) :
    (advanceChar E s).nextPos =
      if s.nextPos ≥ E.len then s.nextPos else s.nextPos + (E.dec E.inp s.nextPos).2 :=
  congrArg Sc.nextPos (advanceChar_eq s)

theorem advanceChar_char (s : Sc) :
    (advanceChar E s).char = if s.nextPos ≥ E.len then 0 else (E.dec E.inp s.nextPos).1 :=
  congrArg Sc.char (advanceChar_eq s)

theorem Good.pos_eof {s : Sc} (g : Good E s) (hp : ¬ s.pos < E.len) : s.pos = E.len :=
  Nat.le_antisymm g.pos_le (Nat.not_lt.mp hp)

theorem advanceChar_good (h : DecOK E) {s : Sc} (g : Good E s) : Good E (advanceChar E s) := by
  -- only the bound and the line bookkeeping depend on where `s` stands
  have key : s.nextPos ≤ E.len ∧ (advanceChar E s).lineNum = 1 + nlCount E.inp s.nextPos ∧
      (advanceChar E s).lineStart = lastNl E.inp s.nextPos := by
    rw [advanceChar_lineNum, advanceChar_lineStart]
    by_cases hp : s.pos < E.len
    · obtain ⟨hn, hc⟩ := g.next hp
      have h2 := h.size_le s.pos hp
      by_cases h10 : s.char = 10
      · obtain ⟨hsz, hb⟩ := h.nl s.pos hp (hc ▸ h10)
        rw [if_pos ⟨h10, hp⟩, if_pos ⟨h10, hp⟩, hn, hsz, nlCount_succ _ _ hp, if_pos hb,
          lastNl_succ_nl _ _ hb, g.lineNum_eq]
        exact ⟨hsz ▸ h2, rfl, rfl⟩
      · have hst := no_nl_stretch E.inp s.pos _ h2 (h.no_nl s.pos hp (hc ▸ h10))
        rw [if_neg (fun hc' => h10 hc'.1), if_neg (fun hc' => h10 hc'.1), hn, hst.1, hst.2]
        exact ⟨h2, g.lineNum_eq, g.lineStart_eq⟩
    · rw [if_neg (fun hc => hp hc.2), if_neg (fun hc => hp hc.2),
        g.next_eof (g.pos_eof hp)]
      exact ⟨g.pos_le, g.lineNum_eq, g.lineStart_eq⟩
  apply Good.mk' <;> rw [advanceChar_pos]
  · exact key.1
  · intro hlt
    rw [advanceChar_nextPos, advanceChar_char, if_neg (Nat.not_le.mpr hlt), if_neg (Nat.not_le.mpr hlt)]
    exact ⟨rfl, rfl⟩
  · intro heq
    rw [advanceChar_nextPos, if_pos (Nat.le_of_eq heq.symm)]
  · exact key.2.1
  · exact key.2.2

theorem advanceChar_mono {s : Sc} (g : Good E s) : s.pos ≤ (advanceChar E s).pos := by
  rw [advanceChar_pos]
  by_cases hp : s.pos < E.len
  · rw [(g.next hp).1]; exact Nat.le_add_right _ _
  · rw [g.next_eof (g.pos_eof hp)]; exact Nat.le_refl _

theorem advanceChar_lt (h : DecOK E) {s : Sc} (g : Good E s) (hp : s.pos < E.len) :
    s.pos < (advanceChar E s).pos := by
  rw [advanceChar_pos, (g.next hp).1]
  exact Nat.lt_add_of_pos_right (h.size_pos s.pos hp)

/- The loops run on fuel `E.len + 1`: enough at every state, and a step that moves forward from
   inside the input leaves enough for the rest. -/

theorem Parser.fuel_init (n p : Nat) : n - p < n + 1 := Nat.lt_succ_of_le (Nat.sub_le n p)

theorem Parser.fuel_step {n p p' f : Nat} (hf : n - p < f + 1) (hp : p < n) (hlt : p < p') : n - p' < f := by
  omega

theorem Parser.fuel_step_good {s t : Sc} {f : Nat} (hf : E.len - s.pos < f + 1) (hlt : s.pos < t.pos)
    (g : Good E t) : E.len - t.pos < f :=
  Parser.fuel_step hf (Nat.lt_of_lt_of_le hlt g.pos_le) hlt

theorem advanceChar_post (h : DecOK E) {s : Sc} (g : Good E s) : Post E s (advanceChar E s) :=
  ⟨advanceChar_good h g, advanceChar_mono g⟩

theorem skipChar_bok (h : DecOK E) (c : Nat) {s : Sc} (g : Good E s) : BOK E s (skipChar E c s) := by
  unfold skipChar
  exact iteInduction (fun hc => BOK.adv (advanceChar_good h g) (advanceChar_lt h g hc.1))
    fun _ => BOK.refl g

theorem skipChar_true {c : Nat} {s : Sc} (ht : (skipChar E c s).2 = true) :
    s.pos < E.len ∧ s.char = c ∧ (skipChar E c s).1 = advanceChar E s := by
  unfold skipChar at ht ⊢
  split
  · next hc => exact ⟨hc.1, hc.2, rfl⟩
  · next hc => rw [if_neg hc] at ht; cases ht

theorem skipChar_sameLine {c : Nat} (hc : c ≠ 10) (h : DecOK E) {s : Sc} (g : Good E s)
    (ht : (skipChar E c s).2 = true) :
    (skipChar E c s).1.lineNum = s.lineNum ∧ (skipChar E c s).1.lineStart < (skipChar E c s).1.pos := by
  obtain ⟨hp, hch, heq⟩ := skipChar_true ht
  rw [heq, advanceChar_lineNum, advanceChar_lineStart,
    if_neg (fun hx => hc (hch ▸ hx.1)), if_neg (fun hx => hc (hch ▸ hx.1))]
  have := advanceChar_lt h g hp
  have := g.lineStart_le
  exact ⟨rfl, by omega⟩

theorem skipCharFindLoop_spec (h : DecOK E) (c : Nat) (f : Nat) {s : Sc} (g : Good E s)
    (hf : E.len - s.pos < f) :
    ∃ r, skipCharFindLoop E c f s = some r ∧ ∀ s', r = some s' → Good E s' ∧ s.pos < s'.pos := by
  induction f generalizing s with
  | zero => omega
  | succ f ih =>
    generalize hx : skipCharFindLoop E c (f+1) s = x
    unfold skipCharFindLoop at hx
    obtain ⟨hp, hx⟩ | ⟨_, hx⟩ := of_ite_eq hx
    · have hlt := advanceChar_lt h g hp
      obtain ⟨_, hx⟩ | ⟨_, hx⟩ := of_ite_eq hx
      · exact ⟨_, hx.symm, fun s' hs' => by cases hs'; exact ⟨advanceChar_good h g, hlt⟩⟩
      · obtain ⟨r, hr, hr'⟩ := ih (advanceChar_good h g) (Parser.fuel_step hf hp hlt)
        exact ⟨r, hx ▸ hr, fun s' hs' => ⟨(hr' s' hs').1, Nat.lt_trans hlt (hr' s' hs').2⟩⟩
    · exact ⟨_, hx.symm, fun s' hs' => by cases hs'⟩

theorem skipCharFindLoop_isSome (h : DecOK E) (c : Nat) {s : Sc} (g : Good E s) :
    (skipCharFindLoop E c (E.len + 1) s).isSome = true := by
  obtain ⟨r, hr, _⟩ := skipCharFindLoop_spec h c (E.len + 1) g (Parser.fuel_init _ _)
  rw [hr]; rfl

theorem skipCharFind_bok (h : DecOK E) (c : Nat) {s : Sc} (g : Good E s) :
    BOK E s (skipCharFind E c s) := by
  unfold skipCharFind
  obtain ⟨r, hr, hr'⟩ := skipCharFindLoop_spec h c (E.len + 1) g (Parser.fuel_init _ _)
  rw [hr]
  cases r with
  | none => exact BOK.refl g
  | some s' => exact BOK.adv (hr' s' rfl).1 (hr' s' rfl).2

theorem asciiLower_eq_10 {k : Nat} (h : asciiLower k = 10) : k = 10 := by
  unfold asciiLower at h; split at h <;> omega

theorem foldEqAt_cons_iff {inp : Bytes} {p k : Nat} {ks : List Nat} :
    foldEqAt inp p (k :: ks) = true ↔
      asciiLower (bAt inp p) = asciiLower k ∧ foldEqAt inp (p + 1) ks = true := by
  rw [foldEqAt, Bool.and_eq_true, beq_iff_eq]

theorem foldEqAt_no_nl (inp : Bytes) (kw : List Nat) (hkw : ∀ k, k ∈ kw → k ≠ 10) (p : Nat)
    (h : foldEqAt inp p kw = true) : ∀ i, p ≤ i → i < p + kw.length → bAt inp i ≠ 10 := by
  induction kw generalizing p with
  | nil => intro i h1 h2; simp at h2; omega
  | cons k ks ih =>
    rw [foldEqAt_cons_iff] at h
    intro i h1 h2
    by_cases hi : i = p
    · subst hi
      intro hc
      rw [hc] at h
      have : asciiLower k = 10 := by rw [← h.1]; rfl
      exact hkw k (List.mem_cons_self) (asciiLower_eq_10 this)
    · exact ih (fun k hk => hkw k (List.mem_cons_of_mem _ hk)) (p+1) h.2 i (by omega)
        (by simp only [List.length_cons] at h2; omega)

theorem skipString_bok (kw : List Nat) (hne : 0 < kw.length) (hkw : ∀ k, k ∈ kw → k ≠ 10)
    {s : Sc} (g : Good E s) : BOK E s (skipString E kw s) := by
  unfold skipString
  refine iteInduction (fun hc => ?_) fun _ => BOK.refl g
  have hst := no_nl_stretch E.inp s.pos kw.length hc.1 (foldEqAt_no_nl E.inp kw hkw s.pos hc.2)
  refine BOK.adv (Good.mk' hc.1 (fun hlt => ?_) (fun heq => ?_) ?_ ?_) (Nat.lt_add_of_pos_right hne)
  · simp only [] at hlt ⊢
    rw [if_pos hlt]; exact ⟨rfl, rfl⟩
  · simp only [] at heq ⊢
    rw [if_neg (Nat.not_lt.mpr (Nat.le_of_eq heq.symm))]; rfl
  · simp only []; rw [hst.1]; exact g.lineNum_eq
  · simp only []; rw [hst.2]; exact g.lineStart_eq

theorem kwAS_ok : 0 < kwAS.length ∧ ∀ k, k ∈ kwAS → k ≠ 10 := by decide
theorem kwVALUES_ok : 0 < kwVALUES.length ∧ ∀ k, k ∈ kwVALUES → k ≠ 10 := by decide

theorem kwAS_ascii : ∀ k, k ∈ kwAS → k < 128 := by decide
theorem kwVALUES_ascii : ∀ k, k ∈ kwVALUES → k < 128 := by decide

theorem skipString_AS_bok {s : Sc} (g : Good E s) : BOK E s (skipString E kwAS s) :=
  skipString_bok kwAS kwAS_ok.1 kwAS_ok.2 g

theorem skipString_VALUES_bok {s : Sc} (g : Good E s) : BOK E s (skipString E kwVALUES s) :=
  skipString_bok kwVALUES kwVALUES_ok.1 kwVALUES_ok.2 g

theorem commentLoop_spec (h : DecOK E) (endc : Nat) (f : Nat) {s : Sc} (g : Good E s)
    (hf : E.len - s.pos < f) :
    ∃ s', commentLoop E endc f s = some s' ∧ Post E s s' := by
  induction f generalizing s with
  | zero => omega
  | succ f ih =>
    generalize hx : commentLoop E endc (f+1) s = x
    unfold commentLoop at hx
    obtain ⟨hp, hx⟩ | ⟨_, hx⟩ := of_ite_eq hx
    · have ha := advanceChar_post h g
      have hlt := advanceChar_lt h g hp
      obtain ⟨_, hx⟩ | ⟨_, hx⟩ := of_ite_eq hx
      · obtain ⟨_, hx⟩ | ⟨_, hx⟩ := of_ite_eq hx
        · have hb := skipChar_bok h 47 ha.good
          obtain ⟨_, hx⟩ | ⟨_, hx⟩ := of_ite_eq hx
          · exact ⟨_, hx.symm, hb.good, Nat.le_trans ha.mono hb.mono⟩
          · obtain ⟨s', hs', hp'⟩ := ih hb.good (Parser.fuel_step hf hp (Nat.lt_of_lt_of_le hlt hb.mono))
            exact ⟨s', hx ▸ hs', hp'.good, Nat.le_trans ha.mono (Nat.le_trans hb.mono hp'.mono)⟩
        · exact ⟨s, hx.symm, g, Nat.le_refl _⟩
      · obtain ⟨s', hs', hp'⟩ := ih ha.good (Parser.fuel_step hf hp hlt)
        exact ⟨s', hx ▸ hs', hp'.good, Nat.le_trans ha.mono hp'.mono⟩
    · exact ⟨s, hx.symm, g, Nat.le_refl _⟩

theorem skipComment_bok (h : DecOK E) {s : Sc} (g : Good E s) : BOK E s (skipComment E s) := by
  unfold skipComment
  extract_lets c r1 r1' r2
  have hb1 : BOK E s r1' := iteInduction (fun _ => skipChar_bok h 45 g) fun _ => skipChar_bok h 47 g
  have hb2 : Post E r1'.1 r2.1 := by
    have post := fun c => let b := skipChar_bok h c hb1.good; Post.mk b.good b.mono
    exact iteInduction (motive := fun r : Sc × Bool => Post E r1'.1 r.1) (fun _ => post 45) fun _ =>
      iteInduction (motive := fun r : Sc × Bool => Post E r1'.1 r.1) (fun _ => post 42) fun _ =>
        ⟨hb1.good, Nat.le_refl _⟩
  refine iteInduction (fun hr1 => ?_) fun _ => BOK.refl g
  have hlt := hb1.prog hr1
  refine iteInduction (fun _ => ?_) fun _ => BOK.refl g
  obtain ⟨s3, hs3, hp3⟩ := commentLoop_spec h (if c = 45 then 10 else 42) (E.len + 1) hb2.good (Parser.fuel_init _ _)
  rw [hs3]
  exact BOK.adv hp3.good (Nat.lt_of_lt_of_le hlt (Nat.le_trans hb2.mono hp3.mono))

theorem commentLoop_isSome (h : DecOK E) (endc : Nat) {s : Sc} (g : Good E s) :
    (commentLoop E endc (E.len + 1) s).isSome = true := by
  obtain ⟨r, hr, _⟩ := commentLoop_spec h endc (E.len + 1) g (Parser.fuel_init _ _)
  rw [hr]; rfl

theorem strLitLoop_spec (h : DecOK E) (c : Nat) (f : Nat) (b : Bool) {s : Sc} (g : Good E s)
    (hf : E.len - s.pos < f) :
    ∃ r, strLitLoop E c f b s = some r ∧ ∀ s', r = some s' → Good E s' ∧ s.pos < s'.pos := by
  induction f generalizing s b with
  | zero => omega
  | succ f ih =>
    generalize hx : strLitLoop E c (f+1) b s = x
    unfold strLitLoop at hx
    have hb : BOK E s (skipCharFind E c s) := skipCharFind_bok h c g
    obtain ⟨hr, hx⟩ | ⟨_, hx⟩ := of_ite_eq hx
    · have hlt := hb.prog hr
      obtain ⟨_, hx⟩ | ⟨_, hx⟩ := of_ite_eq hx
      · exact ⟨_, hx.symm, fun s' hs' => by cases hs'; exact ⟨hb.good, hlt⟩⟩
      · obtain ⟨r', hr', hr''⟩ :=
          ih (!b) hb.good (Parser.fuel_step hf (Nat.lt_of_lt_of_le hlt hb.good.pos_le) hlt)
        exact ⟨r', hx ▸ hr', fun s' hs' => ⟨(hr'' s' hs').1, Nat.lt_trans hlt (hr'' s' hs').2⟩⟩
    · exact ⟨_, hx.symm, fun s' hs' => by cases hs'⟩

theorem strLitLoop_isSome (h : DecOK E) (c : Nat) (b : Bool) {s : Sc} (g : Good E s) :
    (strLitLoop E c (E.len + 1) b s).isSome = true := by
  obtain ⟨r, hr, _⟩ := strLitLoop_spec h c (E.len + 1) b g (Parser.fuel_init _ _)
  rw [hr]; rfl

theorem skipStringLiteral_xok (h : DecOK E) {s : Sc} (g : Good E s) :
    XOK E s (skipStringLiteral E s) := by
  unfold skipStringLiteral
  extract_lets c r r'
  have hb : BOK E s r' := iteInduction (fun _ => skipChar_bok h 34 g) fun _ => skipChar_bok h 39 g
  refine iteInduction (fun hr => ?_) fun _ => XOK.refl_no g
  obtain ⟨x, hx, hx'⟩ := strLitLoop_spec h c (E.len + 1) true hb.good (Parser.fuel_init _ _)
  rw [hx]
  cases x with
  | none => exact XOK.mk_err g (Nat.le_refl _) (errAt_ok g (by simp))
  | some s' => exact XOK.mk_ok (hx' s' rfl).1 (Nat.lt_trans (hb.prog hr) (hx' s' rfl).2) ()

theorem blanksLoop_spec (h : DecOK E) (f : Nat) {s : Sc} (g : Good E s) (hf : E.len - s.pos < f) :
    ∃ s', blanksLoop E f s = some s' ∧ Post E s s' := by
  induction f generalizing s with
  | zero => omega
  | succ f ih =>
    generalize hx : blanksLoop E (f+1) s = x
    unfold blanksLoop at hx
    obtain ⟨hp, hx⟩ | ⟨_, hx⟩ := of_ite_eq hx
    · have hb : BOK E s (skipComment E s) := skipComment_bok h g
      obtain ⟨hr, hx⟩ | ⟨_, hx⟩ := of_ite_eq hx
      · obtain ⟨s', hs', hp'⟩ := ih hb.good (Parser.fuel_step hf hp (hb.prog hr))
        exact ⟨s', hx ▸ hs', hp'.good, Nat.le_trans hb.mono hp'.mono⟩
      obtain ⟨_, hx⟩ | ⟨_, hx⟩ := of_ite_eq hx
      · obtain ⟨s', hs', hp'⟩ := ih (advanceChar_good h g) (Parser.fuel_step hf hp (advanceChar_lt h g hp))
        exact ⟨s', hx ▸ hs', hp'.good, Nat.le_trans (advanceChar_mono g) hp'.mono⟩
      · exact ⟨s, hx.symm, g, Nat.le_refl _⟩
    · exact ⟨s, hx.symm, g, Nat.le_refl _⟩

theorem blanksLoop_isSome (h : DecOK E) {s : Sc} (g : Good E s) :
    (blanksLoop E (E.len + 1) s).isSome = true := by
  obtain ⟨r, hr, _⟩ := blanksLoop_spec h (E.len + 1) g (Parser.fuel_init _ _)
  rw [hr]; rfl

theorem skipBlanks_post (h : DecOK E) {s : Sc} (g : Good E s) : Post E s (skipBlanks E s) := by
  unfold skipBlanks
  obtain ⟨r, hr, hp⟩ := blanksLoop_spec h (E.len + 1) g (Parser.fuel_init _ _)
  rw [hr]; exact hp

theorem isNameChar_eq_false_iff {c : Nat} :
    isNameChar E c = false ↔ E.letter c = false ∧ E.digit c = false ∧ c ≠ 95 := by
  unfold isNameChar
  rw [Bool.or_eq_false_iff, Bool.or_eq_false_iff, beq_eq_false_iff_ne, and_assoc]

theorem isInitialNameChar_isNameChar {c : Nat} (hn : isInitialNameChar E c = true) :
    isNameChar E c = true := by
  unfold isInitialNameChar at hn
  unfold isNameChar
  rw [Bool.or_eq_true] at hn
  rcases hn with hn | hn
  · rw [hn]; rfl
  · rw [hn]; simp

theorem isNameChar_ne_nl (hc : ClassOK E) {c : Nat} (h : isNameChar E c = true) : c ≠ 10 := by
  intro h10; subst h10
  rw [isNameChar_eq_false_iff.mpr ⟨hc.letter_nl, hc.digit_nl, by decide⟩] at h
  cases h

theorem nameLoop_spec (h : DecOK E) (f : Nat) {s : Sc} (g : Good E s) (hf : E.len - s.pos < f) :
    ∃ s', nameLoop E f s = some s' ∧ Post E s s' ∧ (ClassOK E → s'.lineNum = s.lineNum) := by
  induction f generalizing s with
  | zero => omega
  | succ f ih =>
    generalize hx : nameLoop E (f+1) s = x
    unfold nameLoop at hx
    obtain ⟨hp, hx⟩ | ⟨_, hx⟩ := of_ite_eq hx
    · obtain ⟨s', hs', hp', hl⟩ :=
        ih (advanceChar_good h g) (Parser.fuel_step hf hp.1 (advanceChar_lt h g hp.1))
      refine ⟨s', hx ▸ hs', ⟨hp'.good, Nat.le_trans (advanceChar_mono g) hp'.mono⟩, fun hc => ?_⟩
      rw [hl hc, advanceChar_lineNum, if_neg (fun hx => isNameChar_ne_nl hc hp.2 hx.1)]
    · exact ⟨s, hx.symm, ⟨g, Nat.le_refl _⟩, fun _ => rfl⟩

theorem nameLoop_isSome (h : DecOK E) {s : Sc} (g : Good E s) :
    (nameLoop E (E.len + 1) s).isSome = true := by
  obtain ⟨r, hr, _⟩ := nameLoop_spec h (E.len + 1) g (Parser.fuel_init _ _)
  rw [hr]; rfl

theorem parseTypeName_post (h : DecOK E) {s : Sc} (g : Good E s) :
    Post E s (parseTypeName E s).1 ∧ (ClassOK E → (parseTypeName E s).1.lineNum = s.lineNum) ∧
    ((parseTypeName E s).2 = none → (parseTypeName E s).1.pos = s.pos) := by
  unfold parseTypeName
  extract_lets s1
  have hs1 : Post E s s1 ∧ (ClassOK E → s1.lineNum = s.lineNum) := by
    unfold s1
    split
    · next hi =>
      have ha := advanceChar_post h g
      obtain ⟨s', hs', hp', hl⟩ := nameLoop_spec h (E.len + 1) ha.good (Parser.fuel_init _ _)
      rw [hs']
      refine ⟨⟨hp'.good, Nat.le_trans ha.mono hp'.mono⟩, fun hc => ?_⟩
      show s'.lineNum = _
      rw [hl hc, advanceChar_lineNum, if_neg (fun hx => isNameChar_ne_nl hc (isInitialNameChar_isNameChar hi) hx.1)]
    · exact ⟨⟨g, Nat.le_refl _⟩, fun _ => rfl⟩
  split
  · exact ⟨hs1.1, hs1.2, fun hn => by cases hn⟩
  · next hgt => exact ⟨hs1.1, hs1.2, fun _ => Nat.le_antisymm (Nat.le_of_not_lt hgt) hs1.1.mono⟩

end

section
variable {E : Env} {s : Sc} {c : Nat}

/-! Equations of the primitives away from their trigger characters.  They need neither `Good` nor
    `DecOK`: with them the relational passes (`Lex*`, `Sim`, `Shift*`, `Exact`) step over a
    primitive without walking it. -/

theorem skipChar_of_eq (hp : s.pos < E.len) (hc : s.char = c) :
    skipChar E c s = (advanceChar E s, true) := by
  unfold skipChar; rw [if_pos ⟨hp, hc⟩]

theorem skipChar_of_not (hn : ¬ (s.pos < E.len ∧ s.char = c)) :
    skipChar E c s = (s, false) := by
  unfold skipChar; rw [if_neg hn]

theorem skipChar_of_ne (hc : s.char ≠ c) : skipChar E c s = (s, false) :=
  skipChar_of_not fun hx => hc hx.2

theorem skipChar_false {c : Nat} {s : Sc} (hf : (skipChar E c s).2 = false) :
    ¬ (s.pos < E.len ∧ s.char = c) := by
  intro hn
  rw [skipChar_of_eq hn.1 hn.2] at hf
  cases hf

theorem skipCharFind_of_eq (hp : s.pos < E.len) (hc : s.char = c) :
    skipCharFind E c s = (advanceChar E s, true) := by
  unfold skipCharFind skipCharFindLoop
  rw [if_pos hp, if_pos hc]

theorem skipComment_of_not (h45 : ¬ (s.pos < E.len ∧ s.char = 45))
    (h47 : ¬ (s.pos < E.len ∧ s.char = 47)) : skipComment E s = (s, false) := by
  unfold skipComment
  simp only [skipChar_of_not h45, skipChar_of_not h47]
  rfl

theorem skipStringLiteral_of_not (hq : ¬ (s.pos < E.len ∧ (s.char = 34 ∨ s.char = 39))) :
    skipStringLiteral E s = (s, .no) := by
  unfold skipStringLiteral
  simp only [skipChar_of_not fun hx => hq ⟨hx.1, Or.inl hx.2⟩,
    skipChar_of_not fun hx => hq ⟨hx.1, Or.inr hx.2⟩]
  rfl

theorem skipStringLiteral_no {s1 : Sc} (hq : skipStringLiteral E s = (s1, .no)) : s1 = s := by
  unfold skipStringLiteral at hq
  dsimp only at hq
  obtain ⟨_, hq⟩ | ⟨_, hq⟩ := of_ite_eq hq
  · split at hq <;> cases hq
  · cases hq; rfl

theorem skipStringLiteral_err {s t : Sc} {e : PErr}
    (h : skipStringLiteral E s = (t, .err e)) : t = s ∧ (s.char = 34 ∨ s.char = 39) := by
  have hq : s.char = 34 ∨ s.char = 39 := by
    by_cases h34 : s.char = 34
    · exact Or.inl h34
    · by_cases h39 : s.char = 39
      · exact Or.inr h39
      · rw [skipStringLiteral_of_not fun hx => hx.2.elim h34 h39] at h
        cases h
  refine ⟨?_, hq⟩
  unfold skipStringLiteral at h
  extract_lets c r r' at h
  split at h
  · split at h
    · cases h
    · cases h; rfl
    · cases h; rfl
  · cases h

theorem skipString_of_match {s : Sc} {kw : List Nat} (hc : s.pos + kw.length ≤ E.len ∧ foldEqAt E.inp s.pos kw = true) :
    (skipString E kw s).2 = true ∧ (skipString E kw s).1.pos = s.pos + kw.length := by
  unfold skipString; rw [if_pos hc]; exact ⟨rfl, rfl⟩

theorem skipString_of_not {s : Sc} {kw : List Nat} (hc : ¬ (s.pos + kw.length ≤ E.len ∧ foldEqAt E.inp s.pos kw = true)) :
    skipString E kw s = (s, false) := by
  unfold skipString; rw [if_neg hc]

theorem foldEqAt_VALUES_not_AS {inp : Bytes} {p : Nat} (h : foldEqAt inp p kwVALUES = true) :
    foldEqAt inp p kwAS = false := by
  -- the first letters differ
  refine Bool.eq_false_iff.mpr fun hx => ?_
  have := (foldEqAt_cons_iff.mp h).1.symm.trans (foldEqAt_cons_iff.mp hx).1
  exact absurd this (by decide)

theorem skipString_AS_of_VALUES {s : Sc} (h : (skipString E kwVALUES s).2 = true) :
    skipString E kwAS s = (s, false) := by
  by_cases hc : s.pos + kwVALUES.length ≤ E.len ∧ foldEqAt E.inp s.pos kwVALUES = true
  · exact skipString_of_not fun hx => by rw [foldEqAt_VALUES_not_AS hc.2] at hx; cases hx.2
  · rw [skipString_of_not hc] at h; cases h

theorem peekChar_true_iff : peekChar E c s = true ↔ s.pos < E.len ∧ s.char = c := by
  unfold peekChar
  rw [Bool.and_eq_true, decide_eq_true_iff, beq_iff_eq]

theorem skipBlanks_stay
    (hc : s.char ≠ 45 ∧ s.char ≠ 47 ∧ s.char ≠ 32 ∧ s.char ≠ 9 ∧ s.char ≠ 13 ∧ s.char ≠ 10) :
    skipBlanks E s = s := by
  have hnb : ¬ (s.char = 32 ∨ s.char = 9 ∨ s.char = 13 ∨ s.char = 10) := fun hx =>
    hx.elim hc.2.2.1 fun hx => hx.elim hc.2.2.2.1 fun hx => hx.elim hc.2.2.2.2.1 hc.2.2.2.2.2
  unfold skipBlanks blanksLoop
  by_cases hp : s.pos < E.len
  · rw [if_pos hp, skipComment_of_not (fun hx => hc.1 hx.2) (fun hx => hc.2.1 hx.2)]
    simp only []
    rw [if_neg Bool.false_ne_true, if_neg hnb]; rfl
  · rw [if_neg hp]; rfl

theorem parseTypeName_fst (E : Env) (s : Sc) : (parseTypeName E s).1 =
    if isInitialNameChar E s.char = true
    then (nameLoop E (E.len + 1) (advanceChar E s)).getD (advanceChar E s) else s := by
  unfold parseTypeName
  extract_lets s1
  split <;> rfl

theorem parseTypeName_eq (E : Env) (s : Sc) :
    parseTypeName E s = ((parseTypeName E s).1,
      if (parseTypeName E s).1.pos > s.pos then some (E.inp.extract s.pos (parseTypeName E s).1.pos)
      else none) := by
  unfold parseTypeName
  extract_lets s1
  split <;> rfl

theorem skipBlanks_eof (hp : ¬ s.pos < E.len) : skipBlanks E s = s := by
  unfold skipBlanks blanksLoop
  rw [if_neg hp]; rfl

end

/-- The blanks and the two comment openers `-`, `/` are neither letters nor digits.  True of Go's
    `unicode.IsLetter` / `unicode.IsDigit`, and of every classifier that agrees with the ASCII
    tables below 128 (`ClassSep.of_ascii`). -/
structure ClassSep (E : Env) : Prop where
  letter : ∀ c, (c = 9 ∨ c = 10 ∨ c = 13 ∨ c = 32 ∨ c = 45 ∨ c = 47) → E.letter c = false
  digit : ∀ c, (c = 9 ∨ c = 10 ∨ c = 13 ∨ c = 32 ∨ c = 45 ∨ c = 47) → E.digit c = false

theorem ClassSep.of_ascii (E : Env) (hl : ∀ c, c < 128 → E.letter c = asciiLetter c)
    (hd : ∀ c, c < 128 → E.digit c = asciiDigit c) : ClassSep E := by
  refine ⟨fun c hc => ?_, fun c hc => ?_⟩
  · rw [hl c (by omega)]
    rcases hc with rfl | rfl | rfl | rfl | rfl | rfl <;> rfl
  · rw [hd c (by omega)]
    rcases hc with rfl | rfl | rfl | rfl | rfl | rfl <;> rfl

theorem ClassSep.classOK {E : Env} (h : ClassSep E) : ClassOK E :=
  ⟨h.letter 10 (by omega), h.digit 10 (by omega)⟩

theorem ClassSep.not_nameChar {E : Env} (h : ClassSep E) {c : Nat}
    (hc : c = 9 ∨ c = 10 ∨ c = 13 ∨ c = 32 ∨ c = 45 ∨ c = 47) : isNameChar E c = false := by
  refine isNameChar_eq_false_iff.mpr ⟨h.letter c hc, h.digit c hc, ?_⟩
  rcases hc with rfl | rfl | rfl | rfl | rfl | rfl <;> decide

theorem skipBlanks_nameChar {E : Env} (hsep : ClassSep E) {s : Sc} (hn : isNameChar E s.char = true) :
    skipBlanks E s = s := by
  have hne : ∀ d, d = 9 ∨ d = 10 ∨ d = 13 ∨ d = 32 ∨ d = 45 ∨ d = 47 → s.char ≠ d :=
    fun d hd hc => by rw [hc, hsep.not_nameChar hd] at hn; cases hn
  exact skipBlanks_stay ⟨hne _ (by decide), hne _ (by decide), hne _ (by decide), hne _ (by decide),
    hne _ (by decide), hne _ (by decide)⟩

end Sqlair
