/-
  Simulation, scanner level.  `skipCharFind`, `commentLoop`, `strLitLoop` run inside literals and
  comments, where two runs need not correspond: `skipComment` and `skipStringLiteral` are part of
  the interface `Sim`.
-/
import SqlairProofs.Sim.Defs

namespace Sqlair

section
variable {E E' : Env} {d : Nat} {I : Sc → Prop} {RB : Bytes → Bytes → Prop} {s : Sc}
variable (S : Sim E E' d I RB)
include S

theorem sim_isNameChar (c : Nat) : isNameChar E' c = isNameChar E c := by
  unfold isNameChar; rw [S.letter, S.digit]

theorem sim_isInitialNameChar (c : Nat) : isInitialNameChar E' c = isInitialNameChar E c := by
  unfold isInitialNameChar; rw [S.letter]

theorem sim_lt_len (s : Sc) : (s.sh d).pos < E'.len ↔ s.pos < E.len := by
  rw [S.len, Sc.sh_pos, Nat.add_lt_add_iff_right]

/-- 34, 39, 45, 47: the two quotes, `-` and `/`, which open a literal or a comment. -/
theorem sim_adv_char (i : I s) (hc : s.char ≠ 34 ∧ s.char ≠ 39 ∧ s.char ≠ 45 ∧ s.char ≠ 47) :
    I (advanceChar E s) ∧ advanceChar E' (s.sh d) = (advanceChar E s).sh d :=
  S.adv_code i (skipStringLiteral_of_not fun hx => hx.2.elim hc.1 hc.2.1)
    (skipComment_of_not (fun hx => hc.2.2.1 hx.2) (fun hx => hc.2.2.2 hx.2) ▸ Bool.false_ne_true)

/-- At the call sites `c` is a numeral, which `decide` tells from the quotes, `-` and `/`. -/
theorem sim_skipChar (c : Nat) (i : I s) (hc : c ≠ 34 ∧ c ≠ 39 ∧ c ≠ 45 ∧ c ≠ 47 := by decide) :
    SimTo I (shB d) (skipChar E c s) (skipChar E' c (s.sh d)) := by
  unfold skipChar
  refine .ite (and_congr (sim_lt_len S s) Iff.rfl) (fun hn => ?_) fun _ => ⟨i, rfl⟩
  obtain ⟨i1, e1⟩ := sim_adv_char S i (by rw [hn.2]; exact hc)
  exact ⟨i1, by rw [e1]; rfl⟩

theorem sim_nameLoop {j : Nat} (f : Nat) (s : Sc) (i : I s) :
    SimLoop I d (nameLoop E f s) (nameLoop E' (f + j) (s.sh d)) := by
  induction f generalizing s with
  | zero => exact .none
  | succ f ih =>
    rw [Nat.add_right_comm]
    unfold nameLoop
    refine .ite (and_congr (sim_lt_len S s) (by rw [sim_isNameChar S]; exact Iff.rfl)) (fun hn => ?_)
      fun _ => .some i
    obtain ⟨i1, e1⟩ := S.adv_name i hn.2
    rw [e1]; exact ih _ i1

theorem sim_nameLoop_getD (i : I s) :
    I ((nameLoop E (E.len + 1) s).getD s) ∧
      (nameLoop E' (E'.len + 1) (s.sh d)).getD (s.sh d) = ((nameLoop E (E.len + 1) s).getD s).sh d := by
  rw [S.len, Nat.add_right_comm]
  exact (sim_nameLoop S _ s i).getD (nameLoop_isSome S.dec (S.good i)) s

theorem sim_blanksLoop {j : Nat} (f : Nat) (s : Sc) (i : I s) :
    SimLoop I d (blanksLoop E f s) (blanksLoop E' (f + j) (s.sh d)) := by
  induction f generalizing s with
  | zero => exact .none
  | succ f ih =>
    rw [Nat.add_right_comm]
    unfold blanksLoop
    obtain ⟨ic, ec⟩ := S.skipComment i
    rw [ec]
    refine .ite (sim_lt_len S s) (fun _ => ?_) fun _ => .some i
    refine .ite Iff.rfl (fun _ => ih _ ic) fun _ => ?_
    refine .ite Iff.rfl (fun hb => ?_) fun _ => .some i
    obtain ⟨i1, e1⟩ := sim_adv_char S i (by omega)
    rw [e1]; exact ih _ i1

theorem sim_skipBlanks (i : I s) :
    I (skipBlanks E s) ∧ skipBlanks E' (s.sh d) = (skipBlanks E s).sh d := by
  unfold skipBlanks
  rw [S.len, Nat.add_right_comm]
  exact (sim_blanksLoop S _ s i).getD (blanksLoop_isSome S.dec (S.good i)) s

theorem sim_parseTypeName (i : I s) :
    SimO I d RB (parseTypeName E s) (parseTypeName E' (s.sh d)) := by
  unfold parseTypeName
  extract_lets s1 s1'
  have hs1 : I s1 ∧ s1' = s1.sh d := by
    unfold s1' s1
    rw [Sc.sh_char, sim_isInitialNameChar S]
    split
    · next hi =>
      obtain ⟨i1, e1⟩ := S.adv_name i (isInitialNameChar_isNameChar hi)
      rw [e1]; exact sim_nameLoop_getD S i1
    · exact ⟨i, rfl⟩
  obtain ⟨i1, e1⟩ := hs1
  clear_value s1' s1
  subst e1
  simp only [Sc.sh_pos, Nat.add_lt_add_iff_right, gt_iff_lt]
  split
  · exact ⟨i1, rfl, .some (S.extract i _)⟩
  · exact ⟨i1, rfl, .none⟩

end
end Sqlair
