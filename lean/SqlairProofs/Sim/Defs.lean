/-
  Simulation of one run of the parser by another: definitions.

  The parser reads its input through four primitives only: `advanceChar`, `skipString`,
  `skipComment`, `skipStringLiteral` (and `extract` for the texts it returns).  `Sim E E' d I RB`
  says that on these the run on `E'` from the state `s.sh d` does what the run on `E` does from
  `s`, for the states `s` of `I`: it ends in the image of the state the run on `E` ends in, which
  is again in `I`, and the texts are related by `RB`.  `Sim/Scan.lean`, `Sim/Items.lean`,
  `Sim/Exprs.lean` show that every parse function then does the same.

  Instances: leading newlines (`shift_sim`: `E' = shiftEnv k E`, `d = k`, `I = Good E`, equal
  texts); another input that agrees with `E` at the code offsets of the reference lexer
  (`opq_sim`: `d = 0`, `I = LC E`, texts related by `OpqStar`); and `E` itself at those offsets
  (`lc_sim`), which says that every parse function keeps `LC E`.  The pass over a node parsed on
  its own (`Exact/*`) is not an instance: there `E'` ends where the node ends, so `len` fails and
  the two runs answer alike only on condition of where the run on `E` ends (`Exact/Defs.lean`).
-/
import SqlairProofs.Parser.Main

namespace Sqlair

/-- One shift for offsets and for lines: the instance with `d ≠ 0` is `k` leading newlines, one byte
    and one line each. -/
def Sc.sh (k : Nat) (s : Sc) : Sc :=
  { pos := s.pos + k, nextPos := s.nextPos + k, char := s.char,
    lineNum := s.lineNum + k, lineStart := s.lineStart + k }

def PErr.sh (k : Nat) (e : PErr) : PErr := { e with line := e.line + k }

def Res.sh {α : Type} (k : Nat) (fv : α → α) : Res α → Res α
  | .ok x => .ok (fv x)
  | .no => .no
  | .err e => .err (e.sh k)

def Seg.sh (k : Nat) (x : Seg) : Seg := { x with a := x.a + k, b := x.b + k }

def shB (k : Nat) (r : Sc × Bool) : Sc × Bool := (r.1.sh k, r.2)

def shR {α : Type} (k : Nat) (fv : α → α) (r : Sc × Res α) : Sc × Res α := (r.1.sh k, r.2.sh k fv)

section
variable {k : Nat}

@[simp] theorem Sc.sh_pos (s : Sc) : (s.sh k).pos = s.pos + k := rfl
@[simp] theorem Sc.sh_nextPos (s : Sc) : (s.sh k).nextPos = s.nextPos + k := rfl
@[simp] theorem Sc.sh_char (s : Sc) : (s.sh k).char = s.char := rfl
@[simp] theorem Sc.sh_lineNum (s : Sc) : (s.sh k).lineNum = s.lineNum + k := rfl
@[simp] theorem Sc.sh_lineStart (s : Sc) : (s.sh k).lineStart = s.lineStart + k := rfl

@[simp] theorem PErr.sh_line (e : PErr) : (e.sh k).line = e.line + k := rfl
@[simp] theorem PErr.sh_col (e : PErr) : (e.sh k).col = e.col := rfl
@[simp] theorem PErr.sh_kind (e : PErr) : (e.sh k).kind = e.kind := rfl

@[simp] theorem PErr.sh_mk (l c : Nat) (kd : EKind) :
    PErr.sh k { line := l, col := c, kind := kd } = { line := l + k, col := c, kind := kd } := rfl

@[simp] theorem Seg.sh_mk (kd : SegKind) (a b : Nat) (cols : List Col) (types : List Acc) (vals : List Val) :
    Seg.sh k { kind := kd, a := a, b := b, cols := cols, types := types, vals := vals } =
      { kind := kd, a := a + k, b := b + k, cols := cols, types := types, vals := vals } := rfl

@[simp] theorem Res.sh_ok {α : Type} (fv : α → α) (x : α) : (Res.ok x).sh k fv = .ok (fv x) := rfl
@[simp] theorem Res.sh_no {α : Type} (fv : α → α) : (Res.no : Res α).sh k fv = .no := rfl
@[simp] theorem Res.sh_err {α : Type} (fv : α → α) (e : PErr) :
    (Res.err e : Res α).sh k fv = .err (e.sh k) := rfl

@[simp] theorem shB_mk (s : Sc) (b : Bool) : shB k (s, b) = (s.sh k, b) := rfl
@[simp] theorem shB_fst (r : Sc × Bool) : (shB k r).1 = r.1.sh k := rfl
@[simp] theorem shB_snd (r : Sc × Bool) : (shB k r).2 = r.2 := rfl
@[simp] theorem shR_mk {α : Type} (fv : α → α) (s : Sc) (r : Res α) :
    shR k fv (s, r) = (s.sh k, r.sh k fv) := rfl
@[simp] theorem shR_fst {α : Type} (fv : α → α) (r : Sc × Res α) : (shR k fv r).1 = r.1.sh k := rfl
@[simp] theorem shR_snd {α : Type} (fv : α → α) (r : Sc × Res α) : (shR k fv r).2 = r.2.sh k fv := rfl

@[simp] theorem colNum_sh (s : Sc) : colNum (s.sh k) = colNum s := by
  unfold colNum; rw [Sc.sh_pos, Sc.sh_lineStart, Nat.add_sub_add_right]

@[simp] theorem errAt_sh (s : Sc) (kind : EKind) : errAt (s.sh k) kind = (errAt s kind).sh k := by
  unfold errAt PErr.sh; simp

theorem Sc.sh_zero (s : Sc) : s.sh 0 = s := rfl

end

/-! For `d = 0` the images are the things themselves.  The lemmas are stated for variables: asked
    whether `shB 0 (f E s)` is `f E s`, the unifier unfolds `f` to find the pair. -/

theorem Res.sh_zero {α : Type} (r : Res α) : r.sh 0 id = r := by cases r <;> rfl
theorem shB_zero (r : Sc × Bool) : shB 0 r = r := rfl
theorem shR_zero {α : Type} (r : Sc × Res α) : shR 0 id r = r := Prod.ext rfl (Res.sh_zero _)

/-- The loops of the run on the longer input have more fuel, which must not show. -/
def NoFuel {α : Type} (r : Sc × Res α) : Prop := ∀ e, r.2 = .err e → e.kind ≠ EKind.fuel

theorem ROK.noFuel {E : Env} {α : Type} {s : Sc} {r : Sc × Res α} (hr : ROK E s r) : NoFuel r :=
  fun e he => (hr.err e he).not_fuel

def SimTo {β : Type} (I : Sc → Prop) (g : Sc × β → Sc × β) (x x' : Sc × β) : Prop := I x.1 ∧ x' = g x

/-- `advanceChar` is asked for only outside literals and comments (`adv_code`, `adv_name`): inside
    them two runs need not correspond. -/
structure Sim (E E' : Env) (d : Nat) (I : Sc → Prop) (RB : Bytes → Bytes → Prop) : Prop where
  dec : DecOK E
  len : E'.len = E.len + d
  letter : E'.letter = E.letter
  digit : E'.digit = E.digit
  good : ∀ {s}, I s → Good E s
  adv_code : ∀ {s s1}, I s → skipStringLiteral E s = (s1, .no) → ¬ (skipComment E s).2 = true →
    I (advanceChar E s) ∧ advanceChar E' (s.sh d) = (advanceChar E s).sh d
  adv_name : ∀ {s}, I s → isNameChar E s.char = true →
    I (advanceChar E s) ∧ advanceChar E' (s.sh d) = (advanceChar E s).sh d
  skipString : ∀ {s kw}, kw = kwAS ∨ kw = kwVALUES → I s →
    SimTo I (shB d) (skipString E kw s) (skipString E' kw (s.sh d))
  skipComment : ∀ {s}, I s → SimTo I (shB d) (skipComment E s) (skipComment E' (s.sh d))
  skipStringLiteral : ∀ {s}, I s →
    SimTo I (shR d id) (skipStringLiteral E s) (skipStringLiteral E' (s.sh d))
  extract : ∀ {s}, I s → ∀ b, RB (E.inp.extract s.pos b) (E'.inp.extract (s.pos + d) (b + d))
  refl : ∀ a, RB a a
  star : ∀ {a b}, RB a b → (a = star ↔ b = star)

section
variable {I : Sc → Prop} {d : Nat}

theorem SimTo.ite {β : Type} {g : Sc × β → Sc × β} {c c' : Prop} [Decidable c] [Decidable c']
    (hc : c' ↔ c) {a b a' b' : Sc × β} (ha : c → SimTo I g a a') (hb : ¬ c → SimTo I g b b') :
    SimTo I g (if c then a else b) (if c' then a' else b') := ite_rel _ hc ha hb

/-- `none` is a scanner loop out of fuel; the loop on `E'` runs with at least as much fuel, so only
    a result of the first has an image. -/
def SimLoop (I : Sc → Prop) (d : Nat) (r r' : Option Sc) : Prop :=
  ∀ s1, r = some s1 → I s1 ∧ r' = some (s1.sh d)

theorem SimLoop.some {s : Sc} (i : I s) : SimLoop I d (some s) (some (s.sh d)) :=
  fun _ h => Option.some.inj h ▸ ⟨i, rfl⟩

theorem SimLoop.none {r' : Option Sc} : SimLoop I d none r' := fun _ h => nomatch h

theorem SimLoop.ite {c c' : Prop} [Decidable c] [Decidable c'] (hc : c' ↔ c)
    {a b a' b' : Option Sc} (ha : c → SimLoop I d a a') (hb : ¬ c → SimLoop I d b b') :
    SimLoop I d (if c then a else b) (if c' then a' else b') := ite_rel _ hc ha hb

theorem SimLoop.getD {r r' : Option Sc} (hl : SimLoop I d r r') (hs : r.isSome = true) (s : Sc) :
    I (r.getD s) ∧ r'.getD (s.sh d) = (r.getD s).sh d := by
  cases r with
  | none => cases hs
  | some s1 => obtain ⟨i1, e1⟩ := hl s1 rfl; exact ⟨i1, by rw [e1]; rfl⟩

end

/-- The same relation as `Corr` (`Basics.lean`), which is stated by index; the walk builds its lists
    by `cons` and `snoc` and its users take them apart by `induction`, so it is an inductive here. -/
inductive OpqList {α : Type} (Rα : α → α → Prop) : List α → List α → Prop where
  | nil : OpqList Rα [] []
  | cons {a b : α} {l l' : List α} : Rα a b → OpqList Rα l l' → OpqList Rα (a :: l) (b :: l')

theorem OpqList.snoc {α : Type} {Rα : α → α → Prop} {l l' : List α} {a b : α}
    (h : OpqList Rα l l') (hab : Rα a b) : OpqList Rα (l ++ [a]) (l' ++ [b]) := by
  induction h with
  | nil => exact .cons hab .nil
  | cons h1 _ ih => exact .cons h1 ih

theorem OpqList.eq_of {α : Type} {Rα : α → α → Prop} (ha : ∀ a b, Rα a b → b = a) {l l' : List α}
    (h : OpqList Rα l l') : l' = l := by
  induction h with
  | nil => rfl
  | cons h1 _ ih => rw [ha _ _ h1, ih]

/-- A kind of `EKind` that carries a text of the input belongs to the first alternative: the last
    one asks for equal kinds, texts included. -/
def EKind.Rel (RB : Bytes → Bytes → Prop) : EKind → EKind → Prop
  | .sliceInOutput a, .sliceInOutput b | .invalidSlice a, .invalidSlice b
  | .unqualified a, .unqualified b | .invalidSuffix a, .invalidSuffix b
  | .funcIntoStar a, .funcIntoStar b | .starInInput a, .starInInput b => RB a b
  | k, k' => k = k'

def PErr.Rel (d : Nat) (RB : Bytes → Bytes → Prop) (e e' : PErr) : Prop :=
  e'.line = e.line + d ∧ e'.col = e.col ∧ EKind.Rel RB e.kind e'.kind

inductive Res.Rel {α : Type} (d : Nat) (RB : Bytes → Bytes → Prop) (Rα : α → α → Prop) :
    Res α → Res α → Prop where
  | ok {a b : α} : Rα a b → Res.Rel d RB Rα (.ok a) (.ok b)
  | no : Res.Rel d RB Rα .no .no
  | err {e e' : PErr} : PErr.Rel d RB e e' → Res.Rel d RB Rα (.err e) (.err e')

def SimR {α : Type} (I : Sc → Prop) (d : Nat) (RB : Bytes → Bytes → Prop) (Rα : α → α → Prop)
    (x x' : Sc × Res α) : Prop := I x.1 ∧ x'.1 = x.1.sh d ∧ Res.Rel d RB Rα x.2 x'.2

def SimF {α : Type} (I : Sc → Prop) (d : Nat) (RB : Bytes → Bytes → Prop) (Rα : α → α → Prop)
    (x x' : Sc × Res α) : Prop := NoFuel x → SimR I d RB Rα x x'

def Col.Rel (RB : Bytes → Bytes → Prop) (a b : Col) : Prop :=
  RB a.table b.table ∧ RB a.column b.column ∧ a.func = b.func

def Acc.Rel (RB : Bytes → Bytes → Prop) (a b : Acc) : Prop := RB a.ty b.ty ∧ RB a.member b.member

inductive Val.Rel (RB : Bytes → Bytes → Prop) : Val → Val → Prop where
  | lit {a b : Bytes} : RB a b → Val.Rel RB (.lit a) (.lit b)
  | acc {a b : Acc} : Acc.Rel RB a b → Val.Rel RB (.acc a) (.acc b)

structure Seg.Rel (d : Nat) (RB : Bytes → Bytes → Prop) (x y : Seg) : Prop where
  kind : y.kind = x.kind
  a : y.a = x.a + d
  b : y.b = x.b + d
  cols : OpqList (Col.Rel RB) x.cols y.cols
  types : OpqList (Acc.Rel RB) x.types y.types
  vals : OpqList (Val.Rel RB) x.vals y.vals

section
variable {α : Type} {I : Sc → Prop} {d : Nat} {RB : Bytes → Bytes → Prop} {Rα : α → α → Prop}

theorem EKind.Rel.refl (hr : ∀ a, RB a a) (k : EKind) : EKind.Rel RB k k := by
  cases k <;> simp only [EKind.Rel] <;> exact hr _

theorem PErr.Rel.sh (hr : ∀ a, RB a a) (e : PErr) : PErr.Rel d RB e (e.sh d) := ⟨rfl, rfl, .refl hr _⟩

theorem PErr.Rel.errAt {s : Sc} {k k' : EKind} (hk : EKind.Rel RB k k') :
    PErr.Rel d RB (errAt s k) (errAt (s.sh d) k') := ⟨rfl, colNum_sh s, hk⟩

theorem SimR.mk_ok {s : Sc} {a b : α} (i : I s) (h : Rα a b) :
    SimR I d RB Rα (s, .ok a) (s.sh d, .ok b) := ⟨i, rfl, .ok h⟩

theorem SimR.mk_no {s : Sc} (i : I s) : SimR I d RB Rα (s, .no) (s.sh d, .no) := ⟨i, rfl, .no⟩

theorem SimR.mk_err {s : Sc} {e e' : PErr} (i : I s) (h : PErr.Rel d RB e e') :
    SimR I d RB Rα (s, .err e) (s.sh d, .err e') := ⟨i, rfl, .err h⟩

theorem SimR.ite {c c' : Prop} [Decidable c] [Decidable c'] (hc : c' ↔ c) {a b a' b' : Sc × Res α}
    (ha : c → SimR I d RB Rα a a') (hb : ¬ c → SimR I d RB Rα b b') :
    SimR I d RB Rα (if c then a else b) (if c' then a' else b') := ite_rel _ hc ha hb

theorem SimF.ite {c c' : Prop} [Decidable c] [Decidable c'] (hc : c' ↔ c) {a b a' b' : Sc × Res α}
    (ha : c → SimF I d RB Rα a a') (hb : ¬ c → SimF I d RB Rα b b') :
    SimF I d RB Rα (if c then a else b) (if c' then a' else b') := ite_rel _ hc ha hb

theorem SimR.toF {x x' : Sc × Res α} (h : SimR I d RB Rα x x') : SimF I d RB Rα x x' := fun _ => h

theorem SimF.fuel {s cp : Sc} {x' : Sc × Res α} :
    SimF I d RB Rα (s, .err (errAt cp .fuel)) x' := fun hn => absurd rfl (hn _ rfl)

@[elab_as_elim]
theorem SimR.rec' {motive : Sc × Res α → Sc × Res α → Prop} {x y : Sc × Res α}
    (h : SimR I d RB Rα x y)
    (ok : ∀ s a b, I s → Rα a b → motive (s, .ok a) (s.sh d, .ok b))
    (no : ∀ s, I s → motive (s, .no) (s.sh d, .no))
    (err : ∀ s e e', I s → PErr.Rel d RB e e' → motive (s, .err e) (s.sh d, .err e')) :
    motive x y := by
  obtain ⟨s1, r⟩ := x
  obtain ⟨s1', r'⟩ := y
  obtain ⟨i, hs, hr⟩ := h
  cases hs
  cases hr with
  | ok hab => exact ok _ _ _ i hab
  | no => exact no _ i
  | err he => exact err _ _ _ i he

def SimO {α : Type} (I : Sc → Prop) (d : Nat) (Rα : α → α → Prop) (x x' : Sc × Option α) : Prop :=
  I x.1 ∧ x'.1 = x.1.sh d ∧ Option.Rel Rα x.2 x'.2

@[elab_as_elim]
theorem SimO.rec' {motive : Sc × Option α → Sc × Option α → Prop} {x y : Sc × Option α}
    (h : SimO I d Rα x y) (none : ∀ s, I s → motive (s, none) (s.sh d, none))
    (some : ∀ s a b, I s → Rα a b → motive (s, some a) (s.sh d, some b)) :
    motive x y := by
  obtain ⟨s1, r⟩ := x
  obtain ⟨s1', r'⟩ := y
  obtain ⟨i, hs, hr⟩ := h
  cases hs
  cases hr with
  | none => exact none _ i
  | some he => exact some _ _ _ i he

end

theorem EKind.Rel.eq {k k' : EKind} (h : EKind.Rel Eq k k') : k = k' := by
  unfold EKind.Rel at h
  split at h <;> first | exact congrArg _ h | exact h

theorem PErr.Rel.eq {d : Nat} {e e' : PErr} (h : PErr.Rel d Eq e e') : e' = e.sh d := by
  cases e; cases e'; obtain ⟨h1, h2, h3⟩ := h
  simp only [] at h1 h2 h3; subst h1 h2; rw [h3.eq]; rfl

theorem Col.Rel.eq {a b : Col} (h : Col.Rel Eq a b) : b = a := by
  cases a; cases b; obtain ⟨h1, h2, h3⟩ := h; simp only [] at h1 h2 h3; subst h1 h2 h3; rfl

theorem Acc.Rel.eq {a b : Acc} (h : Acc.Rel Eq a b) : b = a := by
  cases a; cases b; obtain ⟨h1, h2⟩ := h; simp only [] at h1 h2; subst h1 h2; rfl

theorem Val.Rel.eq {a b : Val} (h : Val.Rel Eq a b) : b = a := by
  cases h with
  | lit h => rw [h]
  | acc h => rw [h.eq]

theorem Seg.Rel.eq {k : Nat} {x y : Seg} (r : Seg.Rel k Eq x y) : y = x.sh k := by
  obtain ⟨h1, h2, h3, h4, h5, h6⟩ := r
  cases x; cases y
  simp only [] at h1 h2 h3 h4 h5 h6
  obtain rfl := h4.eq_of fun _ _ => Col.Rel.eq
  obtain rfl := h5.eq_of fun _ _ => Acc.Rel.eq
  obtain rfl := h6.eq_of fun _ _ => Val.Rel.eq
  subst h1 h2 h3
  rfl

end Sqlair
