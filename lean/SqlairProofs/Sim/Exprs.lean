/-
  Simulation, expression level and main loop.  `advanceToNextExpression` makes the one test of
  the parser that depends on the absolute offset (a name at offset 0): with `d > 0` the two runs
  correspond only behind offset 0, so the main loop takes the correspondence of its first round
  as a hypothesis.  The main loop is walked here for two runs (`sim_parseLoop`, `sim_parse`);
  `parseLoop_rule` (`Parser/Main.lean`) is the induction for invariants of one run and supplies
  here only that the first run reports no fuel error.
-/
import SqlairProofs.Sim.Items

namespace Sqlair

section
variable {E E' : Env} {d : Nat} {I : Sc → Prop} {RB : Bytes → Bytes → Prop} {s : Sc}
variable (S : Sim E E' d I RB)
include S

theorem sim_beq_star {a b : Bytes} (h : RB a b) : (a == star) = (b == star) := by
  rw [Bool.eq_iff_iff, beq_iff_eq, beq_iff_eq]; exact S.star h

theorem sim_starCount {ts ts' : List Acc} (h : OpqList (Acc.Rel RB) ts ts') :
    starCountTypes ts = starCountTypes ts' := by
  unfold starCountTypes
  induction h with
  | nil => rfl
  | cons hab _ ih =>
    rw [List.filter_cons, List.filter_cons, sim_beq_star S hab.2]
    split
    · simp only [List.length_cons, ih]
    · exact ih

omit S in
theorem find_func_rel {cs cs' : List Col} (h : OpqList (Col.Rel RB) cs cs') :
    Option.Rel (Col.Rel RB) (cs.find? (·.func)) (cs'.find? (·.func)) := by
  induction h with
  | nil => exact .none
  | @cons a b l l' hab _ ih =>
    rw [List.find?_cons, List.find?_cons, ← hab.2.2]
    cases a.func with
    | true => exact .some hab
    | false => exact ih

theorem sim_parseOutputExpr (i : I s) :
    SimR I d RB (Seg.Rel d RB) (parseOutputExpr E s) (parseOutputExpr E' (s.sh d)) := by
  unfold parseOutputExpr
  refine (sim_parseTargetType S i).rec' (fun _ _ _ i1 hab => .mk_ok i1 ⟨rfl, rfl, rfl, .nil, .cons hab .nil, .nil⟩)
    (fun cp icp => ?_) (fun _ _ _ i1 he => .mk_err i1 he)
  dsimp only
  refine (sim_parseColumns S icp).rec' (fun _ _ => .mk_no icp) fun s2 c c' i2 hc => ?_
  obtain ⟨cols, pc⟩ := c
  obtain ⟨cols', pc'⟩ := c'
  obtain ⟨hcols, rfl⟩ := hc
  obtain ⟨i3, e3⟩ := sim_skipBlanks S i2
  obtain ⟨ias, eas⟩ := S.skipString (.inl rfl) i3
  obtain ⟨i4, e4⟩ := sim_skipBlanks S ias
  dsimp only
  rw [e3, eas, shB_snd, shB_fst, e4]
  refine .ite Iff.rfl (fun _ => .mk_no icp) fun _ => ?_
  refine (sim_parseTargetTypes S i4).rec' (fun s5 t t' i5 ht => ?_) (fun _ _ => .mk_no icp)
    (fun _ _ _ i5 he => .mk_err i5 he)
  obtain ⟨types, pt⟩ := t
  obtain ⟨types', pt'⟩ := t'
  obtain ⟨hty, rfl⟩ := ht
  dsimp only
  refine .ite Iff.rfl (fun _ => .mk_err i5 (.errAt rfl)) fun _ =>
    .ite Iff.rfl (fun _ => .mk_err i5 (.errAt rfl)) fun _ => ?_
  rw [← sim_starCount S hty]
  have hf := find_func_rel hcols
  by_cases hs : starCountTypes types > 0
  · rw [if_pos hs, if_pos hs]
    revert hf
    generalize cols.find? (·.func) = a
    generalize cols'.find? (·.func) = b
    intro hf
    cases hf with
    | none => exact .mk_ok i5 ⟨rfl, rfl, rfl, hcols, hty, .nil⟩
    | some hab => exact .mk_err i5 (.errAt hab.2.1)
  · rw [if_neg hs, if_neg hs]
    exact .mk_ok i5 ⟨rfl, rfl, rfl, hcols, hty, .nil⟩

theorem sim_parseSliceInputExpr (i : I s) :
    SimR I d RB (Seg.Rel d RB) (parseSliceInputExpr E s) (parseSliceInputExpr E' (s.sh d)) := by
  unfold parseSliceInputExpr
  obtain ⟨i36, e36⟩ := sim_skipChar S 36 i
  dsimp only
  rw [e36]
  refine .ite Iff.rfl (fun _ => .mk_no i) fun _ => ?_
  exact (sim_parseSliceAccessor S i36).rec'
    (fun _ _ _ i1 hab => .mk_ok i1 ⟨rfl, rfl, rfl, .nil, .cons ⟨hab, S.refl _⟩ .nil, .nil⟩)
    (fun _ _ => .mk_no i) (fun _ _ _ _ he => .mk_err i he)

theorem sim_parseMemberInputExpr (i : I s) :
    SimR I d RB (Seg.Rel d RB) (parseMemberInputExpr E s) (parseMemberInputExpr E' (s.sh d)) := by
  unfold parseMemberInputExpr
  refine (sim_parseInputMemberAccessor S i).rec' (fun s1 a b i1 hab => ?_) (fun _ _ => .mk_no i)
    (fun _ _ _ _ he => .mk_err i he)
  dsimp only
  rw [sim_beq_star S hab.2]
  exact .ite Iff.rfl (fun _ => .mk_err i (.errAt hab.1)) fun _ =>
    .mk_ok i1 ⟨rfl, rfl, rfl, .nil, .cons hab .nil, .nil⟩

theorem sim_parseComplexInsertValues (i : I s) :
    SimR I d RB (OpqList (Acc.Rel RB)) (parseComplexInsertValues E s)
      (parseComplexInsertValues E' (s.sh d)) := by
  unfold parseComplexInsertValues
  refine (sim_parseList S (fun _ g => (parseInputMemberAccessor_sok S.dec g).toROK)
      (fun _ i => sim_parseInputMemberAccessor S i) i).rec'
    (fun _ _ _ i1 hab => .mk_ok i1 hab) (fun s1 i1 => ?_) (fun _ _ _ _ he => .mk_err i he)
  dsimp only
  exact (sim_parseInputMemberAccessor S i1).rec' (fun _ _ _ _ _ => .mk_err i (.errAt rfl))
    (fun _ _ => .mk_no i) (fun _ _ _ _ _ => .mk_no i)

theorem sim_parseAsteriskInsertExpr (i : I s) :
    SimR I d RB (Seg.Rel d RB) (parseAsteriskInsertExpr E s) (parseAsteriskInsertExpr E' (s.sh d)) := by
  unfold parseAsteriskInsertExpr
  obtain ⟨i40, e40⟩ := sim_skipChar S 40 i
  obtain ⟨ib1, eb1⟩ := sim_skipBlanks S i40
  obtain ⟨i42, e42⟩ := sim_skipChar S 42 ib1
  obtain ⟨ib2, eb2⟩ := sim_skipBlanks S i42
  obtain ⟨i41, e41⟩ := sim_skipChar S 41 ib2
  obtain ⟨ib3, eb3⟩ := sim_skipBlanks S i41
  obtain ⟨iv, ev⟩ := S.skipString (.inr rfl) ib3
  obtain ⟨ib4, eb4⟩ := sim_skipBlanks S iv
  dsimp only
  rw [e40, shB_fst, shB_snd, eb1, e42, shB_fst, shB_snd, eb2, e41, shB_fst, shB_snd, eb3, ev, shB_fst,
    shB_snd, eb4]
  refine .ite Iff.rfl (fun _ => .mk_no i) fun _ => .ite Iff.rfl (fun _ => .mk_no i) fun _ =>
    .ite Iff.rfl (fun _ => .mk_no i) fun _ => .ite Iff.rfl (fun _ => .mk_no i) fun _ => ?_
  exact (sim_parseComplexInsertValues S ib4).rec'
    (fun _ _ _ i1 hab => .mk_ok i1 ⟨rfl, rfl, rfl, .nil, hab, .nil⟩) (fun _ _ => .mk_no i)
    (fun _ _ _ i1 he => .mk_err i1 he)

theorem sim_basicItem {cp : Sc} (icp : I cp) (ip : Bool) {vs vs' : List Val}
    (hvs : OpqList (Val.Rel RB) vs vs') {s1 : Sc} (i1 : I s1) :
    SimR I d RB (fun x y => y.1 = x.1 ∧ OpqList (Val.Rel RB) x.2 y.2)
      (basicItem E cp ip vs s1) (basicItem E' (cp.sh d) ip vs' (s1.sh d)) := by
  unfold basicItem
  refine (sim_parseInputMemberAccessor S i1).rec' (fun s2 a b i2 hab => ?_) (fun s2 i2 => ?_)
    (fun _ _ _ i2 he => .mk_err i2 he)
  · dsimp only
    rw [sim_beq_star S hab.2]
    exact .ite Iff.rfl (fun _ => .mk_err i2 (.errAt (.refl S.refl _))) fun _ =>
      .mk_ok i2 ⟨rfl, hvs.snoc (.acc hab)⟩
  · dsimp only
    exact (sim_skipLiteralInList S i2).rec'
      (fun s3 _ _ i3 _ => .mk_ok i3 ⟨rfl, hvs.snoc (.lit (S.extract i1 _))⟩)
      (fun _ _ => .mk_no icp) (fun _ _ _ i3 he => .mk_err i3 he)

theorem sim_basicLoop {cp : Sc} (icp : I cp) {j : Nat} (f : Nat) (ip : Bool) (vs vs' : List Val)
    (hvs : OpqList (Val.Rel RB) vs vs') {s : Sc} (i : I s) :
    SimF I d RB (OpqList (Val.Rel RB)) (basicLoop E cp f ip vs s)
      (basicLoop E' (cp.sh d) (f + j) ip vs' (s.sh d)) := by
  induction f generalizing s ip vs vs' with
  | zero => exact .fuel
  | succ f ih =>
    rw [Nat.add_right_comm, basicLoop_succ, basicLoop_succ]
    obtain ⟨i1, e1⟩ := sim_skipBlanks S i
    rw [e1]
    refine (sim_basicItem S icp ip hvs i1).rec' (fun s2 x y i2 hxy => ?_)
      (fun _ i2 => (SimR.mk_no i2).toF) (fun _ _ _ i2 he => (SimR.mk_err i2 he).toF)
    obtain ⟨ip1, w⟩ := x
    obtain ⟨_, w'⟩ := y
    obtain ⟨rfl, hw⟩ := hxy
    obtain ⟨i3, e3⟩ := sim_skipBlanks S i2
    obtain ⟨i41, e41⟩ := sim_skipChar S 41 i3
    obtain ⟨i44, e44⟩ := sim_skipChar S 44 i3
    unfold basicTail
    dsimp only
    rw [e3, e41, e44]
    exact .ite Iff.rfl
      (fun _ => .ite Iff.rfl (fun _ => (SimR.mk_ok i41 hw).toF) fun _ => (SimR.mk_no i41).toF)
      fun _ => .ite Iff.rfl (fun _ => ih _ _ _ hw i44) fun _ => (SimR.mk_no icp).toF

theorem sim_parseBasicInsertValues (i : I s) :
    SimR I d RB (OpqList (Val.Rel RB)) (parseBasicInsertValues E s)
      (parseBasicInsertValues E' (s.sh d)) := by
  unfold parseBasicInsertValues
  obtain ⟨i40, e40⟩ := sim_skipChar S 40 i
  have hb := skipChar_bok S.dec 40 (S.good i)
  dsimp only
  rw [e40, S.len, Nat.add_right_comm]
  refine .ite Iff.rfl (fun _ => ?_) fun _ => ?_
  · exact (sim_parseInputMemberAccessor S i).rec' (fun _ _ _ _ _ => .mk_err i (.errAt rfl))
      (fun _ _ => .mk_no i) (fun _ _ _ _ _ => .mk_no i)
  · exact sim_basicLoop S i _ false [] [] .nil i40
      (basicLoop_lok S.dec (S.good i) (E.len + 1) false [] hb.good hb.mono
        (Parser.fuel_init _ _)).toROK.noFuel

theorem sim_insertBasic {cp colcp : Sc} (icp : I cp) (ic : I colcp) {cs cs' : List Col}
    (hcs : OpqList (Col.Rel RB) cs cs') :
    SimR I d RB (Seg.Rel d RB) (insertBasic E cp cs colcp) (insertBasic E' (cp.sh d) cs' (colcp.sh d)) := by
  unfold insertBasic
  exact (sim_parseBasicInsertValues S ic).rec' (fun _ _ _ i3 hv => .mk_ok i3 ⟨rfl, rfl, rfl, hcs, .nil, hv⟩)
    (fun _ _ => .mk_no icp) (fun _ _ _ _ he => .mk_err icp he)

theorem sim_insertTail {cp colcp : Sc} (icp : I cp) (ic : I colcp) {cs cs' : List Col}
    (hcs : OpqList (Col.Rel RB) cs cs') :
    SimR I d RB (Seg.Rel d RB) (insertTail E cp cs colcp) (insertTail E' (cp.sh d) cs' (colcp.sh d)) := by
  unfold insertTail
  have hbasic := sim_insertBasic S icp ic hcs
  refine (sim_parseComplexInsertValues S ic).rec' (fun s2 a2 b2 i2 hab => ?_) (fun _ _ => hbasic)
    (fun _ _ _ _ _ => hbasic)
  dsimp only
  rw [← sim_starCount S hab]
  by_cases hsc : (starCountTypes a2 != 0) = true
  · rw [if_pos hsc, if_pos hsc]
    exact .mk_ok i2 ⟨rfl, rfl, rfl, hcs, hab, .nil⟩
  · rw [if_neg hsc, if_neg hsc]
    exact hbasic

theorem sim_parseInsertExpr (i : I s) :
    SimR I d RB (Seg.Rel d RB) (parseInsertExpr E s) (parseInsertExpr E' (s.sh d)) := by
  rw [parseInsertExpr_eq, parseInsertExpr_eq]
  refine (sim_parseAsteriskInsertExpr S i).rec' (fun _ _ _ i1 hab => .mk_ok i1 hab) (fun cp icp => ?_)
    (fun _ _ _ i1 he => .mk_err i1 he)
  dsimp only
  refine (sim_parseColumns S icp).rec' (fun _ _ => .mk_no icp) fun s1 c c' i1 hc => ?_
  obtain ⟨cs, pc⟩ := c
  obtain ⟨cs', pc'⟩ := c'
  obtain ⟨hcs, rfl⟩ := hc
  cases pc
  case false => exact .mk_no icp
  obtain ⟨ib1, eb1⟩ := sim_skipBlanks S i1
  obtain ⟨iv, ev⟩ := S.skipString (.inr rfl) ib1
  obtain ⟨icol, ecol⟩ := sim_skipBlanks S iv
  dsimp only
  rw [eb1, ev, shB_snd, shB_fst, ecol]
  exact .ite Iff.rfl (fun _ => .mk_no icp) fun _ => sim_insertTail S icp icol hcs

theorem sim_parseInputExpr (i : I s) :
    SimR I d RB (Seg.Rel d RB) (parseInputExpr E s) (parseInputExpr E' (s.sh d)) := by
  unfold parseInputExpr
  refine (sim_parseSliceInputExpr S i).rec' (fun _ _ _ i1 hab => .mk_ok i1 hab) (fun s1 i1 => ?_)
    (fun _ _ _ i1 he => .mk_err i1 he)
  dsimp only
  exact (sim_parseMemberInputExpr S i1).rec' (fun _ _ _ i2 hab => .mk_ok i2 hab)
    (fun _ i2 => sim_parseInsertExpr S i2) (fun _ _ _ i2 he => .mk_err i2 he)

theorem sim_advLoop {j : Nat} (f : Nat) {s : Sc} (i : I s) :
    SimF I d RB Eq (advLoop E f s) (advLoop E' (f + j) (s.sh d)) := by
  induction f generalizing s with
  | zero => exact .fuel
  | succ f ih =>
    rw [Nat.add_right_comm]
    unfold advLoop
    obtain ⟨il, el⟩ := S.skipStringLiteral i
    obtain ⟨ic, ec⟩ := S.skipComment i
    rw [el, ec]
    refine .ite (sim_lt_len S s) (fun _ => ?_) fun _ => (SimR.mk_ok i rfl).toF
    rcases hq : skipStringLiteral E s with ⟨s1, x | _ | e⟩
    · rw [hq] at il; exact ih il
    · dsimp only [shR_mk, Res.sh_no, shB_fst, shB_snd, Sc.sh_char]
      refine .ite Iff.rfl (fun _ => ih ic) fun hc => ?_
      obtain ⟨ia, ea⟩ := S.adv_code i hq hc
      rw [ea]
      refine .ite Iff.rfl (fun _ => (SimR.mk_ok i rfl).toF) fun _ => .ite Iff.rfl (fun _ => ?_) fun _ => ih ia
      refine .ite (by rw [S.len, Sc.sh_pos]; exact Nat.add_le_add_iff_right) (fun _ => (SimR.mk_ok ia rfl).toF)
        fun _ => .ite (by rw [Sc.sh_char, sim_isNameChar S]) (fun _ => (SimR.mk_ok ia rfl).toF) fun _ => ih ia
    · rw [hq] at il; exact (SimR.mk_err il (.sh S.refl e)).toF

abbrev SimA (I : Sc → Prop) (d : Nat) (RB : Bytes → Bytes → Prop) : Sc × Option PErr → Sc × Option PErr → Prop :=
  SimO I d (PErr.Rel d RB)

theorem sim_advFrom (f : Nat) {j : Nat} (i : I s) (hf : E.len - s.pos < f) :
    SimA I d RB (advFrom E f s) (advFrom E' (f + j) (s.sh d)) := by
  unfold advFrom
  refine (sim_advLoop S f i (advLoop_rok S.dec f (S.good i) hf).noFuel).rec'
    (fun s1 a b i1 hab => ?_) (fun _ i1 => ⟨i1, rfl, .none⟩) (fun _ _ _ i1 he => ⟨i1, rfl, .some he⟩)
  subst hab
  cases a
  · exact ⟨i1, rfl, .none⟩
  · obtain ⟨i2, e2⟩ := sim_skipBlanks S i1
    exact ⟨i2, e2, .none⟩

theorem sim_advanceToNextExpression (i : I s) (hpos : d = 0 ∨ 0 < s.pos) :
    SimA I d RB (advanceToNextExpression E s) (advanceToNextExpression E' (s.sh d)) := by
  rw [advanceToNextExpression_eq, advanceToNextExpression_eq]
  have hc : ((s.sh d).pos < E'.len ∧ (s.sh d).pos = 0 ∧ isNameChar E' (s.sh d).char = true) ↔
      (s.pos < E.len ∧ s.pos = 0 ∧ isNameChar E s.char = true) := by
    rw [sim_lt_len S, Sc.sh_char, sim_isNameChar S, Sc.sh_pos]
    exact and_congr_right fun _ => and_congr_left fun _ => by omega
  by_cases h : s.pos < E.len ∧ s.pos = 0 ∧ isNameChar E s.char = true
  · rw [if_pos h, if_pos (hc.mpr h)]; exact ⟨i, rfl, .none⟩
  rw [if_neg h, if_neg (fun h' => h (hc.mp h')), S.len, Nat.add_right_comm]
  exact sim_advFrom S _ i (Parser.fuel_init _ _)

theorem sim_adv_stop (i : I s) (hs : StopOK E s) (hp : s.pos < E.len) :
    I (advanceChar E s) ∧ advanceChar E' (s.sh d) = (advanceChar E s).sh d :=
  (hs hp).elim (fun ht => sim_adv_char S i (isExprTrigger_plain ht)) (S.adv_name i)

inductive SimEnds (d : Nat) (RB : Bytes → Bytes → Prop) {α : Type} (M : α → α → Prop) :
    Except PErr α → Except PErr α → Prop where
  | ok {a a' : α} : M a a' → SimEnds d RB M (.ok a) (.ok a')
  | error {e e' : PErr} : PErr.Rel d RB e e' → SimEnds d RB M (.error e) (.error e')

/-- `N` relates what the two runs have collected; `hadv` is the correspondence of the first round,
    which behind offset 0 always holds. -/
theorem sim_parseLoop (hsep : ClassSep E) {N : PS → PS → Prop}
    (hframe : ∀ {st st'} (t t' : Sc) (c c' : Nat), N st st' →
      N { st with sc := t, currentExprStart := c } { st' with sc := t', currentExprStart := c' })
    (hadd : ∀ {st st'} {x y : Seg}, N st st' → st'.sc = st.sc.sh d →
      st'.currentExprStart = st.currentExprStart + d → Seg.Rel d RB x y →
      N (st.add (some x)) (st'.add (some y)))
    {j : Nat} (f : Nat) (st st' : PS) (hn : N st st') (i : I st.sc)
    (hadv : SimA I d RB (advanceToNextExpression E st.sc) (advanceToNextExpression E' st'.sc)) :
    (∀ e, parseLoop E f st = .error e → e.kind ≠ EKind.fuel) →
      SimEnds d RB (fun st st' => N st st' ∧ st'.currentExprStart = st.currentExprStart + d)
        (parseLoop E f st) (parseLoop E' (f + j) st') := by
  induction f generalizing st st' with
  | zero => exact fun hnf => absurd rfl (hnf _ rfl)
  | succ f ih =>
    rw [Nat.add_right_comm, parseLoop, parseLoop]
    have hstop := fun hn => advanceToNextExpression_stop (s := st.sc) hsep (Prod.ext rfl hn)
    revert hstop
    refine hadv.rec' (fun sc1 i1 hstop => ?_) (fun _ _ _ _ he _ _ => .error he)
    have g1 := S.good i1
    -- the next round starts behind offset 0
    have next := fun (t : Sc) (it : I t) (hlt : sc1.pos < t.pos) =>
      sim_advanceToNextExpression S it (.inr (Nat.lt_of_le_of_lt (Nat.zero_le _) hlt))
    dsimp only
    by_cases hlen : sc1.pos = E.len
    · rw [if_pos hlen, if_pos (by rw [S.len, Sc.sh_pos, hlen])]
      exact fun _ => .ok ⟨hframe _ _ _ _ hn, rfl⟩
    rw [if_neg hlen, if_neg (by rw [S.len, Sc.sh_pos, Nat.add_right_cancel_iff]; exact hlen)]
    have ho := parseOutputExpr_eok S.dec g1
    revert ho
    refine (sim_parseOutputExpr S i1).rec'
      (fun sc2 x y i2 hxy ho => ih _ _ (hadd (hframe _ _ _ _ hn) rfl rfl hxy) i2 (next sc2 i2 (ho.prog x rfl)))
      (fun sc2 _ ho => ?_) (fun _ _ _ _ he _ _ => .error he)
    cases ho.no rfl
    dsimp only
    have hi := parseInputExpr_eok S.dec g1
    revert hi
    refine (sim_parseInputExpr S i1).rec'
      (fun sc3 x y i3 hxy hi => ih _ _ (hadd (hframe _ _ _ _ hn) rfl rfl hxy) i3 (next sc3 i3 (hi.prog x rfl)))
      (fun sc3 _ hi => ?_) (fun _ _ _ _ he _ _ => .error he)
    cases hi.no rfl
    have hp := Nat.lt_of_le_of_ne g1.pos_le hlen
    obtain ⟨ia, ea⟩ := sim_adv_stop S i1 (hstop rfl) hp
    dsimp only
    rw [ea]
    exact ih _ _ (hframe _ _ _ _ hn) ia (next _ ia (advanceChar_lt S.dec g1 hp))

theorem sim_parse (hsep : ClassSep E) {N : PS → PS → Prop} {M : List Seg → List Seg → Prop}
    (hframe : ∀ {st st'} (t t' : Sc) (c c' : Nat), N st st' →
      N { st with sc := t, currentExprStart := c } { st' with sc := t', currentExprStart := c' })
    (hadd : ∀ {st st'} {x y : Seg}, N st st' → st'.sc = st.sc.sh d →
      st'.currentExprStart = st.currentExprStart + d → Seg.Rel d RB x y →
      N (st.add (some x)) (st'.add (some y)))
    (hend : ∀ {st st'}, N st st' → st'.currentExprStart = st.currentExprStart + d →
      M (st.add none).exprs (st'.add none).exprs)
    (hn : N ⟨initSc E, 0, 0, []⟩ ⟨initSc E', 0, 0, []⟩) (i : I (initSc E))
    (hadv : SimA I d RB (advanceToNextExpression E (initSc E)) (advanceToNextExpression E' (initSc E'))) :
    SimEnds d RB M (parse E) (parse E') := by
  -- the run on `E` reports no fuel error: `parseLoop_rule` with the trivial invariant
  have hends := parse_loopEnds S.dec (P := fun _ => True) (fun _ _ _ _ _ => trivial) trivial
  have h := sim_parseLoop S hsep hframe hadd (j := d) (E.len + 2) _ _ hn i hadv
    fun e he => by rw [he] at hends; exact hends.not_fuel
  rw [parse, parse, S.len, Nat.add_right_comm]
  generalize parseLoop E _ _ = x at h ⊢
  generalize parseLoop E' _ _ = y at h ⊢
  cases h with
  | ok h => exact .ok (hend h.1 h.2)
  | error h => exact .error h

end
end Sqlair
