/-
  Simulation, item level.  The loops with an error channel are stated like the scanner loops, for
  any surplus of fuel on the second side (`SimF`).

  Every proof has the same shape: unfold the function on both sides; a callee's lemma gives `I`
  of the state the callee ends in and rewrites the call of the second run into the image of the
  call of the first; `.ite` where both runs make a test, `.rec'` where both match on the answer
  of a callee.
-/
import SqlairProofs.Sim.Scan

namespace Sqlair

section
variable {E E' : Env} {d : Nat} {I : Sc → Prop} {RB : Bytes → Bytes → Prop} {s : Sc}
variable (S : Sim E E' d I RB)
include S

theorem sim_parenLoop {j : Nat} {cp : Sc} (icp : I cp) (f count : Nat) {s : Sc} (i : I s) :
    SimF I d RB (fun _ _ => True) (parenLoop E cp f count s)
      (parenLoop E' (cp.sh d) (f + j) count (s.sh d)) := by
  induction f generalizing s count with
  | zero => exact .fuel
  | succ f ih =>
    rw [Nat.add_right_comm]
    unfold parenLoop
    obtain ⟨il, el⟩ := S.skipStringLiteral i
    obtain ⟨ic, ec⟩ := S.skipComment i
    obtain ⟨i40, e40⟩ := sim_skipChar S 40 i
    obtain ⟨i41, e41⟩ := sim_skipChar S 41 i
    rw [el, ec, e40, e41]
    refine .ite (and_congr Iff.rfl (by rw [S.len, Sc.sh_pos, ne_eq, ne_eq, Nat.add_right_cancel_iff]))
      (fun _ => ?_) fun _ => .ite Iff.rfl (fun _ => (SimR.mk_err icp (.errAt (.refl S.refl _))).toF) fun _ =>
        (SimR.mk_ok i trivial).toF
    rcases hq : skipStringLiteral E s with ⟨s1, x | _ | e⟩
    · rw [hq] at il; exact ih count il
    · dsimp only [shR_mk, Res.sh_no, shB_fst, shB_snd]
      refine .ite Iff.rfl (fun _ => ih count ic) fun hc => ?_
      refine .ite Iff.rfl (fun _ => ih _ i40) fun _ => .ite Iff.rfl (fun _ => ih _ i41) fun _ => ?_
      obtain ⟨ia, ea⟩ := S.adv_code i hq hc
      rw [ea]; exact ih count ia
    · exact (SimR.mk_err icp (.sh S.refl e)).toF

theorem sim_skipEnclosedParentheses (i : I s) :
    SimR I d RB (fun _ _ => True) (skipEnclosedParentheses E s) (skipEnclosedParentheses E' (s.sh d)) := by
  unfold skipEnclosedParentheses
  obtain ⟨i40, e40⟩ := sim_skipChar S 40 i
  have hb := skipChar_bok S.dec 40 (S.good i)
  rw [e40, S.len, Nat.add_right_comm]
  refine .ite Iff.rfl (fun _ => ?_) fun _ => .mk_no i
  exact sim_parenLoop S i _ _ i40
    (parenLoop_lok S.dec (S.good i) (E.len + 1) 1 hb.good hb.mono (by omega)).toROK.noFuel

theorem sim_litLoop {j : Nat} (f : Nat) {s : Sc} (i : I s) :
    SimF I d RB (fun _ _ => True) (litLoop E f s) (litLoop E' (f + j) (s.sh d)) := by
  induction f generalizing s with
  | zero => exact .fuel
  | succ f ih =>
    rw [Nat.add_right_comm]
    unfold litLoop
    obtain ⟨il, el⟩ := S.skipStringLiteral i
    obtain ⟨ic, ec⟩ := S.skipComment i
    rw [el, ec]
    refine .ite (sim_lt_len S s) (fun _ => ?_) fun _ => (SimR.mk_no i).toF
    rcases hq : skipStringLiteral E s with ⟨s1, x | _ | e⟩
    · rw [hq] at il; exact ih il
    · dsimp only [shR_mk, Res.sh_no]
      refine (sim_skipEnclosedParentheses S i).rec' (fun _ _ _ i2 _ => ih i2) (fun _ _ => ?_)
        (fun _ _ _ i2 he => (SimR.mk_err i2 he).toF)
      dsimp only [shB_fst, shB_snd, Sc.sh_char]
      refine .ite Iff.rfl (fun _ => ih ic) fun hc => .ite Iff.rfl (fun _ => (SimR.mk_ok i trivial).toF) fun _ => ?_
      obtain ⟨ia, ea⟩ := S.adv_code i hq hc
      rw [ea]; exact ih ia
    · rw [hq] at il; exact (SimR.mk_err il (.sh S.refl e)).toF

theorem sim_skipLiteralInList (i : I s) :
    SimR I d RB (fun _ _ => True) (skipLiteralInList E s) (skipLiteralInList E' (s.sh d)) := by
  unfold skipLiteralInList
  rw [S.len, Nat.add_right_comm]
  exact sim_litLoop S _ i (litLoop_rok S.dec (E.len + 1) (S.good i) (Parser.fuel_init _ _)).noFuel

theorem sim_parseIdentifier (i : I s) :
    SimR I d RB RB (parseIdentifier E s) (parseIdentifier E' (s.sh d)) := by
  unfold parseIdentifier
  obtain ⟨il, el⟩ := S.skipStringLiteral i
  obtain ⟨inl, enl⟩ := sim_nameLoop_getD S i
  rw [el, enl]
  rcases hq : skipStringLiteral E s with ⟨s1, x | _ | e⟩
  · rw [hq] at il; exact .mk_ok il (S.extract i _)
  · exact .ite (by rw [Sc.sh_pos, Sc.sh_pos]; exact Nat.add_lt_add_iff_right)
      (fun _ => .mk_ok inl (S.extract i _)) fun _ => .mk_no inl
  · rw [hq] at il; exact .mk_err il (.sh S.refl e)

theorem sim_parseIdentifierAsterisk (i : I s) :
    SimR I d RB RB (parseIdentifierAsterisk E s) (parseIdentifierAsterisk E' (s.sh d)) := by
  unfold parseIdentifierAsterisk
  obtain ⟨i42, e42⟩ := sim_skipChar S 42 i
  rw [e42]
  exact .ite Iff.rfl (fun _ => .mk_ok i42 (S.refl _)) fun _ => sim_parseIdentifier S i

theorem sim_parseColumnAccessor (i : I s) :
    SimR I d RB (Col.Rel RB) (parseColumnAccessor E s) (parseColumnAccessor E' (s.sh d)) := by
  unfold parseColumnAccessor
  obtain ⟨i42, e42⟩ := sim_skipChar S 42 i
  rw [e42]
  refine .ite Iff.rfl (fun _ => .mk_ok i42 ⟨S.refl _, S.refl _, rfl⟩) fun _ => ?_
  refine (sim_parseIdentifier S i).rec' (fun s1 a b i1 hab => ?_) (fun _ _ => .mk_no i)
    (fun _ _ _ _ he => .mk_err i he)
  obtain ⟨i46, e46⟩ := sim_skipChar S 46 i1
  dsimp only
  rw [e46]
  refine .ite Iff.rfl (fun _ => ?_) fun _ => ?_
  · exact (sim_parseIdentifierAsterisk S i46).rec' (fun _ _ _ i2 hab2 => .mk_ok i2 ⟨hab, hab2, rfl⟩)
      (fun _ _ => .mk_no i) (fun _ _ _ i2 he => .mk_err i2 he)
  · exact (sim_skipEnclosedParentheses S i1).rec' (fun _ _ _ i2 _ => .mk_ok i2 ⟨S.refl _, S.extract i _, rfl⟩)
      (fun _ _ => .mk_ok i1 ⟨S.refl _, hab, rfl⟩) (fun _ _ _ _ he => .mk_err i he)

theorem sim_parseSliceAccessor (i : I s) :
    SimR I d RB RB (parseSliceAccessor E s) (parseSliceAccessor E' (s.sh d)) := by
  unfold parseSliceAccessor
  refine (sim_parseTypeName S i).rec' (fun _ i1 => .mk_no i1) fun s1 a b i1 hab => ?_
  obtain ⟨i91, e91⟩ := sim_skipChar S 91 i1
  obtain ⟨ib1, eb1⟩ := sim_skipBlanks S i91
  obtain ⟨i58, e58⟩ := sim_skipChar S 58 ib1
  obtain ⟨ib2, eb2⟩ := sim_skipBlanks S i58
  obtain ⟨i93, e93⟩ := sim_skipChar S 93 ib2
  dsimp only
  rw [e91, shB_fst, shB_snd, eb1, e58, shB_fst, shB_snd, eb2, e93]
  exact .ite Iff.rfl (fun _ => .mk_no i) fun _ => .ite Iff.rfl (fun _ => .mk_err i58 (.errAt hab)) fun _ =>
    .ite Iff.rfl (fun _ => .mk_err i93 (.errAt hab)) fun _ => .mk_ok i93 hab

theorem sim_parseTypeAndMember (i : I s) :
    SimR I d RB (Acc.Rel RB) (parseTypeAndMember E s) (parseTypeAndMember E' (s.sh d)) := by
  unfold parseTypeAndMember
  dsimp only
  refine (sim_parseTypeName S i).rec' (fun _ _ => .mk_no i) fun s1 a b i1 hab => ?_
  obtain ⟨i46, e46⟩ := sim_skipChar S 46 i1
  dsimp only
  rw [e46, colNum_sh]
  refine .ite (by rw [shB_snd]) (fun _ => .mk_err i46 ⟨rfl, rfl, hab⟩) fun _ => ?_
  exact (sim_parseIdentifierAsterisk S i46).rec' (fun _ _ _ i2 hab2 => .mk_ok i2 ⟨hab, hab2⟩)
    (fun _ i2 => .mk_err i2 (.errAt hab)) (fun _ _ _ i2 he => .mk_err i2 he)

theorem sim_parseTargetType (i : I s) :
    SimR I d RB (Acc.Rel RB) (parseTargetType E s) (parseTargetType E' (s.sh d)) := by
  unfold parseTargetType
  obtain ⟨i38, e38⟩ := sim_skipChar S 38 i
  rw [e38]
  refine .ite Iff.rfl (fun _ => ?_) fun _ => .mk_no i
  refine (sim_parseSliceAccessor S i38).rec' (fun _ _ _ i1 hab => .mk_err i1 (.errAt hab)) (fun s1 i1 => ?_)
    (fun _ _ _ i1 _ => .mk_err i1 (.errAt (.refl S.refl _)))
  dsimp only
  exact (sim_parseTypeAndMember S i1).rec' (fun _ _ _ i2 hab => .mk_ok i2 hab) (fun _ _ => .mk_no i)
    (fun _ _ _ i2 he => .mk_err i2 he)

theorem sim_parseInputMemberAccessor (i : I s) :
    SimR I d RB (Acc.Rel RB) (parseInputMemberAccessor E s) (parseInputMemberAccessor E' (s.sh d)) := by
  unfold parseInputMemberAccessor
  obtain ⟨i36, e36⟩ := sim_skipChar S 36 i
  rw [e36]
  exact .ite Iff.rfl (fun _ => sim_parseTypeAndMember S i36) fun _ => .mk_no i

theorem sim_listLoop {α : Type} {Rα : α → α → Prop} {fn fn' : Sc → Sc × Res α}
    (hfn : ∀ s, I s → SimR I d RB Rα (fn s) (fn' (s.sh d))) {cp : Sc} (icp : I cp)
    {j : Nat} (f : Nat) (first : Bool) (acc acc' : List α) (hacc : OpqList Rα acc acc') {s : Sc} (i : I s) :
    SimF I d RB (OpqList Rα) (listLoop E fn cp f first acc s)
      (listLoop E' fn' (cp.sh d) (f + j) first acc' (s.sh d)) := by
  induction f generalizing s first acc acc' with
  | zero => exact .fuel
  | succ f ih =>
    rw [Nat.add_right_comm]
    unfold listLoop
    obtain ⟨i1, e1⟩ := sim_skipBlanks S i
    rw [e1]
    dsimp only
    refine (hfn _ i1).rec' (fun s2 a b i2 hab => ?_)
      (fun s2 i2 => .ite Iff.rfl (fun _ => (SimR.mk_no icp).toF) fun _ =>
        (SimR.mk_err icp (.errAt (.refl S.refl _))).toF)
      (fun _ _ _ i2 he => (SimR.mk_err i2 he).toF)
    obtain ⟨i3, e3⟩ := sim_skipBlanks S i2
    obtain ⟨i41, e41⟩ := sim_skipChar S 41 i3
    obtain ⟨i44, e44⟩ := sim_skipChar S 44 i3
    dsimp only
    rw [e3, e41, e44]
    exact .ite Iff.rfl (fun _ => (SimR.mk_ok i41 (hacc.snoc hab)).toF) fun _ =>
      .ite Iff.rfl (fun _ => ih false _ _ (hacc.snoc hab) i44) fun _ =>
        (SimR.mk_err icp (.errAt (.refl S.refl _))).toF

theorem sim_parseList {α : Type} {Rα : α → α → Prop} {fn fn' : Sc → Sc × Res α}
    (hok : ∀ s, Good E s → ROK E s (fn s))
    (hfn : ∀ s, I s → SimR I d RB Rα (fn s) (fn' (s.sh d))) (i : I s) :
    SimR I d RB (OpqList Rα) (parseList E fn s) (parseList E' fn' (s.sh d)) := by
  unfold parseList
  obtain ⟨i40, e40⟩ := sim_skipChar S 40 i
  have hb := skipChar_bok S.dec 40 (S.good i)
  rw [e40, S.len, Nat.add_right_comm]
  refine .ite Iff.rfl (fun _ => ?_) fun _ => .mk_no i
  exact sim_listLoop S hfn i _ true [] [] .nil i40
    (listLoop_lok S.dec hok (S.good i) (E.len + 1) true [] hb.good hb.mono (Parser.fuel_init _ _)).toROK.noFuel

theorem sim_parseColumns (i : I s) :
    SimO I d (fun x y => OpqList (Col.Rel RB) x.1 y.1 ∧ x.2 = y.2) (parseColumns E s)
      (parseColumns E' (s.sh d)) := by
  unfold parseColumns
  have hlist := fun s1 (i1 : I s1) => sim_parseList S (fun s g => parseColumnAccessor_rok S.dec g)
    (fun _ i => sim_parseColumnAccessor S i) i1
  refine (sim_parseColumnAccessor S i).rec'
    (fun _ _ _ i1 hab => ⟨i1, rfl, .some ⟨.cons hab .nil, rfl⟩⟩) (fun s1 i1 => ?_)
    (fun s1 _ _ i1 _ => ?_)
  all_goals
    dsimp only
    exact (hlist s1 i1).rec' (fun _ _ _ i2 hab => ⟨i2, rfl, .some ⟨hab, rfl⟩⟩)
      (fun _ i2 => ⟨i2, rfl, .none⟩) (fun _ _ _ i2 _ => ⟨i2, rfl, .none⟩)

theorem sim_parseTargetTypes (i : I s) :
    SimR I d RB (fun x y => OpqList (Acc.Rel RB) x.1 y.1 ∧ x.2 = y.2) (parseTargetTypes E s)
      (parseTargetTypes E' (s.sh d)) := by
  unfold parseTargetTypes
  refine (sim_parseTargetType S i).rec' (fun _ _ _ i1 hab => .mk_ok i1 ⟨.cons hab .nil, rfl⟩) (fun s1 i1 => ?_)
    (fun _ _ _ i1 he => .mk_err i1 he)
  dsimp only
  exact (sim_parseList S (fun s g => (parseTargetType_xok S.dec g).toROK) (fun _ i => sim_parseTargetType S i) i1).rec'
    (fun _ _ _ i2 hab => .mk_ok i2 ⟨hab, rfl⟩) (fun _ i2 => .mk_no i2) (fun _ _ _ i2 he => .mk_err i2 he)
end
end Sqlair
