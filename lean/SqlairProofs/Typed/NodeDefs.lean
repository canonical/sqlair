/-
  `NodeOK`: the declarative well-typedness of ONE parsed node with respect to the table of sample infos and
  the output destinations already used. It says when the resolver `nodeRes` of Bind/Resolve.lean succeeds
  and the destinations it claims are fresh (`nodeRes_spec`, Typed/Node.lean).
-/
import SqlairProofs.Bind.Resolve

namespace Sqlair

/-- when `GetMember` (arginfo.go; `ArgInfo.getMember`) succeeds: on a `db` tag of a struct, on any key of
    a map, never on a slice -/
def ArgInfo.HasMember : ArgInfo → Bytes → Prop
  | .struct _ _ fields _, m => ∃ f ∈ fields, f.tag = m
  | .map _ _, _ => True
  | .slice _ _, _ => False

/-- the tags `T.*` expands to, as `ArgInfo.getAll` lists them; on an info made by `getArgInfo` the filter
    removes nothing: `tags` are the tags of `fields`, sorted (`SampleInfo.starTags_eq`, Typed/Reading.lean) -/
def ArgInfo.starTags : ArgInfo → List Bytes
  | .struct _ _ fields tags => tags.filter (fun t => fields.any (fun f => f.tag == t))
  | _ => []

def MemberOK (infos : List (Bytes × ArgInfo)) (T m : Bytes) : Prop :=
  ∃ ai, lookupInfo infos T = some ai ∧ ai.HasMember m

/-- `T.*` outside a columns insert: `GetAllStructMembers` (arginfo.go) succeeds only on a struct with at
    least one tag -/
def StarOK (infos : List (Bytes × ArgInfo)) (T : Bytes) : Prop :=
  ∃ tid n fields tags, lookupInfo infos T = some (.struct tid n fields tags) ∧ tags ≠ []

def AccessorOK (infos : List (Bytes × ArgInfo)) (a : Acc) : Prop :=
  (a.member = star → StarOK infos a.ty) ∧ (a.member ≠ star → MemberOK infos a.ty a.member)

theorem AccessorOK_iff {infos : List (Bytes × ArgInfo)} {a : Acc} :
    AccessorOK infos a ↔ if a.member = star then StarOK infos a.ty else MemberOK infos a.ty a.member := by
  unfold AccessorOK
  split <;> simp [*]

/-- `Identifier()` of the locator of `T.m` (valuelocator.go; `Loc.ident`), the key of `outputUsed` -/
def memDests (infos : List (Bytes × ArgInfo)) (T m : Bytes) : List Bytes :=
  match lookupInfo infos T with
  | some ai => [ai.name ++ dot ++ m]
  | none => []

def starDests (infos : List (Bytes × ArgInfo)) (T : Bytes) : List Bytes :=
  match lookupInfo infos T with
  | some ai => ai.starTags.map (fun t => ai.name ++ dot ++ t)
  | none => []

def accDests (infos : List (Bytes × ArgInfo)) (a : Acc) : List Bytes :=
  if a.member = star then starDests infos a.ty else memDests infos a.ty a.member

/-- the form `(c1, …, cn) AS (&T.*)`, case 2 of `outputExpr.bindTypes` -/
def OSeg.IntoStar (s : OSeg) : Prop :=
  s.cols ≠ [] ∧ (∀ c ∈ s.cols, c.column ≠ star) ∧ s.types.length = 1 ∧ ∀ t ∈ s.types, t.member = star

instance (s : OSeg) : Decidable s.IntoStar := by unfold OSeg.IntoStar; infer_instance

def nodeDests (infos : List (Bytes × ArgInfo)) (s : OSeg) : List Bytes :=
  match s.kind with
  | .output =>
    if s.IntoStar then s.cols.flatMap (fun c => memDests infos (s.types.headD default).ty c.column)
    else s.types.flatMap (accDests infos)
  | _ => []

def Fresh (used l : List Bytes) : Prop := l.Nodup ∧ ∀ d ∈ l, d ∉ used

theorem Fresh.nil (used : List Bytes) : Fresh used [] := ⟨List.nodup_nil, by simp⟩

theorem Fresh.congr {u u' l : List Bytes} (h : ∀ d, d ∈ u ↔ d ∈ u') : Fresh u l ↔ Fresh u' l := by
  unfold Fresh; simp only [h]

theorem Fresh.append {u u' l1 l2 : List Bytes} (h : ∀ d, d ∈ u' ↔ d ∈ u ∨ d ∈ l1) :
    Fresh u (l1 ++ l2) ↔ Fresh u l1 ∧ Fresh u' l2 := by
  unfold Fresh
  rw [List.nodup_append]
  simp only [List.mem_append, h, not_or]
  constructor
  · rintro ⟨⟨h1, h2, h3⟩, h4⟩
    exact ⟨⟨h1, fun d hd => h4 d (Or.inl hd)⟩, h2, fun d hd => ⟨h4 d (Or.inr hd), fun hd' => h3 d hd' d hd rfl⟩⟩
  · rintro ⟨⟨h1, h2⟩, h3, h4⟩
    refine ⟨⟨h1, h3, ?_⟩, ?_⟩
    · intro a ha b hb hab
      subst hab
      exact (h4 a hb).2 ha
    · intro d hd
      rcases hd with hd | hd
      · exact h2 d hd
      · exact (h4 d hd).1

theorem Fresh.singleton {u : List Bytes} {d : Bytes} : Fresh u [d] ↔ d ∉ u := by
  simp [Fresh]

/-! ### columns insert: the provider rule -/

def isMapInfo : Option ArgInfo → Bool
  | some (.map _ _) => true
  | _ => false

def starMaps (infos : List (Bytes × ArgInfo)) (srcs : List Acc) : List Acc :=
  srcs.filter fun a => a.member == star && isMapInfo (lookupInfo infos a.ty)

def SrcOK (infos : List (Bytes × ArgInfo)) (a : Acc) : Prop :=
  (a.member = star → isMapInfo (lookupInfo infos a.ty) = true ∨ StarOK infos a.ty) ∧
  (a.member ≠ star → MemberOK infos a.ty a.member)

theorem SrcOK_iff {infos : List (Bytes × ArgInfo)} {a : Acc} :
    SrcOK infos a ↔ if a.member = star then isMapInfo (lookupInfo infos a.ty) = true ∨ StarOK infos a.ty
      else MemberOK infos a.ty a.member := by
  unfold SrcOK
  split <;> simp [*]

def starTagsOf (infos : List (Bytes × ArgInfo)) (T : Bytes) : List Bytes :=
  match lookupInfo infos T with
  | some ai => ai.starTags
  | none => []

/-- step 1 of `columnsInsertExpr.bindTypes` (the map `colToInput`), for ONE column `k` and one source:
    an explicit `$T.k` ASSIGNS the provider list of `k`, a `$T.*` struct source APPENDS itself once per
    tag `k` it has (a map contributes nothing here) -/
def provStep (infos : List (Bytes × ArgInfo)) (k : Bytes) (acc : List Acc) (src : Acc) : List Acc :=
  if src.member = star then acc ++ ((starTagsOf infos src.ty).filter (· == k)).map (fun _ => src)
  else if src.member = k then [src] else acc

/-- the order of the sources matters: an explicit `$T.k` discards what earlier sources appended -/
def providers (infos : List (Bytes × ArgInfo)) (srcs : List Acc) (k : Bytes) : List Acc :=
  srcs.foldl (provStep infos k) []

/-- cases 1, 2, 3 of `outputExpr.bindTypes` (bindtypes.go), each with what makes it succeed -/
def OutputFormOK (infos : List (Bytes × ArgInfo)) (s : OSeg) : Prop :=
  -- generated columns: `&T.*`, `&T.m`, or `* AS (&T.*, &U.m, …)` / `t.* AS (…)`
  ((s.cols = [] ∨ ∃ c, s.cols = [c] ∧ c.column = star) ∧ ∀ t ∈ s.types, AccessorOK infos t) ∨
  -- explicit columns into one asterisk type: `(c1, …, cn) AS (&T.*)`
  (s.IntoStar ∧ ∀ c ∈ s.cols, MemberOK infos (s.types.headD default).ty c.column) ∨
  -- explicit columns and types pairwise: `(c1, …, cn) AS (&T1.m1, …, &Tn.mn)`
  (s.cols ≠ [] ∧ (∀ c ∈ s.cols, c.column ≠ star) ∧ (∀ t ∈ s.types, t.member ≠ star) ∧
    s.cols.length = s.types.length ∧ ∀ t ∈ s.types, MemberOK infos t.ty t.member)

/-- one case per node kind, as in `bindSeg`; `used` are the output destinations claimed by the earlier
    nodes -/
def NodeOK (infos : List (Bytes × ArgInfo)) (used : List Bytes) (s : OSeg) : Prop :=
  match s.kind with
  | .bypass => True
  | .member => ∃ a, s.types = [a] ∧ MemberOK infos a.ty a.member
  | .slice => ∃ a, s.types = [a] ∧ ∃ tid n, lookupInfo infos a.ty = some (.slice tid n)
  | .astInsert => ∀ a ∈ s.types, AccessorOK infos a
  | .colInsert =>
    (∀ a ∈ s.types, SrcOK infos a) ∧ (starMaps infos s.types).length ≤ 1 ∧
    ∀ c ∈ s.cols, (providers infos s.types c.str).length = 1 ∨
      (providers infos s.types c.str = [] ∧ starMaps infos s.types ≠ [])
  | .basicInsert =>
    s.cols.length = s.vals.length ∧ ∀ a ∈ s.valAccs, MemberOK infos a.ty a.member
  | .output => OutputFormOK infos s ∧ Fresh used (nodeDests infos s)

theorem MemberOK.hasSample {infos : List (Bytes × ArgInfo)} {T m : Bytes} (h : MemberOK infos T m) :
    (lookupInfo infos T).isSome = true :=
  h.elim fun _ h => Option.isSome_of_eq_some h.1

theorem StarOK.hasSample {infos : List (Bytes × ArgInfo)} {T : Bytes} (h : StarOK infos T) :
    (lookupInfo infos T).isSome = true := by
  obtain ⟨_, _, _, _, h, _⟩ := h
  exact Option.isSome_of_eq_some h

theorem AccessorOK.hasSample {infos : List (Bytes × ArgInfo)} {a : Acc} (h : AccessorOK infos a) :
    (lookupInfo infos a.ty).isSome = true := by
  by_cases hs : a.member = star
  · exact (h.1 hs).hasSample
  · exact (h.2 hs).hasSample

theorem SrcOK.hasSample {infos : List (Bytes × ArgInfo)} {a : Acc} (h : SrcOK infos a) :
    (lookupInfo infos a.ty).isSome = true := by
  by_cases hs : a.member = star
  · rcases h.1 hs with hm | hm
    · cases hl : lookupInfo infos a.ty with
      | none => rw [hl] at hm; cases hm
      | some _ => rfl
    · exact hm.hasSample
  · exact (h.2 hs).hasSample

theorem NodeOK.types_have_samples {infos : List (Bytes × ArgInfo)} {used : List Bytes} {s : OSeg}
    (h : NodeOK infos used s) : ∀ T ∈ nodeTypes s, (lookupInfo infos T).isSome = true := by
  unfold NodeOK at h
  unfold nodeTypes
  intro T hT
  cases hk : s.kind <;> simp only [hk] at h hT
  case bypass => cases hT
  case member =>
    obtain ⟨a, ha, hm⟩ := h
    rw [ha] at hT; cases List.mem_singleton.1 hT; exact hm.hasSample
  case slice =>
    obtain ⟨a, ha, _, _, hm⟩ := h
    rw [ha] at hT; cases List.mem_singleton.1 hT; exact Option.isSome_of_eq_some hm
  case astInsert =>
    obtain ⟨a, ha, rfl⟩ := List.mem_map.1 hT; exact (h a ha).hasSample
  case colInsert =>
    obtain ⟨a, ha, rfl⟩ := List.mem_map.1 hT; exact (h.1 a ha).hasSample
  case basicInsert =>
    obtain ⟨a, ha, rfl⟩ := List.mem_map.1 hT; exact (h.2 a ha).hasSample
  case output =>
    obtain ⟨a, ha, rfl⟩ := List.mem_map.1 hT
    rcases h.1 with ⟨_, h1⟩ | ⟨hI, h1⟩ | ⟨_, _, _, _, h1⟩
    · exact (h1 a ha).hasSample
    · obtain ⟨c, hc⟩ := List.exists_mem_of_ne_nil _ hI.1
      obtain ⟨t, ht⟩ := List.length_eq_one_iff.1 hI.2.2.1
      rw [ht] at ha h1; cases List.mem_singleton.1 ha
      exact (h1 c hc).hasSample
    · exact (h1 a ha).hasSample

structure Grows (st st' : TEB) (tys ds : List Bytes) : Prop where
  infos : st'.argInfos = st.argInfos
  used : ∀ n, n ∈ st'.argUsed ↔ n ∈ st.argUsed ∨ n ∈ tys
  outs : ∀ d, d ∈ st'.outputUsed ↔ d ∈ st.outputUsed ∨ d ∈ ds

theorem Grows.refl (st : TEB) : Grows st st [] [] := ⟨rfl, by simp, by simp⟩

theorem Grows.trans {a b c : TEB} {t1 t2 d1 d2 : List Bytes} (h1 : Grows a b t1 d1)
    (h2 : Grows b c t2 d2) : Grows a c (t1 ++ t2) (d1 ++ d2) := by
  refine ⟨h2.infos.trans h1.infos, ?_, ?_⟩
  · intro n; rw [h2.used, h1.used, List.mem_append, or_assoc]
  · intro d; rw [h2.outs, h1.outs, List.mem_append, or_assoc]

theorem Grows.add {a b : TEB} {t d : List Bytes} (h : Grows a b t d) (e : TExpr) : Grows a (b.add e) t d :=
  ⟨h.infos, h.used, h.outs⟩

end Sqlair
