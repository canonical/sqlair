/-
  When the element resolvers of the loops of `expression.bindTypes` (asterisk insert, basic insert, the
  three output forms) succeed and what they claim, in the form `Resolves`.
-/
import SqlairProofs.Typed.Ops

namespace Sqlair

variable {infos : List (Bytes × ArgInfo)}

/-- an accessor resolved to items `f`/`g` claiming `dm`/`ds`: the common shape of `srcRes` and `accRes` -/
theorem accessor_resolves {β : Type} {a : Acc} {f : List (Loc × Bytes) → List β} {g : Loc → List β}
    {dm : Loc → List (Loc × Bytes)} {ds : List (Loc × Bytes) → List (Loc × Bytes)} {dests : List Bytes}
    (hs : a.member = star → ∀ ms, starRes infos a.ty = .ok ms → (ds ms).map (·.1.ident) = dests)
    (hm : a.member ≠ star → ∀ l, memberRes infos a.ty a.member = .ok l → (dm l).map (·.1.ident) = dests) :
    Resolves (if a.member == star then (starRes infos a.ty).map fun ms => (f ms, ds ms)
      else (memberRes infos a.ty a.member).map fun l => (g l, dm l)) (AccessorOK infos a) dests := by
  rw [AccessorOK_iff]
  by_cases h : a.member = star
  · rw [if_pos h, if_pos (beq_iff_eq.2 h)]; exact .map starRes_exists_ok (hs h)
  · rw [if_neg h, if_neg (mt beq_iff_eq.1 h)]; exact .map memberRes_exists_ok (hm h)

theorem srcRes_resolves (a : Acc) : Resolves (srcRes infos a) (AccessorOK infos a) [] :=
  accessor_resolves (fun _ _ _ => rfl) fun _ _ _ => rfl

theorem accRes_resolves (pref : Bytes) (a : Acc) :
    Resolves (accRes pref infos a) (AccessorOK infos a) (accDests infos a) := by
  unfold accDests
  refine accessor_resolves (fun h ms hms => ?_) fun h l hl => ?_
  · rw [if_pos h]; exact starRes_idents hms
  · rw [if_neg h]; exact memberRes_ident hl

theorem member_resolves {ρ : Type} {T m tag : Bytes} {g : Loc → ρ} :
    Resolves ((memberRes infos T m).map fun l => (g l, [(l, tag)])) (MemberOK infos T m) (memDests infos T m) :=
  .map memberRes_exists_ok fun _ hl => memberRes_ident hl

theorem member_resolves_nil {ρ : Type} {T m : Bytes} {g : Loc → ρ} :
    Resolves ((memberRes infos T m).map fun l => (g l, [])) (MemberOK infos T m) [] :=
  .map memberRes_exists_ok fun _ _ => rfl

theorem forall_valAccs {Q : Acc → Prop} : ∀ {vs : List Val},
    (∀ v ∈ vs, ∀ a ∈ valAccs [v], Q a) ↔ ∀ a ∈ valAccs vs, Q a
  | [] => iff_of_true nofun nofun
  | v :: vs => by rw [List.forall_mem_cons, valAccs_cons v vs, List.forall_mem_append, forall_valAccs]

theorem pairRes_resolves (p : Col × Val) :
    Resolves (pairRes infos p) (∀ a ∈ valAccs [p.2], MemberOK infos a.ty a.member) [] := by
  obtain ⟨c, v⟩ := p
  cases v with
  | lit t => exact (Resolves.ok _).congr (iff_of_true nofun trivial)
  | acc a => exact member_resolves_nil.congr (List.forall_mem_singleton (p := fun a : Acc => MemberOK infos a.ty a.member))

end Sqlair
