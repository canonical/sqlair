/-
  The two forms the specification of a node is assembled from.  `Resolves r P ds`: the pure resolution `r`
  (a resolver of Bind/Resolve.lean, a `mapM` of one, `nodeRes`) succeeds iff `P`, and claims the
  destinations `ds`; it composes along `mapM`.  `Runs x st P tys ds`: the stateful `x` succeeds iff `P` and
  `ds` are fresh, and marks `tys` and `ds`; whatever is "resolve, mark the samples, mark the destinations,
  append" (a `NodeRun`, which is what `bindSeg` is) has this form (`Runs.of_resolves`).
-/
import SqlairProofs.Typed.NodeDefs

namespace Sqlair

theorem Grows.useAll (st : TEB) (tys : List Bytes) : Grows st (st.useAll tys) tys [] :=
  ⟨TEB.useAll_argInfos .., fun n => TEB.mem_useAll n tys st,
    fun d => by rw [TEB.useAll_outputUsed]; exact (or_iff_left List.not_mem_nil).symm⟩

structure Runs (x : Except String TEB) (st : TEB) (P : Prop) (tys ds : List Bytes) : Prop where
  ok_iff : (∃ st', x = .ok st') ↔ P ∧ Fresh st.outputUsed ds
  grows : ∀ {st'}, x = .ok st' → Grows st st' tys ds

namespace Runs
variable {x y : Except String TEB} {st st1 : TEB} {P Q : Prop} {tys ds t1 t2 d1 d2 : List Bytes} {e : String}

theorem of_ok (hP : P ∧ Fresh st.outputUsed ds) (hg : Grows st st1 tys ds) : Runs (.ok st1) st P tys ds :=
  ⟨⟨fun _ => hP, fun _ => ⟨_, rfl⟩⟩, fun h => by cases h; exact hg⟩

theorem of_error (hP : ¬ (P ∧ Fresh st.outputUsed ds)) : Runs (.error e) st P tys ds :=
  ⟨iff_of_false not_error_eq_ok hP, fun h => nomatch h⟩

theorem ok (st : TEB) : Runs (.ok st) st True [] [] := of_ok ⟨trivial, Fresh.nil _⟩ (Grows.refl _)

theorem congr (h : Runs x st P tys ds) (hP : Q ↔ P) : Runs x st Q tys ds :=
  ⟨by rw [hP]; exact h.ok_iff, h.grows⟩

/-! The model sequences operations as `match x with | .error e => .error e | .ok st1 => y`.
    After `cases h : x` the two lemmas below give the specification of the whole from that of `x`
    and that of the continuation `y` from the intermediate state; the freshness conditions of the two
    parts combine by `Fresh.append`. -/

theorem seq_error (hx : Runs x st P t1 d1) (h : x = .error e) :
    Runs (.error e) st (P ∧ Q) (t1 ++ t2) (d1 ++ d2) :=
  of_error fun ⟨hP, hf⟩ => not_error_eq_ok (h ▸ hx.ok_iff.2
    ⟨hP.1, ((Fresh.append (u' := st.outputUsed ++ d1) fun _ => List.mem_append).1 hf).1⟩)

theorem seq_ok (hx : Runs x st P t1 d1) (h : x = .ok st1) (hy : Runs y st1 Q t2 d2) :
    Runs y st (P ∧ Q) (t1 ++ t2) (d1 ++ d2) := by
  have hg := hx.grows h
  have h1 := hx.ok_iff.1 ⟨_, h⟩
  refine ⟨?_, fun h' => hg.trans (hy.grows h')⟩
  rw [hy.ok_iff, Fresh.append hg.outs]
  exact ⟨fun ⟨hQ, hf⟩ => ⟨⟨h1.1, hQ⟩, h1.2, hf⟩, fun ⟨⟨_, hQ⟩, _, hf⟩ => ⟨hQ, hf⟩⟩

theorem spec {N : Prop} (h : Runs x st P tys ds) (hN : N ↔ P ∧ Fresh st.outputUsed ds) :
    ((∃ st', x = .ok st') ↔ N) ∧ ∀ st', x = .ok st' → Grows st st' tys ds :=
  ⟨by rw [hN]; exact h.ok_iff, fun _ h' => h.grows h'⟩

end Runs

theorem getMember_spec {a : ArgInfo} {m : Bytes} : ((∃ l, a.getMember m = .ok l) ↔ a.HasMember m) ∧
    ∀ l, a.getMember m = .ok l → l.ident = a.name ++ dot ++ m := by
  cases a with
  | struct tid n fields tags =>
    rw [ArgInfo.getMember, ArgInfo.HasMember]
    cases hf : fields.find? (fun f => f.tag == m) with
    | none =>
      exact ⟨iff_of_false not_error_eq_ok fun ⟨f, hfm, he⟩ =>
        List.find?_eq_none.1 hf f hfm (beq_iff_eq.2 he), fun _ h => absurd ⟨_, h⟩ not_error_eq_ok⟩
    | some f =>
      have ht : f.tag = m := beq_iff_eq.1 (List.find?_some (p := fun f : SField => f.tag == m) hf)
      exact ⟨iff_of_true ⟨_, rfl⟩ ⟨f, List.mem_of_find?_eq_some hf, ht⟩,
        fun l h => by cases h; exact congrArg (n ++ dot ++ ·) ht⟩
  | map tid n => exact ⟨iff_of_true ⟨_, rfl⟩ trivial, fun l h => by cases h; rfl⟩
  | slice tid n => exact ⟨iff_of_false not_error_eq_ok id, fun _ h => absurd ⟨_, h⟩ not_error_eq_ok⟩

theorem getAll_ok_iff {a : ArgInfo} :
    (∃ ms, a.getAll = .ok ms) ↔ ∃ tid n fields tags, a = .struct tid n fields tags ∧ tags ≠ [] := by
  cases a with
  | struct tid n fields tags =>
    cases tags with
    | nil => exact iff_of_false not_error_eq_ok fun ⟨_, _, _, _, h, hne⟩ => by cases h; exact hne rfl
    | cons t ts => exact iff_of_true ⟨_, rfl⟩ ⟨_, _, _, _, rfl, List.cons_ne_nil _ _⟩
  | map tid n | slice tid n => exact iff_of_false not_error_eq_ok nofun

theorem starFieldsOf_tags (fields : List SField) (tags : List Bytes) :
    (starFieldsOf fields tags).map (·.tag) = tags.filter (fun t => fields.any (fun f => f.tag == t)) := by
  unfold starFieldsOf
  induction tags with
  | nil => rfl
  | cons t ts ih =>
    rw [List.filterMap_cons, List.filter_cons]
    cases hf : fields.find? (fun f => f.tag == t) with
    | none =>
      rw [List.any_eq_false.2 (List.find?_eq_none.1 hf)]
      exact ih
    | some f =>
      have ht := List.find?_some (p := fun f : SField => f.tag == t) hf
      rw [List.any_eq_true.2 ⟨f, List.mem_of_find?_eq_some hf, ht⟩, if_pos rfl]
      exact congr (congrArg List.cons (beq_iff_eq.1 ht)) ih

theorem getAll_idents {a : ArgInfo} {ms : List (Loc × Bytes)} (h : a.getAll = .ok ms) :
    ms.map (·.1.ident) = a.starTags.map (fun t => a.name ++ dot ++ t) ∧ ms.map (·.2) = a.starTags := by
  obtain ⟨tid, n, fields, tags, rfl, rfl⟩ := getAll_eq h
  rw [show (ArgInfo.struct tid n fields tags).starTags = _ from (starFieldsOf_tags fields tags).symm,
    List.map_map, List.map_map, List.map_map]
  exact ⟨rfl, rfl⟩

section
variable {infos : List (Bytes × ArgInfo)} {T m : Bytes}

theorem memberRes_exists_ok : (∃ l, memberRes infos T m = .ok l) ↔ MemberOK infos T m := by
  simp only [memberRes_ok, lookupRes_ok, MemberOK, ← getMember_spec.1]
  exact ⟨fun ⟨l, a, h1, h2⟩ => ⟨a, h1, l, h2⟩, fun ⟨a, h1, l, h2⟩ => ⟨l, a, h1, h2⟩⟩

theorem starRes_exists_ok : (∃ ms, starRes infos T = .ok ms) ↔ StarOK infos T := by
  simp only [starRes_ok, lookupRes_ok, StarOK]
  constructor
  · rintro ⟨ms, a, h1, h2⟩
    obtain ⟨tid, n, fields, tags, rfl, hne⟩ := getAll_ok_iff.1 ⟨ms, h2⟩
    exact ⟨tid, n, fields, tags, h1, hne⟩
  · rintro ⟨tid, n, fields, tags, h1, hne⟩
    obtain ⟨ms, h2⟩ := getAll_ok_iff.2 ⟨tid, n, fields, tags, rfl, hne⟩
    exact ⟨ms, _, h1, h2⟩

theorem memberRes_ident {l : Loc} (h : memberRes infos T m = .ok l) : [l.ident] = memDests infos T m := by
  obtain ⟨a, h1, h2⟩ := memberRes_ok.1 h
  rw [memDests, lookupRes_ok.1 h1, getMember_spec.2 l h2]

theorem starRes_idents {ms : List (Loc × Bytes)} (h : starRes infos T = .ok ms) :
    ms.map (·.1.ident) = starDests infos T := by
  obtain ⟨a, h1, h2⟩ := starRes_ok.1 h
  rw [starDests, lookupRes_ok.1 h1, (getAll_idents h2).1]

theorem starRes_tags {ms : List (Loc × Bytes)} (h : starRes infos T = .ok ms) :
    ms.map (·.2) = starTagsOf infos T := by
  obtain ⟨a, h1, h2⟩ := starRes_ok.1 h
  rw [starTagsOf, lookupRes_ok.1 h1, (getAll_idents h2).2]

end

theorem markOutput_runs (st : TEB) (l : Loc) : Runs (markOutput st l) st True [] [l.ident] := by
  unfold markOutput
  by_cases h : l.ident ∈ st.outputUsed
  · rw [if_pos (List.contains_iff_mem.2 h)]
    exact Runs.of_error fun hf => Fresh.singleton.1 hf.2 h
  · rw [if_neg (mt List.contains_iff_mem.1 h)]
    exact Runs.of_ok ⟨trivial, Fresh.singleton.2 h⟩
      ⟨rfl, fun n => (or_iff_left List.not_mem_nil).symm, fun d => by
        show d ∈ l.ident :: st.outputUsed ↔ _
        rw [List.mem_cons, List.mem_singleton, or_comm]⟩

theorem markOutputs_runs : ∀ (ms : List (Loc × Bytes)) (st : TEB),
    Runs (markOutputs st ms) st True [] (ms.map (·.1.ident)) := by
  intro ms
  induction ms with
  | nil => exact fun st => Runs.ok st
  | cons p rest ih =>
    intro st
    obtain ⟨l, _⟩ := p
    rw [markOutputs]
    refine Runs.congr ?_ (and_self_iff (a := True)).symm
    cases h : markOutput st l with
    | error e => exact (markOutput_runs st l).seq_error h
    | ok st1 => exact (markOutput_runs st l).seq_ok h (ih st1)

structure Resolves {ρ : Type} (r : Except String (ρ × List (Loc × Bytes))) (P : Prop) (ds : List Bytes) : Prop where
  ok_iff : (∃ p, r = .ok p) ↔ P
  dests : ∀ {p}, r = .ok p → p.2.map (·.1.ident) = ds

namespace Resolves
variable {ρ : Type} {r : Except String (ρ × List (Loc × Bytes))} {P Q : Prop} {ds : List Bytes}

theorem ok (a : ρ) : Resolves (.ok (a, [])) True [] := ⟨iff_of_true ⟨_, rfl⟩ trivial, fun h => by cases h; rfl⟩

theorem error (e : String) : Resolves (.error e : Except String (ρ × List (Loc × Bytes))) False ds :=
  ⟨iff_of_false not_error_eq_ok id, fun h => nomatch h⟩

theorem congr (h : Resolves r P ds) (hP : Q ↔ P) : Resolves r Q ds := ⟨h.ok_iff.trans hP.symm, h.dests⟩

theorem map {σ : Type} {x : Except String σ} (hx : (∃ a, x = .ok a) ↔ P) {f : σ → ρ} {g : σ → List (Loc × Bytes)}
    (hg : ∀ a, x = .ok a → (g a).map (·.1.ident) = ds) : Resolves (x.map fun a => (f a, g a)) P ds :=
  ⟨exists_map_ok.trans hx, fun h => by obtain ⟨a, ha, rfl⟩ := map_ok_inv h; exact hg a ha⟩

theorem mapM {α β : Type} {res : α → Except String (List β × List (Loc × Bytes))} {xs : List α}
    {P : α → Prop} {dests : α → List Bytes} {of : List (List β × List (Loc × Bytes)) → ρ × List (Loc × Bytes)}
    (hof : ∀ rs, (of rs).2 = rs.flatMap (·.2)) (h : ∀ x ∈ xs, Resolves (res x) (P x) (dests x)) :
    Resolves ((xs.mapM res).map of) (∀ x ∈ xs, P x) (xs.flatMap dests) := by
  refine ⟨exists_map_ok.trans (mapM_exists_ok.trans (forall₂_congr fun x hx => (h x hx).ok_iff)), fun hp => ?_⟩
  obtain ⟨rs, hrs, rfl⟩ := map_ok_inv hp
  rw [hof, List.map_flatMap]
  exact ((mapM_ok_iff.1 hrs).flatMap_eq fun x hx r hr => ((h x hx).dests hr).symm).symm

theorem mapM_nil {α β : Type} {res : α → Except String (List β × List (Loc × Bytes))} {xs : List α}
    {P : α → Prop} {of : List (List β × List (Loc × Bytes)) → ρ × List (Loc × Bytes)}
    (hof : ∀ rs, (of rs).2 = rs.flatMap (·.2)) (h : ∀ x ∈ xs, Resolves (res x) (P x) []) :
    Resolves ((xs.mapM res).map of) (∀ x ∈ xs, P x) [] :=
  List.flatMap_eq_nil_iff.2 (fun _ _ => rfl) ▸ mapM (dests := fun _ => []) hof h

/-- a node with exactly one accessor (`$T.m`, `$S[:]`) -/
theorem single {res : Acc → Except String (ρ × List (Loc × Bytes))} {P : Acc → Prop}
    (h : ∀ a, Resolves (res a) (P a) []) (ts : List Acc) :
    Resolves (match ts with | [a] => res a | _ => .error "malformed-ast") (∃ a, ts = [a] ∧ P a) [] :=
  match ts with
  | [] | _ :: _ :: _ => (error _).congr (iff_of_false (fun ⟨_, h, _⟩ => nomatch h) id)
  | [a] => (h a).congr ⟨fun ⟨_, h, hp⟩ => by cases h; exact hp, fun hp => ⟨a, rfl, hp⟩⟩

theorem spec {used : List Bytes} {N : Prop} (h : Resolves r P ds) (hN : N ↔ P ∧ Fresh used ds) :
    (((∃ p, r = .ok p) ∧ Fresh used ds) ↔ N) ∧ ∀ p, r = .ok p → p.2.map (·.1.ident) = ds :=
  ⟨by rw [hN, h.ok_iff], fun _ hp => h.dests hp⟩

end Resolves

theorem Runs.of_resolves {x : Except String TEB} {r : Except String (TExpr × List (Loc × Bytes))} {st : TEB}
    {P : Prop} {tys ds : List Bytes} (hr : Resolves r P ds)
    (hx : NodeRun (st.useAll tys) r x) : Runs x st P tys ds := by
  have hm := fun ms => markOutputs_runs ms (st.useAll tys)
  constructor
  · constructor
    · rintro ⟨st', h⟩
      obtain ⟨e, ms, st1, h1, h2, _⟩ := hx.ok_iff.1 h
      have := ((hm ms).ok_iff.1 ⟨_, h2⟩).2
      rw [show ms.map (·.1.ident) = ds from hr.dests h1, TEB.useAll_outputUsed] at this
      exact ⟨hr.ok_iff.1 ⟨_, h1⟩, this⟩
    · rintro ⟨hP, hf⟩
      obtain ⟨⟨e, ms⟩, h1⟩ := hr.ok_iff.2 hP
      obtain ⟨st1, h2⟩ := (hm ms).ok_iff.2 ⟨trivial, by
        rwa [show ms.map (·.1.ident) = ds from hr.dests h1, TEB.useAll_outputUsed]⟩
      exact ⟨_, hx.ok_iff.2 ⟨e, ms, st1, h1, h2, rfl⟩⟩
  · intro st' h
    obtain ⟨e, ms, st1, h1, h2, rfl⟩ := hx.ok_iff.1 h
    have := (Grows.useAll st tys).trans ((hm ms).grows h2)
    rw [show ms.map (·.1.ident) = ds from hr.dests h1, List.append_nil, List.nil_append] at this
    exact this.add e

end Sqlair
