/-
  Declarative validity of the sample list of Prepare (`SamplesOK`) and its
  equivalence with `generateArgInfo` (C07).
-/
import SqlairProofs.Bind.Defs

namespace Sqlair

theorem insertSorted_perm (x : Bytes) : ∀ (l : List Bytes), (insertSorted x l).Perm (x :: l) := by
  intro l
  induction l with
  | nil => exact List.Perm.refl _
  | cons y ys ih =>
    simp only [insertSorted]
    split
    · exact ((List.Perm.cons y ih).trans (List.Perm.swap x y ys))
    · exact List.Perm.refl _

theorem sortBytes_foldl_perm : ∀ (l acc : List Bytes),
    (l.foldl (fun acc x => insertSorted x acc) acc).Perm (l ++ acc) := by
  intro l
  induction l with
  | nil => intro acc; exact List.Perm.refl _
  | cons x xs ih =>
    intro acc
    simp only [List.foldl_cons]
    refine (ih _).trans ?_
    refine ((insertSorted_perm x acc).append_left xs).trans ?_
    simp only [List.cons_append]
    exact List.perm_middle

theorem sortBytes_perm (l : List Bytes) : (sortBytes l).Perm l := by
  have := sortBytes_foldl_perm l []
  simpa [sortBytes] using this

theorem mem_sortBytes {t : Bytes} {l : List Bytes} (h : t ∈ sortBytes l) : t ∈ l :=
  (sortBytes_perm l).mem_iff.1 h

/-- `seen` holds the tags of the fields passed, so no tag occurs twice iff the tags still to come followed
    by `seen` repeat nothing -/
theorem firstDupTag_false_iff : ∀ (fs : List SField) (seen : List Bytes), seen.Nodup →
    (firstDupTag fs seen = false ↔ (fs.map (·.tag) ++ seen).Nodup)
  | [], _, hs => iff_of_true rfl hs
  | f :: rest, seen, hs => by
    rw [firstDupTag, List.map_cons, List.cons_append, ← List.perm_middle.nodup_iff]
    by_cases hc : f.tag ∈ seen
    · rw [if_pos (List.contains_iff_mem.2 hc)]
      exact iff_of_false Bool.noConfusion fun h => (List.nodup_cons.1 (List.nodup_append.1 h).2.1).1 hc
    · rw [if_neg (mt List.contains_iff_mem.1 hc)]
      exact firstDupTag_false_iff rest _ (List.nodup_cons.2 ⟨hc, hs⟩)

theorem firstDupTag_nil_iff (fs : List SField) : firstDupTag fs [] = false ↔ (fs.map (·.tag)).Nodup := by
  rw [firstDupTag_false_iff fs [] .nil, List.append_nil]

/-- Declarative description of the info Prepare derives from ONE sample type `tid`:
    * a map type needs a string-kind key;
    * a slice type needs nothing more;
    * a struct type must be structurally valid (`getStructFields` succeeds: every tag parses,
      tagged fields are exported, no embedding cycle) and no two (possibly embedded) fields
      carry the same db tag; its tags are the sorted field tags.
    `getStructFields` is taken as the definition of "the tagged fields of `T`". -/
def SampleInfo (C : Cls) (tt : TypeTable) (tid : Nat) (info : ArgInfo) : Prop :=
  ((tt.get tid).kind = .map ∧ (tt.get (tt.get tid).key).kind = .string ∧
      info = .map tid (tt.get tid).name) ∨
  ((tt.get tid).kind = .slice ∧ info = .slice tid (tt.get tid).name) ∨
  ((tt.get tid).kind = .struct ∧ ∃ fields, getStructFields C tt (tt.size + 1) [] tid = .ok fields ∧
      (fields.map (·.tag)).Nodup ∧
      info = .struct tid (tt.get tid).name fields (sortBytes (fields.map (·.tag))))

section
variable {C : Cls} {tt : TypeTable} {tid : Nat}

theorem getArgInfo_ok_iff {info : ArgInfo} :
    getArgInfo C tt tid = .ok info ↔ SampleInfo C tt tid info := by
  unfold getArgInfo SampleInfo
  dsimp only
  constructor
  · generalize (tt.get tid).kind = k
    cases k with
    | map =>
      intro h
      cases hs : (tt.get (tt.get tid).key).kind != Kind.string
      · exact .inl ⟨rfl, bne_eq_false_iff_eq.1 hs, (Except.ok.inj ((if_neg (ne_true_of_eq_false hs)).symm.trans h)).symm⟩
      · exact nomatch (if_pos hs).symm.trans h
    | slice => exact fun h => .inr (.inl ⟨rfl, (Except.ok.inj h).symm⟩)
    | struct =>
      cases getStructFields C tt (tt.size + 1) [] tid with
      | error e => exact fun h => (not_error_eq_ok ⟨_, h⟩).elim
      | ok fields =>
        dsimp only
        cases hd : firstDupTag fields [] with
        | false =>
          exact fun h => .inr (.inr ⟨rfl, fields, rfl, (firstDupTag_nil_iff fields).1 hd, (Except.ok.inj h).symm⟩)
        | true => exact fun h => (not_error_eq_ok ⟨_, h⟩).elim
    | _ => exact fun h => (not_error_eq_ok ⟨_, h⟩).elim
  · rintro (⟨hk, hs, rfl⟩ | ⟨hk, rfl⟩ | ⟨hk, fields, hg, hn, rfl⟩)
    · rw [hk]
      exact if_neg (ne_true_of_eq_false (bne_eq_false_iff_eq.2 hs))
    · rw [hk]
    · rw [hk, hg]
      dsimp only
      rw [(firstDupTag_nil_iff fields).2 hn]
      rfl

theorem getArgInfo_struct {tid' : Nat} {n : Bytes} {fields : List SField} {tags : List Bytes}
    (h : getArgInfo C tt tid = .ok (.struct tid' n fields tags)) :
    tid' = tid ∧ n = (tt.get tid).name ∧ (tt.get tid).kind = .struct ∧
      (fields.map (·.tag)).Nodup ∧ tags = sortBytes (fields.map (·.tag)) ∧
      getStructFields C tt (tt.size + 1) [] tid = .ok fields := by
  rcases getArgInfo_ok_iff.1 h with ⟨_, _, h⟩ | ⟨_, h⟩ | ⟨hk, fs, hfs, hn, h⟩ <;> cases h
  exact ⟨rfl, rfl, hk, hn, rfl, hfs⟩

/-- `t.Name()` in `GenerateArgInfo` (arginfo.go): the name without the package, the key of the table of
    infos -/
def sampleName (tt : TypeTable) (tid : Nat) : Bytes := (tt.get tid).name

/-- Declarative validity of the sample list of Prepare, and the table `infos`
    (type name ↦ info) it yields: no sample is nil (`samples = tids.map some`); every sample
    type has kind struct, map or slice (in particular: is not a pointer) and is named; the
    names are pairwise distinct; `infos` lists, in sample order, each name with the info
    described by `SampleInfo`. -/
def SamplesOK (C : Cls) (tt : TypeTable) (samples : List (Option Nat))
    (infos : List (Bytes × ArgInfo)) : Prop :=
  ∃ tids : List Nat, samples = tids.map some ∧
    (∀ tid ∈ tids, ((tt.get tid).kind = .struct ∨ (tt.get tid).kind = .map ∨ (tt.get tid).kind = .slice) ∧
      (sampleName tt tid).size ≠ 0) ∧
    (tids.map (sampleName tt)).Nodup ∧
    infos.length = tids.length ∧
    ∀ x ∈ tids.zip infos, x.2.1 = sampleName tt x.1 ∧ SampleInfo C tt x.1 x.2.2

theorem SampleInfo.kind {info : ArgInfo}
    (h : SampleInfo C tt tid info) :
    (tt.get tid).kind = .struct ∨ (tt.get tid).kind = .map ∨ (tt.get tid).kind = .slice := by
  rcases h with h | h | h
  · exact Or.inr (Or.inl h.1)
  · exact Or.inr (Or.inr h.1)
  · exact Or.inl h.1

theorem generateArgInfo_cons_some_eq {rest : List (Option Nat)} {acc infos : List (Bytes × ArgInfo)} :
    generateArgInfo C tt (some tid :: rest) acc = .ok infos ↔
      ((tt.get tid).kind = .struct ∨ (tt.get tid).kind = .map ∨ (tt.get tid).kind = .slice) ∧
      (if (sampleName tt tid).size == 0 then Except.error "sample-anonymous" else
      match getArgInfo C tt tid with
      | .error e => .error e
      | .ok info =>
        if acc.any (fun p => p.1 == sampleName tt tid) then .error "sample-duplicate-name"
        else generateArgInfo C tt rest (acc ++ [(sampleName tt tid, info)])) = .ok infos := by
  rw [generateArgInfo]
  generalize (tt.get tid).kind = k
  cases k with
  | struct => exact (and_iff_right (.inl rfl)).symm
  | map => exact (and_iff_right (.inr (.inl rfl))).symm
  | slice => exact (and_iff_right (.inr (.inr rfl))).symm
  | _ => exact iff_of_false (fun h => not_error_eq_ok ⟨_, h⟩) (by rintro ⟨⟨⟨⟩⟩ | ⟨⟨⟩⟩ | ⟨⟨⟩⟩, _⟩)

theorem generateArgInfo_cons_some (tid : Nat) (rest : List (Option Nat))
    (acc infos : List (Bytes × ArgInfo)) :
    generateArgInfo C tt (some tid :: rest) acc = .ok infos ↔
      ∃ info, SampleInfo C tt tid info ∧ (sampleName tt tid).size ≠ 0 ∧
        (∀ p ∈ acc, p.1 ≠ sampleName tt tid) ∧
        generateArgInfo C tt rest (acc ++ [(sampleName tt tid, info)]) = .ok infos := by
  rw [generateArgInfo_cons_some_eq]
  constructor
  · rintro ⟨_, h⟩
    rcases of_ite_eq h with ⟨_, h⟩ | ⟨hn, h⟩
    · cases h
    cases hg : getArgInfo C tt tid with
    | error e => rw [hg] at h; cases h
    | ok info =>
      rw [hg] at h
      rcases of_ite_eq h with ⟨_, h⟩ | ⟨hd, h⟩
      · cases h
      exact ⟨info, getArgInfo_ok_iff.1 hg, mt beq_iff_eq.2 hn,
        fun p hp he => hd (List.any_eq_true.2 ⟨p, hp, beq_iff_eq.2 he⟩), h⟩
  · rintro ⟨info, hi, hn, hacc, hrest⟩
    have hd : ¬ acc.any (fun p => p.1 == sampleName tt tid) = true := fun hd =>
      (List.any_eq_true.1 hd).elim fun p hp => hacc p hp.1 (beq_iff_eq.1 hp.2)
    rw [if_neg (mt beq_iff_eq.1 hn), getArgInfo_ok_iff.2 hi]
    dsimp only
    rw [if_neg hd]
    exact ⟨hi.kind, hrest⟩

theorem generateArgInfo_acc_ok_iff :
    ∀ (samples : List (Option Nat)) (acc infos : List (Bytes × ArgInfo)),
    generateArgInfo C tt samples acc = .ok infos ↔
      ∃ (tids : List Nat) (new : List (Bytes × ArgInfo)), samples = tids.map some ∧ infos = acc ++ new ∧
        (∀ tid ∈ tids, ((tt.get tid).kind = .struct ∨ (tt.get tid).kind = .map ∨ (tt.get tid).kind = .slice) ∧
          (sampleName tt tid).size ≠ 0) ∧
        (tids.map (sampleName tt)).Nodup ∧
        (∀ p ∈ acc, p.1 ∉ tids.map (sampleName tt)) ∧
        new.length = tids.length ∧
        ∀ x ∈ tids.zip new, x.2.1 = sampleName tt x.1 ∧ SampleInfo C tt x.1 x.2.2 := by
  intro samples
  induction samples with
  | nil =>
    intro acc infos
    constructor
    · intro h
      cases h
      exact ⟨[], [], rfl, (List.append_nil _).symm, List.forall_mem_nil _, List.nodup_nil,
        fun _ _ => List.not_mem_nil, rfl, List.forall_mem_nil _⟩
    · rintro ⟨tids, new, h1, h2, _, _, _, h6, _⟩
      cases List.map_eq_nil_iff.1 h1.symm
      rw [List.eq_nil_of_length_eq_zero h6, List.append_nil] at h2
      exact h2 ▸ rfl
  | cons smp rest ih =>
    intro acc infos
    cases smp with
    | none =>
      refine iff_of_false (fun h => not_error_eq_ok ⟨_, h⟩) ?_
      rintro ⟨tids, _, h1, _⟩
      obtain ⟨_, _, _, ⟨⟩, _⟩ := List.map_eq_cons_iff.1 h1.symm
    | some tid =>
      rw [generateArgInfo_cons_some]
      constructor
      · rintro ⟨info, hi, hn, hacc, hrest⟩
        obtain ⟨tids, new, h1, h2, h3, h4, h5, h6, h7⟩ := (ih _ _).1 hrest
        exact ⟨tid :: tids, (sampleName tt tid, info) :: new, congrArg (some tid :: ·) h1,
          h2.trans (List.append_assoc _ _ _), List.forall_mem_cons.2 ⟨⟨hi.kind, hn⟩, h3⟩,
          List.nodup_cons.2 ⟨h5 _ (List.mem_append_right _ (List.mem_singleton.2 rfl)), h4⟩,
          fun p hp hm => (List.mem_cons.1 hm).elim (hacc p hp) (h5 p (List.mem_append_left _ hp)),
          congrArg (· + 1) h6, List.forall_mem_cons.2 ⟨⟨rfl, hi⟩, h7⟩⟩
      · rintro ⟨tids, new, h1, h2, h3, h4, h5, h6, h7⟩
        obtain ⟨_, tids, rfl, ⟨⟩, h1'⟩ := List.map_eq_cons_iff.1 h1.symm
        cases new with
        | nil => cases h6
        | cons p new =>
          obtain ⟨pn, pi⟩ := p
          obtain ⟨rfl, hi⟩ : pn = sampleName tt tid ∧ SampleInfo C tt tid pi :=
            h7 (tid, pn, pi) List.mem_cons_self
          rw [List.map_cons, List.nodup_cons] at h4
          exact ⟨pi, hi, (h3 tid List.mem_cons_self).2, fun p hp he => h5 p hp (he ▸ List.mem_cons_self),
            (ih _ _).2 ⟨tids, new, h1'.symm, h2.trans (List.append_assoc acc [_] new).symm,
              fun t ht => h3 t (List.mem_cons_of_mem _ ht), h4.2,
              fun p hp => (List.mem_append.1 hp).elim (fun hp hm => h5 p hp (List.mem_cons_of_mem _ hm))
                fun hp => List.mem_singleton.1 hp ▸ h4.1,
              Nat.succ.inj h6, fun x hx => h7 x (List.mem_cons_of_mem _ hx)⟩⟩

/-- C07, the samples: `GenerateArgInfo` (arginfo.go) accepts exactly the valid sample lists; stated again as
    `generateArgInfo_ok_iff` in Props/Typed.lean -/
theorem generateArgInfo_nil_ok_iff {C : Cls} {tt : TypeTable} {samples : List (Option Nat)}
    {infos : List (Bytes × ArgInfo)} :
    generateArgInfo C tt samples [] = .ok infos ↔ SamplesOK C tt samples infos := by
  rw [generateArgInfo_acc_ok_iff]
  constructor
  · rintro ⟨tids, new, h1, h2, h3, h4, _, h6, h7⟩
    cases h2
    exact ⟨tids, h1, h3, h4, h6, h7⟩
  · rintro ⟨tids, h1, h2, h3, h4, h5⟩
    exact ⟨tids, infos, h1, rfl, h2, h3, List.forall_mem_nil _, h4, h5⟩

/-- `SamplesOK` spells the correspondence of samples and infos with `zip`, so that the specification reads
    without `Corr`; this is the bridge. -/
theorem SamplesOK.corr {tids : List Nat} {infos : List (Bytes × ArgInfo)}
    (h : SamplesOK C tt (tids.map some) infos) :
    Corr (fun tid p => p.1 = sampleName tt tid ∧ SampleInfo C tt tid p.2) tids infos := by
  obtain ⟨tids', h1, _, _, h4, h5⟩ := h
  cases List.map_inj_right (fun _ _ => Option.some.inj) |>.1 h1
  refine ⟨h4, fun i tid hi => ?_⟩
  obtain ⟨hlt, rfl⟩ := List.getElem?_eq_some_iff.1 hi
  have hi' : i < infos.length := h4 ▸ hlt
  exact ⟨infos[i], List.getElem?_eq_getElem hi', h5 (tids[i], infos[i]) (List.mem_iff_getElem.2
    ⟨i, by rw [List.length_zip, h4, Nat.min_self]; exact hlt, List.getElem_zip⟩)⟩

theorem generateArgInfo_mem_sample {samples : List (Option Nat)} {infos : List (Bytes × ArgInfo)}
    (h : generateArgInfo C tt samples [] = .ok infos) {p : Bytes × ArgInfo} (hp : p ∈ infos) :
    ∃ tid, some tid ∈ samples ∧ p.1 = sampleName tt tid ∧ SampleInfo C tt tid p.2 ∧ (sampleName tt tid).size ≠ 0 := by
  have hs := generateArgInfo_nil_ok_iff.1 h
  obtain ⟨tids, rfl, hk, -⟩ := id hs
  obtain ⟨tid, htid, hn, hi⟩ := hs.corr.mem_right hp
  exact ⟨tid, List.mem_map_of_mem htid, hn, hi, (hk tid htid).2⟩

theorem SamplesOK.keys {tids : List Nat} {infos : List (Bytes × ArgInfo)}
    (h : SamplesOK C tt (tids.map some) infos) : infos.map (·.1) = tids.map (sampleName tt) :=
  (h.corr.map_eq fun _ _ hR => hR.1.symm).symm

end

end Sqlair
