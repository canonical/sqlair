/-
  The node loop of `bindTypes` (`bindSegs_spec`) and the definition of well-typedness of the parsed query
  against the samples (`WellTyped`); that `bindTypes`, the typing half of Prepare, succeeds exactly then is
  `bindTypes_ok_iff_wellTyped` in Props/Typed.lean.
-/
import SqlairProofs.Typed.Samples
import SqlairProofs.Typed.Node

namespace Sqlair

theorem NodeOK.congr {infos : List (Bytes × ArgInfo)} {u u' : List Bytes} {s : OSeg}
    (h : ∀ d, d ∈ u ↔ d ∈ u') : NodeOK infos u s ↔ NodeOK infos u' s := by
  unfold NodeOK
  cases s.kind with
  | output => exact and_congr_right' (Fresh.congr h)
  | _ => exact Iff.rfl

/-- `WellTyped` has `NodesOK infos [] segs` written out (`[] ++ l` reduces to `l`). -/
def NodesOK (infos : List (Bytes × ArgInfo)) (used0 : List Bytes) (segs : List OSeg) : Prop :=
  ∀ pre s post, segs = pre ++ s :: post → NodeOK infos (used0 ++ pre.flatMap (nodeDests infos)) s

theorem NodesOK.cons_iff {infos : List (Bytes × ArgInfo)} {used0 : List Bytes} {s : OSeg} {rest : List OSeg} :
    NodesOK infos used0 (s :: rest) ↔
      NodeOK infos used0 s ∧ NodesOK infos (used0 ++ nodeDests infos s) rest := by
  constructor
  · intro h
    refine ⟨List.append_nil used0 ▸ h [] s rest rfl, fun pre s' post he => ?_⟩
    rw [List.append_assoc, ← List.flatMap_cons]
    exact h (s :: pre) s' post (congrArg (s :: ·) he)
  · intro h pre s' post he
    cases pre with
    | nil => cases he; exact (List.append_nil used0).symm ▸ h.1
    | cons p pre' =>
      cases he
      rw [List.flatMap_cons, ← List.append_assoc]
      exact h.2 pre' s' post rfl

/-- `used` is any list with the members of `st.outputUsed`: the model does not keep the order `NodesOK`
    speaks of -/
theorem bindSegs_spec : ∀ (segs : List OSeg) (st : TEB) (used : List Bytes),
    (∀ d, d ∈ st.outputUsed ↔ d ∈ used) →
    ((∃ st', bindSegs st segs = .ok st') ↔ NodesOK st.argInfos used segs) ∧
    ∀ st', bindSegs st segs = .ok st' →
      Grows st st' (segs.flatMap nodeTypes) (segs.flatMap (nodeDests st.argInfos)) := by
  intro segs
  induction segs with
  | nil =>
    exact fun st used _ => ⟨iff_of_true ⟨st, rfl⟩ fun pre s post he =>
        absurd (List.append_eq_nil_iff.1 he.symm).2 (List.cons_ne_nil s post),
      fun st' h => by cases h; exact Grows.refl st⟩
  | cons s rest ih =>
    intro st used hu
    obtain ⟨b1, b2⟩ := bindSeg_spec st s
    rw [NodeOK.congr hu] at b1
    rw [bindSegs_cons, NodesOK.cons_iff, List.flatMap_cons, List.flatMap_cons]
    cases hb : bindSeg st s with
    | error e =>
      rw [hb] at b1
      exact ⟨iff_of_false not_error_eq_ok fun h => not_error_eq_ok (b1.2 h.1), fun _ h => nomatch h⟩
    | ok st1 =>
      have hg := b2 st1 hb
      obtain ⟨i1, i2⟩ := ih st1 (used ++ nodeDests st.argInfos s) fun d => by
        rw [hg.outs, List.mem_append, hu]
      rw [hg.infos] at i1 i2
      exact ⟨i1.trans (and_iff_right (b1.1 ⟨_, hb⟩)).symm, fun st' h => hg.trans (i2 st' h)⟩

/-- C07: Declarative well-typedness of a parsed query against the samples: the sample list is
    valid and yields the infos; every node is well-typed with respect to the infos and the
    output destinations of the earlier nodes; every sample is named by some node. -/
def WellTyped (C : Cls) (tt : TypeTable) (segs : List OSeg) (samples : List (Option Nat)) : Prop :=
  ∃ infos, SamplesOK C tt samples infos ∧
    (∀ pre s post, segs = pre ++ s :: post → NodeOK infos (pre.flatMap (nodeDests infos)) s) ∧
    (∀ p ∈ infos, ∃ s ∈ segs, p.1 ∈ nodeTypes s)

end Sqlair
