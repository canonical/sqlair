/-
  `nodeRes` (Bind/Resolve.lean) resolves a node iff the node is `NodeOK` up to the freshness of its
  destinations, which are `nodeDests` (`nodeRes_spec`, a statement about lists and the sample infos). With
  `bindSeg_nodeRun`, the one walk over `bindSeg`, this gives `bindSeg_spec`: `bindSeg` accepts a node iff the
  node is `NodeOK`, and how the builder state grows.
-/
import SqlairProofs.Typed.ColInsert

namespace Sqlair

theorem single_iff {α : Type} {p : α → Prop} {l : List α} :
    (∃ c, l = [c] ∧ p c) ↔ l.length = 1 ∧ ∀ x ∈ l, p x := by
  match l with
  | [] | _ :: _ :: _ => exact iff_of_false (fun ⟨_, h, _⟩ => nomatch h) fun h => nomatch h.1
  | [c] => exact ⟨fun ⟨_, h, hp⟩ => ⟨rfl, fun x hx => by cases h; cases List.mem_singleton.1 hx; exact hp⟩,
      fun h => ⟨c, rfl, h.2 c (.head _)⟩⟩

/-! `starCountCols` and `starCountTypes` count the entries whose name (`f`) is the asterisk; the code
tests these counts and the lengths, the specification speaks of the entries. -/

section
variable {α : Type} (f : α → Bytes) (l : List α)

theorem starCount_pos_iff : (l.filter fun x => f x == star).length > 0 ↔ ∃ x ∈ l, f x = star :=
  List.length_pos_iff_exists_mem.trans (exists_congr fun _ => by rw [List.mem_filter, beq_iff_eq])

theorem starCount_single_iff :
    l.length = 1 ∧ (l.filter fun x => f x == star).length = 1 ↔ ∃ c, l = [c] ∧ f c = star := by
  refine (and_congr_right fun h => ?_).trans single_iff.symm
  rw [← h, List.length_filter_eq_length_iff]
  exact forall_congr' fun x => imp_congr_right fun _ => beq_iff_eq

/-- unless the list is the single asterisk, one asterisk entry means there are several entries -/
theorem starCount_several_iff (hS : ¬ ∃ c, l = [c] ∧ f c = star) :
    l.length > 1 ∧ (l.filter fun x => f x == star).length > 0 ↔ ¬ ∀ x ∈ l, f x ≠ star := by
  rw [starCount_pos_iff]
  refine ⟨fun ⟨_, x, hx, hs⟩ hn => hn x hx hs, fun h =>
    Classical.byContradiction fun hn => h fun x hx hs => hn ⟨?_, x, hx, hs⟩⟩
  match l, hS, hx with
  | [c], hS, hx => exact absurd ⟨c, rfl, List.mem_singleton.1 hx ▸ hs⟩ hS
  | _ :: _ :: _, _, _ => exact Nat.le_add_left 2 _

end

theorem genForm_iff (cs : List Col) :
    (cs.length == 0 || (cs.length == 1 && starCountCols cs == 1)) = true ↔
      (cs = [] ∨ ∃ c, cs = [c] ∧ c.column = star) := by
  rw [Bool.or_eq_true, Bool.and_eq_true, beq_iff_eq, beq_iff_eq, beq_iff_eq, List.length_eq_zero_iff]
  exact or_congr Iff.rfl (starCount_single_iff (fun c : Col => c.column) cs)

/-- the first two conjuncts of `OSeg.IntoStar`, and of the pairwise form of `OutputFormOK` -/
def ExplicitCols (cs : List Col) : Prop := cs ≠ [] ∧ ∀ c ∈ cs, c.column ≠ star

theorem not_explicit_of_gen {cs : List Col} (h : cs = [] ∨ ∃ c, cs = [c] ∧ c.column = star) :
    ¬ ExplicitCols cs := by
  rintro ⟨h1, h2⟩
  rcases h with h | ⟨c, rfl, hc⟩
  · exact h1 h
  · exact h2 c (.head _) hc

theorem explicitCols_iff {cs : List Col}
    (h1 : ¬ (cs.length == 0 || (cs.length == 1 && starCountCols cs == 1)) = true) :
    (decide (cs.length > 1) && decide (starCountCols cs > 0)) = true ↔ ¬ ExplicitCols cs := by
  have hG := mt (genForm_iff cs).2 h1
  rw [Bool.and_eq_true, decide_eq_true_eq, decide_eq_true_eq]
  exact (starCount_several_iff (fun c : Col => c.column) cs fun h => hG (Or.inr h)).trans
    (not_congr (and_iff_right fun h => hG (Or.inl h)).symm)

theorem intoStarTypes_iff (ts : List Acc) :
    (starCountTypes ts == 1 && ts.length == 1) = true ↔ (ts.length = 1 ∧ ∀ t ∈ ts, t.member = star) := by
  rw [Bool.and_eq_true, beq_iff_eq, beq_iff_eq, and_comm, ← single_iff]
  exact starCount_single_iff (fun t : Acc => t.member) ts

theorem starTypes_iff {ts : List Acc} (hT : ¬ (ts.length = 1 ∧ ∀ t ∈ ts, t.member = star)) :
    (decide (starCountTypes ts > 0) && decide (ts.length > 1)) = true ↔ ¬ ∀ t ∈ ts, t.member ≠ star := by
  rw [Bool.and_eq_true, decide_eq_true_eq, decide_eq_true_eq, and_comm]
  exact starCount_several_iff (fun t : Acc => t.member) ts (mt single_iff.1 hT)

theorem flatMap_accDests_of_noStar (infos : List (Bytes × ArgInfo)) (ts : List Acc)
    (h : ∀ t ∈ ts, t.member ≠ star) :
    ts.flatMap (accDests infos) = ts.flatMap (fun t => memDests infos t.ty t.member) := by
  rw [List.flatMap_def, List.flatMap_def,
    List.map_congr_left (f := accDests infos) fun t ht => if_neg (h t ht)]

section
variable {s : OSeg} {infos : List (Bytes × ArgInfo)}

theorem outputFormOK_gen (hG : s.cols = [] ∨ ∃ c, s.cols = [c] ∧ c.column = star) :
    OutputFormOK infos s ↔ ∀ t ∈ s.types, AccessorOK infos t := by
  have hnE := not_explicit_of_gen hG
  refine ⟨fun h => ?_, fun h => Or.inl ⟨hG, h⟩⟩
  rcases h with h | h | h
  · exact h.2
  · exact absurd ⟨h.1.1, h.1.2.1⟩ hnE
  · exact absurd ⟨h.1, h.2.1⟩ hnE

theorem outputFormOK_intoStar (hG : ¬ (s.cols = [] ∨ ∃ c, s.cols = [c] ∧ c.column = star)) (hI : s.IntoStar) :
    OutputFormOK infos s ↔ ∀ c ∈ s.cols, MemberOK infos (s.types.headD default).ty c.column := by
  refine ⟨fun h => ?_, fun h => Or.inr (Or.inl ⟨hI, h⟩)⟩
  rcases h with h | h | h
  · exact absurd h.1 hG
  · exact h.2
  · obtain ⟨t, ht⟩ := List.exists_mem_of_length_pos (hI.2.2.1 ▸ Nat.one_pos)
    exact absurd (hI.2.2.2 t ht) (h.2.2.1 t ht)

theorem outputFormOK_pairwise (hG : ¬ (s.cols = [] ∨ ∃ c, s.cols = [c] ∧ c.column = star)) (hI : ¬ s.IntoStar) :
    OutputFormOK infos s ↔ ExplicitCols s.cols ∧ (∀ t ∈ s.types, t.member ≠ star) ∧
      s.cols.length = s.types.length ∧ ∀ t ∈ s.types, MemberOK infos t.ty t.member := by
  refine ⟨fun h => ?_, fun h => Or.inr (Or.inr ⟨h.1.1, h.1.2, h.2⟩)⟩
  rcases h with h | h | h
  · exact absurd h.1 hG
  · exact absurd h.1 hI
  · exact ⟨⟨h.1, h.2.1⟩, h.2.2⟩

end

theorem sliceRes_exists_ok {infos : List (Bytes × ArgInfo)} {T : Bytes} :
    (∃ l, sliceRes infos T = .ok l) ↔ ∃ tid n, lookupInfo infos T = some (.slice tid n) := by
  simp only [sliceRes_ok, lookupRes_ok]
  constructor
  · rintro ⟨l, a, h1, h2⟩
    cases a with
    | slice tid n => exact ⟨tid, n, h1⟩
    | struct _ _ _ _ | map _ _ => cases h2
  · rintro ⟨tid, n, h⟩
    exact ⟨_, _, h, rfl⟩

/-- the output node: the tests of `nodeRes` (those of `bindSeg`) select the three forms of `OutputFormOK` -/
theorem nodeRes_output_spec (infos : List (Bytes × ArgInfo)) (used : List Bytes) (s : OSeg) (hk : s.kind = .output) :
    (((∃ p, nodeRes infos s = .ok p) ∧ Fresh used (nodeDests infos s)) ↔ NodeOK infos used s) ∧
    ∀ p, nodeRes infos s = .ok p → p.2.map (·.1.ident) = nodeDests infos s := by
  unfold nodeRes NodeOK nodeDests
  simp only [hk]
  by_cases h1 : (s.cols.length == 0 || (s.cols.length == 1 && starCountCols s.cols == 1)) = true
  · -- generated columns
    have hG := (genForm_iff s.cols).1 h1
    have hI : ¬ s.IntoStar := fun h => not_explicit_of_gen hG ⟨h.1, h.2.1⟩
    rw [if_pos h1, if_neg hI]
    exact (Resolves.mapM (fun _ => rfl) fun a _ => accRes_resolves _ a).spec
      (and_congr_left' (outputFormOK_gen hG))
  · have hG := mt (genForm_iff s.cols).2 h1
    rw [if_neg h1]
    by_cases hE : ExplicitCols s.cols
    · rw [if_neg (mt (explicitCols_iff h1).1 (not_not_intro hE))]
      by_cases hT : s.types.length = 1 ∧ ∀ t ∈ s.types, t.member = star
      · -- explicit columns into one asterisk type
        have hI : s.IntoStar := ⟨hE.1, hE.2, hT.1, hT.2⟩
        rw [if_pos ((intoStarTypes_iff _).2 hT), if_pos hI]
        exact (Resolves.mapM (fun _ => rfl) fun c _ =>
          (member_resolves : Resolves (colStarRes _ infos c) _ _)).spec
          (and_congr_left' (outputFormOK_intoStar hG hI))
      · have hI : ¬ s.IntoStar := fun h => hT ⟨h.2.2.1, h.2.2.2⟩
        rw [if_neg (mt (intoStarTypes_iff _).1 hT), if_neg hI]
        by_cases hS : ∀ t ∈ s.types, t.member ≠ star
        · rw [if_neg (mt (starTypes_iff hT).1 (not_not_intro hS)), flatMap_accDests_of_noStar _ _ hS]
          by_cases h5 : s.cols.length = s.types.length
          · -- pairwise
            rw [if_pos (beq_iff_eq.2 h5)]
            have hz : (s.cols.zip s.types).map Prod.snd = s.types := List.map_snd_zip (Nat.le_of_eq h5.symm)
            have hr := Resolves.mapM (of := outputOf) (fun _ => rfl) fun (p : Col × Acc) (_ : p ∈ s.cols.zip s.types) =>
              (member_resolves : Resolves (pairOutRes infos p) _ _)
            rw [← List.flatMap_map (f := Prod.snd) (g := fun t : Acc => memDests infos t.ty t.member), hz] at hr
            refine (hr.congr ?_).spec (and_congr_left' ((outputFormOK_pairwise hG hI).trans
              ⟨fun h => h.2.2.2, fun h => ⟨hE, hS, h5, h⟩⟩))
            rw [← List.forall_mem_map (f := Prod.snd) (P := fun t : Acc => MemberOK infos t.ty t.member), hz]
          · rw [if_neg (mt beq_iff_eq.1 h5)]
            exact (Resolves.error _).spec (iff_of_false (fun h => h5 ((outputFormOK_pairwise hG hI).1 h.1).2.2.1) And.left)
        · rw [if_pos ((starTypes_iff hT).2 hS)]
          exact (Resolves.error _).spec (iff_of_false (fun h => hS ((outputFormOK_pairwise hG hI).1 h.1).2.1) And.left)
    · rw [if_pos ((explicitCols_iff h1).2 hE)]
      exact (Resolves.error _).spec (iff_of_false
        (fun h => hE ((outputFormOK_pairwise hG fun hI => hE ⟨hI.1, hI.2.1⟩).1 h.1).1) And.left)

theorem nodeRes_spec (infos : List (Bytes × ArgInfo)) (used : List Bytes) (s : OSeg) :
    (((∃ p, nodeRes infos s = .ok p) ∧ Fresh used (nodeDests infos s)) ↔ NodeOK infos used s) ∧
    ∀ p, nodeRes infos s = .ok p → p.2.map (·.1.ident) = nodeDests infos s := by
  by_cases hout : s.kind = .output
  · exact nodeRes_output_spec infos used s hout
  have noDest : ∀ {N : Prop}, N ↔ N ∧ Fresh used [] := (and_iff_left (Fresh.nil _)).symm
  unfold nodeRes NodeOK nodeDests
  cases hk : s.kind with
  | output => exact absurd hk hout
  | bypass => exact (Resolves.ok _).spec noDest
  | member => exact (Resolves.single (fun _ => member_resolves_nil) s.types).spec noDest
  | slice => exact (Resolves.single (fun _ => .map sliceRes_exists_ok fun _ _ => rfl) s.types).spec noDest
  | astInsert => exact (Resolves.mapM_nil (fun _ => rfl) fun a _ => srcRes_resolves a).spec noDest
  | basicInsert =>
    dsimp only
    by_cases hlen : s.cols.length = s.vals.length
    · rw [if_neg (by simpa using hlen), and_iff_right hlen]
      refine ((Resolves.mapM_nil (of := insertOf) (fun _ => rfl) fun p _ => pairRes_resolves p).congr ?_).spec noDest
      -- over the pairs, then over their values, which are `s.vals`
      rw [← List.forall_mem_map (f := Prod.snd) (P := fun v => ∀ a ∈ valAccs [v], MemberOK infos a.ty a.member),
        forall_valAccs, List.map_snd_zip (Nat.le_of_eq hlen.symm), OSeg.valAccs_eq]
    · rw [if_pos (by simpa using hlen)]
      exact (Resolves.error _).spec (by simp [hlen])
  | colInsert => exact (colInsert_resolves s.types s.cols).spec noDest

/-- closes `(∃ st', (match x with | .error e => .error e | .ok (r, st) => .ok (st.add …)) = .ok st') ↔ Q` from
    `h1 : (∃ r, x = .ok r) ↔ Q`: a last step of that shape succeeds iff `x` does -/
macro "finish_iff " h:ident : tactic =>
  `(tactic| (split <;> (rename_i hx; rw [hx] at $h:ident; simpa using $h:ident)))

/-- … and its state effect: `h2 : ∀ r st1, x = .ok (r, st1) → Grows …` and
    `h : (match x …) = .ok st'` prove `Grows st st' …` -/
macro "finish_grows " h:ident h2:ident : tactic =>
  `(tactic| (split at $h:ident
             · rename_i hq hh; cases hh
             · rename_i hq hh; cases hh; exact ($h2:ident _ _ hq).add _))

theorem bindSeg_spec (st : TEB) (s : OSeg) :
    ((∃ st', bindSeg st s = .ok st') ↔ NodeOK st.argInfos st.outputUsed s) ∧
    ∀ st', bindSeg st s = .ok st' → Grows st st' (nodeTypes s) (nodeDests st.argInfos s) := by
  obtain ⟨h1, h2⟩ := nodeRes_spec st.argInfos st.outputUsed s
  exact (Runs.of_resolves ⟨Iff.rfl, fun h => h2 _ h⟩ (bindSeg_nodeRun st s)).spec h1.symm

end Sqlair
