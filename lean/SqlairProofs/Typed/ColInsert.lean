/-
  When the two steps of `columnsInsertExpr.bindTypes` resolve (the fold of `provStepRes` over the
  sources, `colRes` on the columns), in terms of the declarative provider rule `providers`.
-/
import SqlairProofs.Typed.Loops

namespace Sqlair

/-- `colToInput[k]` of `columnsInsertExpr.bindTypes` (nil for a missing key) -/
def provGet (prov : List (Bytes × List Loc)) (k : Bytes) : List Loc :=
  match prov.find? (·.1 == k) with
  | some p => p.2
  | none => []

/-- invariant of `colToInput`: an entry is created with one provider and only ever grows -/
def ProvNoEmpty (prov : List (Bytes × List Loc)) : Prop := ∀ p ∈ prov, p.2 ≠ []

theorem provGet_cons (p : Bytes × List Loc) (m : List (Bytes × List Loc)) (k : Bytes) :
    provGet (p :: m) k = if p.1 = k then p.2 else provGet m k := by
  unfold provGet
  rw [List.find?_cons]
  by_cases h : p.1 = k
  · rw [if_pos h, beq_iff_eq.2 h]
  · rw [if_neg h, beq_eq_false_iff_ne.2 h]

theorem provUpd_cons (g : List Loc → List Loc) (p : Bytes × List Loc) (m : List (Bytes × List Loc)) (k : Bytes) :
    provUpd g (p :: m) k =
      if p.1 = k then (k, g p.2) :: m.map (fun p => if p.1 == k then (k, g p.2) else p) else p :: provUpd g m k := by
  unfold provUpd
  rw [List.any_cons, List.map_cons]
  by_cases h : p.1 = k
  · rw [if_pos h, beq_iff_eq.2 h, Bool.true_or, if_pos rfl, if_pos rfl]
  · rw [if_neg h, beq_eq_false_iff_ne.2 h, Bool.false_or, if_neg Bool.false_ne_true]
    by_cases ha : m.any (·.1 == k) = true
    · rw [if_pos ha, if_pos ha]
    · rw [if_neg ha, if_neg ha, List.cons_append]

private theorem provGet_map_of_ne (g : List Loc → List Loc) {k k' : Bytes} (h : k' ≠ k) :
    ∀ (m : List (Bytes × List Loc)),
    provGet (m.map fun p => if p.1 == k then (k, g p.2) else p) k' = provGet m k' := by
  intro m
  induction m with
  | nil => rfl
  | cons p m ih =>
    rw [List.map_cons, provGet_cons, provGet_cons, ih]
    by_cases hp : p.1 = k
    · rw [beq_iff_eq.2 hp, if_pos rfl, if_neg (Ne.symm h), if_neg (hp ▸ Ne.symm h)]
    · rw [beq_eq_false_iff_ne.2 hp, if_neg Bool.false_ne_true]

theorem provGet_upd (g : List Loc → List Loc) (k k' : Bytes) : ∀ (m : List (Bytes × List Loc)),
    provGet (provUpd g m k) k' = if k' = k then g (provGet m k) else provGet m k' := by
  intro m
  induction m with
  | nil =>
    show provGet [(k, g [])] k' = _
    rw [provGet_cons]
    by_cases hk : k' = k
    · rw [if_pos hk, if_pos hk.symm]
      rfl
    · rw [if_neg hk, if_neg (Ne.symm hk)]
  | cons p m ih =>
    rw [provUpd_cons, provGet_cons, provGet_cons]
    by_cases hp : p.1 = k
    · rw [if_pos hp, if_pos hp, provGet_cons]
      by_cases hk : k' = k
      · rw [if_pos hk.symm, if_pos hk]
      · rw [if_neg (Ne.symm hk), if_neg hk, provGet_map_of_ne g hk, if_neg (hp ▸ Ne.symm hk)]
    · rw [if_neg hp, if_neg hp, provGet_cons, ih]
      by_cases hk : k' = k
      · rw [if_pos hk, if_pos hk, if_neg (hk ▸ hp)]
      · rw [if_neg hk, if_neg hk]

theorem provGet_assign (m : List (Bytes × List Loc)) (k : Bytes) (l : Loc) (k' : Bytes) :
    provGet (provAssign m k l) k' = if k' = k then [l] else provGet m k' :=
  provGet_upd (fun _ => [l]) k k' m

theorem provGet_append (m : List (Bytes × List Loc)) (k : Bytes) (l : Loc) (k' : Bytes) :
    provGet (provAppend m k l) k' = if k' = k then provGet m k ++ [l] else provGet m k' :=
  provGet_upd (· ++ [l]) k k' m

theorem ProvNoEmpty.assign {m : List (Bytes × List Loc)} (h : ProvNoEmpty m) (k : Bytes) (l : Loc) :
    ProvNoEmpty (provAssign m k l) :=
  provUpd_forall (I := (· ≠ [])) (g := fun _ => [l]) h (fun _ _ => List.cons_ne_nil _ _) (List.cons_ne_nil _ _) k

theorem ProvNoEmpty.append {m : List (Bytes × List Loc)} (h : ProvNoEmpty m) (k : Bytes) (l : Loc) :
    ProvNoEmpty (provAppend m k l) :=
  provUpd_forall (I := (· ≠ [])) (g := (· ++ [l])) h (fun _ _ => List.append_ne_nil_of_right_ne_nil _ (List.cons_ne_nil _ _))
    (List.cons_ne_nil _ _) k

theorem provAppend_foldl_spec : ∀ (ms : List (Loc × Bytes)) (m : List (Bytes × List Loc)),
    ProvNoEmpty m →
    ProvNoEmpty (ms.foldl (fun pr (l, tag) => provAppend pr tag l) m) ∧
    ∀ k, (provGet (ms.foldl (fun pr (l, tag) => provAppend pr tag l) m) k).length =
      (provGet m k).length + ((ms.map (·.2)).filter (· == k)).length := by
  intro ms
  induction ms with
  | nil => intro m h; exact ⟨h, by simp⟩
  | cons p rest ih =>
    intro m h
    obtain ⟨l, tag⟩ := p
    rw [List.foldl_cons]
    obtain ⟨ih1, ih2⟩ := ih (provAppend m tag l) (h.append tag l)
    refine ⟨ih1, ?_⟩
    intro k
    rw [ih2 k, provGet_append, List.map_cons, List.filter_cons]
    by_cases hk : k = tag
    · subst hk; simp; omega
    · have : (tag == k) = false := by simpa using fun h => hk h.symm
      simp [hk, this]

theorem starMaps_cons (infos : List (Bytes × ArgInfo)) (a : Acc) (rest : List Acc) :
    starMaps infos (a :: rest) =
      if a.member = star ∧ isMapInfo (lookupInfo infos a.ty) = true then a :: starMaps infos rest
      else starMaps infos rest := by
  unfold starMaps
  simp only [List.filter_cons, Bool.and_eq_true, beq_iff_eq]

theorem isMapInfo_false_of_starOK {infos : List (Bytes × ArgInfo)} {T : Bytes} (h : StarOK infos T) :
    isMapInfo (lookupInfo infos T) = false := by
  obtain ⟨tid, n, fields, tags, hl, _⟩ := h
  rw [hl]; rfl

theorem MemberOK.of_isMapInfo {infos : List (Bytes × ArgInfo)} {T : Bytes}
    (h : isMapInfo (lookupInfo infos T) = true) (k : Bytes) : MemberOK infos T k := by
  unfold MemberOK
  match lookupInfo infos T, h with
  | some (.map _ _), _ => exact ⟨_, rfl, trivial⟩

section
variable {infos : List (Bytes × ArgInfo)}

/-- The table holds `Loc`s and the declarative `providers` holds `Acc`s, so only the LENGTHS of the provider
    lists are related, to `provStep` from an arbitrary `g` (the induction over the sources needs the start
    general). -/
theorem provStepRes_spec (src : Acc) {prov : List (Bytes × List Loc)} (rem : Option Bytes) {g : Bytes → List Acc}
    (hne : ProvNoEmpty prov) (hlen : ∀ k, (provGet prov k).length = (g k).length) :
    ((∃ pr, provStepRes infos (prov, rem) src = .ok pr) ↔
      SrcOK infos src ∧ (src.member = star ∧ isMapInfo (lookupInfo infos src.ty) = true → rem = none)) ∧
    ∀ pr, provStepRes infos (prov, rem) src = .ok pr →
      ProvNoEmpty pr.1 ∧ (∀ k, (provGet pr.1 k).length = (provStep infos k (g k) src).length) ∧
      pr.2 = if src.member = star ∧ isMapInfo (lookupInfo infos src.ty) = true then some src.ty else rem := by
  have hg : src.member = star → ∀ k, (provGet prov k).length + ((starTagsOf infos src.ty).filter (· == k)).length =
      (provStep infos k (g k) src).length := fun hs k => by
    rw [provStep, if_pos hs, List.length_append, List.length_map, hlen]
  refine ⟨?_, fun pr hpr => ?_⟩
  · unfold provStepRes
    rw [SrcOK_iff]
    by_cases hs : src.member = star
    · rw [if_pos (beq_iff_eq.2 hs), if_pos hs, lookupRes]
      simp only [hs, true_and]
      cases hl : lookupInfo infos src.ty with
      | none =>
        refine iff_of_false not_error_eq_ok fun h => h.1.elim (fun h => nomatch h) ?_
        rintro ⟨_, _, _, _, h', _⟩
        rw [hl] at h'
        cases h'
      | some ai =>
        simp only [bind_ok]
        split
        · simp only [isMapInfo, true_or, true_and, forall_const]
          cases rem with
          | some m => exact iff_of_false not_error_eq_ok nofun
          | none => exact iff_of_true ⟨_, rfl⟩ rfl
        · next hnm =>
          have hm : isMapInfo (some ai) = false := by
            cases ai with
            | map tid n => exact absurd rfl (hnm tid n)
            | _ => rfl
          have hstar : starRes infos src.ty = ai.getAll := by rw [starRes, lookupRes, hl]; rfl
          rw [hm, exists_map_ok, ← hstar, starRes_exists_ok]
          simp
    · rw [if_neg (mt beq_iff_eq.1 hs), if_neg hs, exists_map_ok, memberRes_exists_ok]
      exact ⟨fun h => ⟨h, fun hM => absurd hM.1 hs⟩, And.left⟩
  · rcases provStepRes_ok hpr with ⟨hs, tid, n, hl, -, rfl⟩ | ⟨hs, ms, hms, rfl⟩ | ⟨hs, l, -, rfl⟩
    · -- an asterisk map has no tags: the table stays
      have hl := lookupRes_ok.1 hl
      have htags : starTagsOf infos src.ty = [] := by rw [starTagsOf, hl]; rfl
      exact ⟨hne, fun k => by rw [← hg hs k, htags]; rfl, (if_pos ⟨hs, by rw [hl]; rfl⟩).symm⟩
    · -- any other sample: `$T.*` appends `T` once per tag
      have hm := isMapInfo_false_of_starOK (starRes_exists_ok.1 ⟨ms, hms⟩)
      obtain ⟨hne1, hlen1⟩ := provAppend_foldl_spec ms prov hne
      exact ⟨hne1, fun k => by rw [hlen1 k, starRes_tags hms, ← hg hs k],
        (if_neg fun hM => Bool.false_ne_true (hm.symm.trans hM.2)).symm⟩
    · refine ⟨hne.assign _ _, fun k => ?_, (if_neg fun hM => hs hM.1).symm⟩
      rw [provGet_assign, provStep, if_neg hs]
      by_cases hk : k = src.member
      · rw [if_pos hk, if_pos hk.symm]
        rfl
      · rw [if_neg hk, if_neg (Ne.symm hk), hlen]

/-- one more asterisk map is allowed iff none is remembered yet -/
theorem starMap_count {M : Prop} [Decidable M] (a : Acc) (l : List Acc) (rem : Option Bytes) :
    (if M then a :: l else l).length + rem.toList.length ≤ 1 ↔
      (M → rem = none) ∧ l.length + (if M then some a.ty else rem).toList.length ≤ 1 := by
  by_cases hM : M <;> cases rem <;> simp [hM]

/-- Step 1 of `columnsInsertExpr.bindTypes`, the loop over the sources: `remainingMap` is the first of
    `starMaps`, and there is at most one. -/
theorem provFold_spec : ∀ (srcs : List Acc) (prov : List (Bytes × List Loc)) (rem : Option Bytes)
    (g : Bytes → List Acc), ProvNoEmpty prov → (∀ k, (provGet prov k).length = (g k).length) →
    ((∃ pr, srcs.foldlM (provStepRes infos) (prov, rem) = .ok pr) ↔
      (∀ a ∈ srcs, SrcOK infos a) ∧ (starMaps infos srcs).length + rem.toList.length ≤ 1) ∧
    ∀ pr, srcs.foldlM (provStepRes infos) (prov, rem) = .ok pr →
      ProvNoEmpty pr.1 ∧ (∀ k, (provGet pr.1 k).length = (srcs.foldl (provStep infos k) (g k)).length) ∧
      pr.2 = rem.or ((starMaps infos srcs).head?.map (·.ty))
  | [], prov, rem, g, hne, hlen =>
    ⟨iff_of_true ⟨_, rfl⟩ ⟨nofun, match rem with | none => Nat.zero_le 1 | some _ => Nat.le_refl 1⟩,
      fun pr h => by cases h; exact ⟨hne, hlen, Option.or_none.symm⟩⟩
  | src :: rest, prov, rem, g, hne, hlen => by
    obtain ⟨s1, s2⟩ := provStepRes_spec (infos := infos) src rem hne hlen
    rw [foldlM_cons_bind, starMaps_cons]
    simp only [List.foldl_cons, List.forall_mem_cons]
    cases hstep : provStepRes infos (prov, rem) src with
    | error e =>
      exact ⟨iff_of_false not_error_eq_ok fun h => not_error_eq_ok (hstep ▸ s1.2 ⟨h.1.1, ((starMap_count ..).1 h.2).1⟩),
        fun _ h => nomatch h⟩
    | ok pr1 =>
      obtain ⟨hne1, hlen1, hrem1⟩ := s2 pr1 hstep
      obtain ⟨i1, i2⟩ := provFold_spec rest pr1.1 pr1.2 (fun k => provStep infos k (g k) src) hne1 hlen1
      have hok := s1.1 ⟨pr1, hstep⟩
      rw [bind_ok]
      refine ⟨?_, fun pr h => ?_⟩
      · rw [show pr1 = (pr1.1, pr1.2) from rfl, i1, hrem1, starMap_count, and_assoc, and_iff_right hok.1,
          and_left_comm, and_iff_right hok.2]
      obtain ⟨j1, j2, j3⟩ := i2 pr h
      refine ⟨j1, j2, ?_⟩
      rw [j3, hrem1]
      by_cases hM : src.member = star ∧ isMapInfo (lookupInfo infos src.ty) = true
      · rw [if_pos hM, if_pos hM, hok.2 hM]; rfl
      · rw [if_neg hM, if_neg hM]

theorem starMaps_head {srcs : List Acc} {m : Bytes}
    (h : (starMaps infos srcs).head?.map (·.ty) = some m) : isMapInfo (lookupInfo infos m) = true := by
  obtain ⟨a, ha, rfl⟩ := Option.map_eq_some_iff.1 h
  exact (Bool.and_eq_true_iff.1 (List.mem_filter.1 (List.mem_of_mem_head? ha)).2).2

/-- Step 2 of `columnsInsertExpr.bindTypes`, for one column. -/
theorem colRes_resolves {prov : List (Bytes × List Loc)} {rem : Option Bytes} (hne : ProvNoEmpty prov)
    (hrem : ∀ m, rem = some m → isMapInfo (lookupInfo infos m) = true) (c : Col) :
    Resolves (colRes infos prov rem c)
      ((provGet prov c.str).length = 1 ∨ (provGet prov c.str = [] ∧ rem ≠ none)) [] := by
  unfold colRes provGet
  cases hf : prov.find? (·.1 == c.str) with
  | some p =>
    obtain ⟨k, ls⟩ := p
    match ls, hne _ (List.mem_of_find?_eq_some hf) with
    | [], h => exact absurd rfl h
    | [l], _ => exact (Resolves.ok _).congr (iff_of_true (Or.inl rfl) trivial)
    | _ :: _ :: _, _ =>
      exact (Resolves.error _).congr (iff_of_false (fun h => h.elim (fun h => nomatch h) (fun h => nomatch h.1)) id)
  | none =>
    cases rem with
    | none => exact (Resolves.error _).congr (iff_of_false (fun h => h.elim (fun h => nomatch h) (fun h => h.2 rfl)) id)
    | some m =>
      exact member_resolves_nil.congr (iff_of_true (Or.inr ⟨rfl, nofun⟩) (.of_isMapInfo (hrem m rfl) _))

theorem colInsert_resolves (srcs : List Acc) (cols : List Col) :
    Resolves ((srcs.foldlM (provStepRes infos) ([], none)).bind fun pr =>
        (cols.mapM (colRes infos pr.1 pr.2)).map insertOf)
      ((∀ a ∈ srcs, SrcOK infos a) ∧ (starMaps infos srcs).length ≤ 1 ∧
        ∀ c ∈ cols, (providers infos srcs c.str).length = 1 ∨
          (providers infos srcs c.str = [] ∧ starMaps infos srcs ≠ [])) [] := by
  obtain ⟨h1, h2⟩ := provFold_spec (infos := infos) srcs [] none (fun _ => []) nofun (fun _ => rfl)
  rw [Option.toList_none, List.length_nil, Nat.add_zero] at h1
  cases hp : srcs.foldlM (provStepRes infos) ([], none) with
  | error e => exact (Resolves.error _).congr (iff_of_false (fun h => not_error_eq_ok (hp ▸ h1.2 ⟨h.1, h.2.1⟩)) id)
  | ok pr =>
    obtain ⟨hne, hlen, hrem⟩ := h2 pr hp
    rw [Option.none_or] at hrem
    have hlen' : ∀ k, (provGet pr.1 k).length = (providers infos srcs k).length := hlen
    have hnil : ∀ k, provGet pr.1 k = [] ↔ providers infos srcs k = [] := fun k => by
      rw [← List.length_eq_zero_iff, ← List.length_eq_zero_iff, hlen']
    have hsome : pr.2 ≠ none ↔ starMaps infos srcs ≠ [] := by
      rw [hrem]
      cases starMaps infos srcs <;> simp
    refine (Resolves.mapM_nil (fun _ => rfl) fun c _ =>
      colRes_resolves hne (fun m hm => starMaps_head (hrem ▸ hm)) c).congr ?_
    rw [← and_assoc, and_iff_right (h1.1 ⟨pr, hp⟩)]
    simp only [hlen', hnil, hsome]

end

end Sqlair
