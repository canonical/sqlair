/-
  A declarative characterisation of "the struct type `T` is structurally valid"
  (`getStructFields` succeeds): every tagged field, of `T` and of every struct embedded in it
  (transitively), is exported and its tag parses, and there is no embedding cycle.
-/
import SqlairProofs.Bind.Defs

namespace Sqlair

/-- as in `getStructFields` (arginfo.go): an embedded field is followed through at most one pointer -/
def embTarget (tt : TypeTable) (f : FieldDesc) : Nat :=
  if (tt.get f.ty).kind == .ptr then (tt.get f.ty).elem else f.ty

/-- the fields `getStructFields` (arginfo.go) descends into -/
def FieldDesc.Embedding (tt : TypeTable) (f : FieldDesc) : Prop :=
  f.anon = true ∧ f.tag.size = 0 ∧ f.exported = true ∧ (tt.get (embTarget tt f)).kind = .struct

def Embeds (tt : TypeTable) (t u : Nat) : Prop :=
  ∃ f ∈ (tt.get t).fields, f.Embedding tt ∧ embTarget tt f = u

def TaggedFieldsOK (C : Cls) (tt : TypeTable) (t : Nat) : Prop :=
  ∀ f ∈ (tt.get t).fields, f.tag.size ≠ 0 → f.exported = true ∧ ∃ r, parseTag C f.tag = .ok r

inductive EmbPath (tt : TypeTable) : Nat → List Nat → Prop
  | nil (t : Nat) : EmbPath tt t []
  | cons {t u : Nat} {p : List Nat} : Embeds tt t u → EmbPath tt u p → EmbPath tt t (u :: p)

def StructOK (C : Cls) (tt : TypeTable) (tid : Nat) : Prop :=
  ∀ p, EmbPath tt tid p → (tid :: p).Nodup ∧ ∀ u ∈ tid :: p, TaggedFieldsOK C tt u

theorem lt_size_of_embeds {tt : TypeTable} {t u : Nat} (h : Embeds tt t u) : t < tt.size := by
  obtain ⟨f, hf, _⟩ := h
  refine Nat.lt_of_not_le fun hn => ?_
  rw [TypeTable.get_of_size_le hn] at hf
  exact List.not_mem_nil hf

section
variable {C : Cls} {tt : TypeTable} {recur : Nat → Except String (List SField)} {f : FieldDesc}

instance (tt : TypeTable) (f : FieldDesc) : Decidable (f.Embedding tt) := by
  unfold FieldDesc.Embedding; infer_instance

theorem fieldsLoop_cons (rest : List FieldDesc) (i : Nat) (acc : List SField) :
    fieldsLoop C tt recur (f :: rest) i acc =
      if f.tag.size = 0 then
        if f.Embedding tt then
          (recur (embTarget tt f)).bind fun nested =>
            fieldsLoop C tt recur rest (i+1) (acc ++ nested.map (fun nf => { nf with index := i :: nf.index }))
        else fieldsLoop C tt recur rest (i+1) acc
      else if !f.exported then .error "field-not-exported" else
        (parseTag C f.tag).bind fun r =>
          fieldsLoop C tt recur rest (i+1) (acc ++ [{ name := f.name, tag := r.1, omitEmpty := r.2, index := [i] }]) := by
  by_cases htag : f.tag.size = 0
  · rw [if_pos htag]
    by_cases hemb : f.Embedding tt
    · rw [if_pos hemb]
      obtain ⟨h1, h2, h3, h4⟩ := hemb
      unfold embTarget
      rw [fieldsLoop, h1, h2, h3]
      refine (if_pos rfl).trans ((if_neg Bool.false_ne_true).trans ((if_neg fun hb => bne_iff_ne.1 hb h4).trans ?_))
      cases recur (if (tt.get f.ty).kind == .ptr then (tt.get f.ty).elem else f.ty) with
      | error e => rfl
      | ok nested => rfl
    · rw [if_neg hemb, fieldsLoop, htag]
      cases ha : f.anon
      · rfl
      · cases he : f.exported
        · rfl
        · exact (if_pos rfl).trans ((if_neg Bool.false_ne_true).trans
            (if_pos (bne_iff_ne.2 fun hk => hemb ⟨ha, htag, he, hk⟩)))
  · have hb : (f.tag.size == 0) = false := beq_eq_false_iff_ne.2 htag
    rw [if_neg htag, fieldsLoop, hb, Bool.and_false, if_neg Bool.false_ne_true, if_neg Bool.false_ne_true]
    cases parseTag C f.tag with
    | error e => rfl
    | ok r => rfl

theorem fieldsLoop_ok_iff :
    ∀ (fds : List FieldDesc) (i : Nat) (acc : List SField),
    (∃ res, fieldsLoop C tt recur fds i acc = .ok res) ↔
      ∀ f ∈ fds, (f.tag.size ≠ 0 → f.exported = true ∧ ∃ r, parseTag C f.tag = .ok r) ∧
        (f.Embedding tt → ∃ fs, recur (embTarget tt f) = .ok fs) := by
  intro fds
  induction fds with
  | nil => intro i acc; exact ⟨fun _ => List.forall_mem_nil _, fun _ => ⟨acc, rfl⟩⟩
  | cons f rest ih =>
    intro i acc
    rw [List.forall_mem_cons]
    by_cases htag : f.tag.size = 0
    · by_cases hemb : f.Embedding tt
      · rw [fieldsLoop_cons, if_pos htag, if_pos hemb]
        cases hrec : recur (embTarget tt f) with
        | error e => exact iff_of_false not_error_eq_ok fun h => not_error_eq_ok (h.1.2 hemb)
        | ok nested => exact (ih _ _).trans (and_iff_right ⟨fun h => absurd htag h, fun _ => ⟨_, rfl⟩⟩).symm
      · rw [fieldsLoop_cons, if_pos htag, if_neg hemb]
        exact (ih _ _).trans (and_iff_right ⟨fun h => absurd htag h, fun h => absurd h hemb⟩).symm
    · have hemb : ¬ f.Embedding tt := fun h => htag h.2.1
      rw [fieldsLoop_cons, if_neg htag]
      cases hexp : f.exported with
      | false => exact iff_of_false not_error_eq_ok fun h => Bool.false_ne_true (h.1.1 htag).1
      | true =>
        cases hp : parseTag C f.tag with
        | error e => exact iff_of_false not_error_eq_ok fun h => not_error_eq_ok (h.1.1 htag).2
        | ok r => exact (ih _ _).trans (and_iff_right ⟨fun _ => ⟨rfl, r, rfl⟩, fun h => absurd h hemb⟩).symm

theorem getStructFields_ok_iff_step (fuel : Nat) (visiting : List Nat) (tid : Nat) :
    (∃ fs, getStructFields C tt (fuel + 1) visiting tid = .ok fs) ↔
      tid ∉ visiting ∧ TaggedFieldsOK C tt tid ∧
        ∀ u, Embeds tt tid u → ∃ fs, getStructFields C tt fuel (tid :: visiting) u = .ok fs := by
  rw [getStructFields]
  by_cases hv : tid ∈ visiting
  · rw [if_pos (List.contains_iff_mem.2 hv)]
    exact iff_of_false not_error_eq_ok fun h => h.1 hv
  · rw [if_neg (mt List.contains_iff_mem.1 hv), fieldsLoop_ok_iff]
    exact ⟨fun h => ⟨hv, fun f hf => (h f hf).1, fun u hu => hu.elim fun f hf => hf.2.2 ▸ (h f hf.1).2 hf.2.1⟩,
      fun h f hf => ⟨h.2.1 f hf, fun hemb => h.2.2 _ ⟨f, hf, hemb, rfl⟩⟩⟩

/-- The form that goes through by induction on the fuel.  `visiting` is the path walked so far, so the
    invariant is that the rest of the path followed by `visiting` repeats nothing; `tt.size + 1 ≤
    visiting.length + fuel` says that there is fuel left to visit every other type (so that running out of fuel
    is impossible: `visiting` would hold more ids than the table has). -/
theorem getStructFields_ok_iff : ∀ (fuel : Nat) (visiting : List Nat) (tid : Nat),
    visiting.Nodup → (∀ v ∈ visiting, v < tt.size) → tt.size + 1 ≤ visiting.length + fuel →
    ((∃ fs, getStructFields C tt fuel visiting tid = .ok fs) ↔
      ∀ p, EmbPath tt tid p → (tid :: p ++ visiting).Nodup ∧ ∀ u ∈ tid :: p, TaggedFieldsOK C tt u) := by
  intro fuel
  induction fuel with
  | zero =>
    intro visiting tid hn hlt hlen
    have : visiting.length ≤ (List.range tt.size).length :=
      hn.length_le_of_subset (fun v hv => List.mem_range.2 (hlt v hv))
    rw [List.length_range] at this
    exact absurd (Nat.le_trans hlen this) (Nat.not_succ_le_self _)
  | succ fuel ih =>
    intro visiting tid hn hlt hlen
    have ih' := fun hv u (he : Embeds tt tid u) => ih (tid :: visiting) u (List.nodup_cons.2 ⟨hv, hn⟩)
      (List.forall_mem_cons.2 ⟨lt_size_of_embeds he, hlt⟩)
      (by rw [List.length_cons, Nat.add_right_comm]; exact hlen)
    rw [getStructFields_ok_iff_step]
    constructor
    · rintro ⟨h1, h2, h3⟩ p hp
      cases hp with
      | nil => exact ⟨List.nodup_cons.2 ⟨h1, hn⟩, List.forall_mem_singleton.2 h2⟩
      | @cons _ u p' he hp' =>
        obtain ⟨i1, i2⟩ := (ih' h1 u he).1 (h3 u he) p' hp'
        exact ⟨List.perm_middle.nodup_iff.1 i1, List.forall_mem_cons.2 ⟨h2, i2⟩⟩
    · intro H
      obtain ⟨h1, h2⟩ := H [] (.nil tid)
      have hv := (List.nodup_cons.1 h1).1
      refine ⟨hv, h2 tid List.mem_cons_self, fun u he => (ih' hv u he).2 fun p' hp' => ?_⟩
      obtain ⟨g1, g2⟩ := H (u :: p') (.cons he hp')
      exact ⟨List.perm_middle.nodup_iff.2 g1, fun w hw => g2 w (List.mem_cons_of_mem _ hw)⟩

end

end Sqlair
