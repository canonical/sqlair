/-
  A relation that holds of the fields `getStructFields` computes, without fuel, `visiting`, accumulator or
  error: a successful `getStructFields` satisfies it (the converse is not proved), and facts about the
  computed fields are inductions over it.
-/
import SqlairProofs.Typed.Struct

namespace Sqlair

variable {C : Cls} {tt : TypeTable}

/-- the field descriptors `fds`, standing at positions `i, i+1, …` of their struct type, yield the members
    `fs` (in order, embedded structs flattened, index paths relative to that struct type); one rule per branch
    of `fieldsLoop_cons` -/
inductive FieldsFrom (C : Cls) (tt : TypeTable) : List FieldDesc → Nat → List SField → Prop
  | nil (i : Nat) : FieldsFrom C tt [] i []
  | tagged {fd : FieldDesc} {rest : List FieldDesc} {i : Nat} {r : Bytes × Bool} {fs : List SField} :
      fd.tag.size ≠ 0 → fd.exported = true → parseTag C fd.tag = .ok r → FieldsFrom C tt rest (i + 1) fs →
      FieldsFrom C tt (fd :: rest) i ({ name := fd.name, tag := r.1, omitEmpty := r.2, index := [i] } :: fs)
  | skip {fd : FieldDesc} {rest : List FieldDesc} {i : Nat} {fs : List SField} :
      fd.tag.size = 0 → ¬ fd.Embedding tt → FieldsFrom C tt rest (i + 1) fs → FieldsFrom C tt (fd :: rest) i fs
  | emb {fd : FieldDesc} {rest : List FieldDesc} {i : Nat} {nested fs : List SField} :
      fd.Embedding tt → FieldsFrom C tt (tt.get (embTarget tt fd)).fields 0 nested →
      FieldsFrom C tt rest (i + 1) fs →
      FieldsFrom C tt (fd :: rest) i (nested.map (fun nf => { nf with index := i :: nf.index }) ++ fs)

abbrev StructFields (C : Cls) (tt : TypeTable) (tid : Nat) (fs : List SField) : Prop :=
  FieldsFrom C tt (tt.get tid).fields 0 fs

theorem fieldsLoop_fieldsFrom {recur : Nat → Except String (List SField)}
    (hrec : ∀ stid nested, recur stid = .ok nested → StructFields C tt stid nested) :
    ∀ (fds : List FieldDesc) (i : Nat) (acc res : List SField),
      fieldsLoop C tt recur fds i acc = .ok res → ∃ new, res = acc ++ new ∧ FieldsFrom C tt fds i new
  | [], i, acc, res, h => ⟨[], by cases h; rw [List.append_nil], .nil i⟩
  | fd :: rest, i, acc, res, h => by
    rw [fieldsLoop_cons] at h
    have ih := fun acc' h' => fieldsLoop_fieldsFrom hrec rest (i + 1) acc' res h'
    rcases of_ite_eq h with ⟨htag, h⟩ | ⟨htag, h⟩
    · rcases of_ite_eq h with ⟨hemb, h⟩ | ⟨hemb, h⟩
      · obtain ⟨nested, hr, h⟩ := bind_ok_inv h
        obtain ⟨new, rfl, hn⟩ := ih _ h
        exact ⟨_, List.append_assoc .., .emb hemb (hrec _ _ hr) hn⟩
      · obtain ⟨new, rfl, hn⟩ := ih _ h
        exact ⟨new, rfl, .skip htag hemb hn⟩
    · rcases of_ite_eq h with ⟨_, h⟩ | ⟨hexp, h⟩
      · cases h
      obtain ⟨r, hp, h⟩ := bind_ok_inv h
      obtain ⟨new, rfl, hn⟩ := ih _ h
      exact ⟨_, List.append_assoc .., .tagged htag (by simpa using hexp) hp hn⟩

theorem getStructFields_fieldsFrom : ∀ (fuel : Nat) (visiting : List Nat) (tid : Nat) (fs : List SField),
    getStructFields C tt fuel visiting tid = .ok fs → StructFields C tt tid fs
  | 0, _, _, _, h => nomatch h
  | fuel + 1, visiting, tid, fs, h => by
    rw [getStructFields] at h
    split at h
    · cases h
    · obtain ⟨new, rfl, hn⟩ := fieldsLoop_fieldsFrom (fun _ _ => getStructFields_fieldsFrom fuel _ _ _) _ _ _ _ h
      exact hn

/-- `Q sid f`: `sid` is the struct type the index path of `f` starts from -/
theorem FieldsFrom.mem_induct {Q : Nat → SField → Prop}
    (tagged : ∀ sid i fd r, (tt.get sid).fields[i]? = some fd → parseTag C fd.tag = .ok r →
      Q sid { name := fd.name, tag := r.1, omitEmpty := r.2, index := [i] })
    (emb : ∀ sid i fd nf, (tt.get sid).fields[i]? = some fd → fd.Embedding tt → Q (embTarget tt fd) nf →
      Q sid { nf with index := i :: nf.index })
    {fds : List FieldDesc} {i : Nat} {fs : List SField} (h : FieldsFrom C tt fds i fs) :
    ∀ sid, (∀ k fd, fds[k]? = some fd → (tt.get sid).fields[i + k]? = some fd) → ∀ f ∈ fs, Q sid f := by
  have shift : ∀ {fd : FieldDesc} {rest : List FieldDesc} {i sid : Nat},
      (∀ k fd', (fd :: rest)[k]? = some fd' → (tt.get sid).fields[i + k]? = some fd') →
      ∀ k fd', rest[k]? = some fd' → (tt.get sid).fields[i + 1 + k]? = some fd' :=
    fun hpos k fd' hk => by rw [Nat.add_right_comm, Nat.add_assoc]; exact hpos (k + 1) fd' hk
  induction h with
  | nil => exact fun _ _ _ h => nomatch h
  | tagged _ _ hp _ ih =>
    exact fun sid hpos => List.forall_mem_cons.2 ⟨tagged sid _ _ _ (hpos 0 _ rfl) hp, ih sid (shift hpos)⟩
  | skip _ _ _ ih => exact fun sid hpos => ih sid (shift hpos)
  | emb hemb _ _ ihn ih =>
    exact fun sid hpos => List.forall_mem_append.2 ⟨List.forall_mem_map.2 fun nf hnf =>
      emb sid _ _ nf (hpos 0 _ rfl) hemb (ihn _ (fun k fd hk => by rwa [Nat.zero_add]) nf hnf), ih sid (shift hpos)⟩

theorem getStructFields_mem_induct {Q : Nat → SField → Prop}
    (tagged : ∀ sid i fd r, (tt.get sid).fields[i]? = some fd → parseTag C fd.tag = .ok r →
      Q sid { name := fd.name, tag := r.1, omitEmpty := r.2, index := [i] })
    (emb : ∀ sid i fd nf, (tt.get sid).fields[i]? = some fd → fd.Embedding tt → Q (embTarget tt fd) nf →
      Q sid { nf with index := i :: nf.index })
    {fuel : Nat} {visiting : List Nat} {tid : Nat} {fs : List SField}
    (h : getStructFields C tt fuel visiting tid = .ok fs) : ∀ f ∈ fs, Q tid f :=
  (getStructFields_fieldsFrom _ _ _ _ h).mem_induct tagged emb tid fun k fd hk => by rwa [Nat.zero_add]

end Sqlair
