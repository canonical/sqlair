/-
  A declarative (relational) semantics `Located` of the value locators (`LocateParams` of
  typeinfo/valuelocator.go) against the validated arguments, and its equivalence with `locateParams` (C08).
-/
import SqlairModel.Bind

namespace Sqlair

theorem indirect_cases (v : GoVal) : (∃ h p, v = .ptr h (some p) ∧ indirect v = p) ∨ indirect v = v := by
  unfold indirect
  split
  · exact .inl ⟨_, _, rfl, rfl⟩
  · exact .inr rfl

theorem slice_arg_of_indirect {arg : GoVal} {hd' : VH} {els : List GoVal} (hind : indirect arg = .slice hd' els) :
    (∃ hd, arg = .ptr hd (some (.slice hd' els))) ∨ arg = .slice hd' els := by
  rcases indirect_cases arg with ⟨hd, p, rfl, hp⟩ | hp
  · exact .inl ⟨hd, by rw [← hind, hp]⟩
  · exact .inr (hp.symm.trans hind)

theorem bulkElem_cases (e : GoVal) :
    (∃ h, e = .ptr h none ∧ bulkElem e = .error "nil-pointer-in-slice") ∨ bulkElem e = .ok (indirect e) := by
  unfold bulkElem indirect
  split
  · exact .inl ⟨_, rfl, rfl⟩
  · exact .inr rfl
  · rename_i h1 h2
    right; split
    · exact absurd rfl (h2 _ _)
    · rfl

theorem bulkElem_ok_iff {e s : GoVal} : bulkElem e = .ok s ↔ s = indirect e ∧ ∀ hd, e ≠ .ptr hd none := by
  rcases bulkElem_cases e with ⟨hd, rfl, he⟩ | he
  · exact iff_of_false (fun h => nomatch he.symm.trans h) fun h => h.2 hd rfl
  · rw [he]
    exact ⟨fun h => ⟨(Except.ok.inj h).symm, fun hd hh => by subst hh; cases he⟩, fun h => by rw [h.1]⟩

def mapElemVal (key : Bytes) (e : GoVal) : Option GoVal :=
  match bulkElem e with
  | .ok (.map _ kv) => mapIndex kv key
  | _ => none

def fieldElemVal (f : SField) (e : GoVal) : Option GoVal :=
  match bulkElem e with
  | .ok s =>
    match fieldByIndex s f.index true with
    | .ok v => some v
    | .error _ => none
  | .error _ => none

/-! The next three are total through `getD default`: for an element that HAS no value they answer `""` /
    `false`; every statement that uses them carries the `isSome` premise beside. -/

def mapElemR (key : Bytes) (e : GoVal) : String := ((mapElemVal key e).getD default).h.r
def fieldElemR (f : SField) (e : GoVal) : String := ((fieldElemVal f e).getD default).h.r
def fieldElemZero (f : SField) (e : GoVal) : Bool := ((fieldElemVal f e).getD default).h.zero

theorem fieldElemVal_eq_some_iff {f : SField} {e v : GoVal} :
    fieldElemVal f e = some v ↔ ∃ s, bulkElem e = .ok s ∧ fieldByIndex s f.index true = .ok v := by
  unfold fieldElemVal
  cases hb : bulkElem e with
  | error x => exact iff_of_false nofun fun ⟨_, h, _⟩ => nomatch h
  | ok s =>
    dsimp only
    cases hv : fieldByIndex s f.index true with
    | error x => exact iff_of_false nofun fun ⟨_, h, h'⟩ => by cases h; rw [hv] at h'; cases h'
    | ok w =>
      exact ⟨fun h => ⟨s, rfl, by cases h; exact hv⟩, fun ⟨_, h, h'⟩ => by cases h; rw [hv] at h'; cases h'; rfl⟩

theorem mapElemVal_eq_some_iff {k : Bytes} {e v : GoVal} :
    mapElemVal k e = some v ↔ ∃ hd kv, bulkElem e = .ok (.map hd kv) ∧ mapIndex kv k = some v := by
  unfold mapElemVal
  split
  · next hd kv h => exact ⟨fun hv => ⟨hd, kv, h, hv⟩, fun ⟨_, _, h', hv⟩ => by cases h.symm.trans h'; exact hv⟩
  · next hn => exact iff_of_false nofun fun ⟨hd, kv, h', _⟩ => hn hd kv h'

theorem fieldElemR_of_some {f : SField} {e v : GoVal} (h : fieldElemVal f e = some v) : fieldElemR f e = v.h.r := by
  rw [fieldElemR, h]; rfl

theorem fieldElemZero_of_some {f : SField} {e v : GoVal} (h : fieldElemVal f e = some v) :
    fieldElemZero f e = v.h.zero := by
  rw [fieldElemZero, h]; rfl

theorem mapElemR_of_some {k : Bytes} {e v : GoVal} (h : mapElemVal k e = some v) : mapElemR k e = v.h.r := by
  rw [mapElemR, h]; rfl

theorem bulkMapVals_cons_ok_iff {key : Bytes} {e : GoVal} {rest : List GoVal} {acc vals : List String} :
    bulkMapVals key (e :: rest) acc = .ok vals ↔
      ∃ v, mapElemVal key e = some v ∧ bulkMapVals key rest (acc ++ [v.h.r]) = .ok vals := by
  rw [bulkMapVals, mapElemVal]
  split
  · next h => simp [h]
  · next h => simp [h, mapIndex]
  · next h =>
    split
    · next hk => simp [h, hk]
    · next hk => simp [h, hk]
  · next hn h =>
    rw [h]
    split
    · next h' => cases h'; exact absurd rfl (hn _ _)
    · simp

theorem bulkMapVals_ok_iff (key : Bytes) : ∀ (els : List GoVal) (acc vals : List String),
    bulkMapVals key els acc = .ok vals ↔
      (∀ e ∈ els, (mapElemVal key e).isSome = true) ∧ vals = acc ++ els.map (mapElemR key) := by
  intro els
  induction els with
  | nil =>
    intro acc vals
    simp only [bulkMapVals, Except.ok.injEq, List.not_mem_nil, false_imp_iff, implies_true, true_and,
      List.map_nil, List.append_nil]
    exact eq_comm
  | cons e rest ih =>
    intro acc vals
    rw [bulkMapVals_cons_ok_iff]
    simp only [ih, List.forall_mem_cons, List.map_cons, mapElemR, List.append_assoc, List.singleton_append]
    cases h : mapElemVal key e with
    | none => simp
    | some v => simp only [Option.some.injEq, exists_eq_left', Option.isSome_some, true_and, Option.getD_some]

/-- One row, for any `first`/`om`, the three tests of the model merged into one.  Go: `if i == 0 &&
    val.IsZero() { omit = true } else if val.IsZero() != omit` an error; both branches say that the zero-ness
    of the row equals the flag carried on, `om || omitEmpty && first && zero`. -/
theorem bulkFieldVals_cons (f : SField) (e : GoVal) (rest : List GoVal) (first om : Bool)
    (acc : List String) :
    bulkFieldVals f (e :: rest) first om acc =
      match bulkElem e with
      | .error x => .error x
      | .ok s =>
        match fieldByIndex s f.index true with
        | .error x => .error x
        | .ok v =>
          if f.omitEmpty && (v.h.zero != (om || f.omitEmpty && first && v.h.zero)) then .error "omitempty-mix"
          else bulkFieldVals f rest false (om || f.omitEmpty && first && v.h.zero) (acc ++ [v.h.r]) := by
  rw [bulkFieldVals]
  cases bulkElem e with
  | error x => rfl
  | ok s =>
    dsimp only
    cases fieldByIndex s f.index true with
    | error x => rfl
    | ok v =>
      dsimp only
      cases f.omitEmpty <;> cases first <;> cases v.h.zero <;> cases om <;> rfl

theorem bulkFieldVals_cons_ok_iff {f : SField} {e : GoVal} {rest : List GoVal} {first om : Bool}
    {acc : List String} {r : List String × Bool} :
    bulkFieldVals f (e :: rest) first om acc = .ok r ↔
      ∃ v, fieldElemVal f e = some v ∧
        (f.omitEmpty = true → v.h.zero = (om || f.omitEmpty && first && v.h.zero)) ∧
        bulkFieldVals f rest false (om || f.omitEmpty && first && v.h.zero) (acc ++ [v.h.r]) = .ok r := by
  rw [bulkFieldVals_cons, fieldElemVal]
  cases bulkElem e with
  | error x => simp
  | ok s =>
    dsimp only
    cases fieldByIndex s f.index true with
    | error x => simp
    | ok v =>
      simp only [Option.some.injEq, exists_eq_left']
      split
      · next hc =>
        simp at hc
        exact iff_of_false nofun fun h => hc.2 (h.1 hc.1)
      · next hc =>
        simp at hc
        exact (and_iff_right hc).symm

/-- `om'` is decided by row 0 alone (when `first`); every later row must then agree with it. -/
theorem bulkFieldVals_ok_iff (f : SField) : ∀ (els : List GoVal) (first om : Bool) (acc vals : List String) (om' : Bool),
    bulkFieldVals f els first om acc = .ok (vals, om') ↔
      (∀ e ∈ els, (fieldElemVal f e).isSome = true) ∧
      (f.omitEmpty = true → ∀ e ∈ els, fieldElemZero f e = om') ∧
      om' = (om || f.omitEmpty && first && !els.isEmpty && fieldElemZero f (els.headD default)) ∧
      vals = acc ++ els.map (fieldElemR f) := by
  intro els
  induction els with
  | nil =>
    intro first om acc vals om'
    simp [bulkFieldVals, and_comm, eq_comm (a := acc), eq_comm (a := om)]
  | cons e rest ih =>
    intro first om acc vals om'
    rw [bulkFieldVals_cons_ok_iff]
    simp only [ih, List.forall_mem_cons, List.map_cons, fieldElemZero, fieldElemR, List.headD_cons,
      List.isEmpty_cons, Bool.not_false, Bool.and_true, Bool.false_and, Bool.and_false, Bool.or_false,
      List.append_assoc, List.singleton_append]
    cases h : fieldElemVal f e with
    | none => simp
    | some v =>
      simp only [Option.some.injEq, exists_eq_left', Option.isSome_some, true_and, Option.getD_some]
      -- the check of this row joins those of the remaining rows under the omitempty hypothesis
      exact and_left_comm.trans (and_congr_right' (and_assoc.symm.trans (and_congr_left fun h =>
        forall_and.symm.trans (imp_congr_right fun _ => and_congr_left' (by rw [h.1])))))

theorem bulkFieldVals_first_ok_iff {f : SField} {els : List GoVal} {vals : List String} {om' : Bool}
    (hne : els ≠ []) :
    bulkFieldVals f els true false [] = .ok (vals, om') ↔
      (∀ e ∈ els, (fieldElemVal f e).isSome = true) ∧
      (f.omitEmpty = true → ∀ e ∈ els, fieldElemZero f e = fieldElemZero f (els.headD default)) ∧
      om' = (f.omitEmpty && fieldElemZero f (els.headD default)) ∧ vals = els.map (fieldElemR f) := by
  rw [bulkFieldVals_ok_iff]
  simp only [List.isEmpty_eq_false_iff.2 hne, Bool.false_or, Bool.and_true, Bool.not_false, List.nil_append]
  exact and_congr_right' (and_congr_left fun h => imp_congr_right fun ho => by rw [h.1, ho, Bool.true_and])

/-- `Located tt m l p`: against the validated arguments `m` (type id ↦ value), the locator `l`
    finds the parameters `p`.
    * a slice locator needs an argument of its (named slice) type, and yields its elements;
    * a map-key / field locator needs an argument of its type (passed as `T` or `*T`;
      `validateInputs` has dereferenced it) holding the key / a value at the field path;
    * or, when there is no such argument, a BULK argument (`[]T`, else `[]*T`) that is
      non-empty and all of whose elements hold the key / a value at the field path; for an
      omitempty field the rows must be all zero or all non-zero. -/
inductive Located (tt : TypeTable) (m : TypeToValue) : Loc → Params → Prop
  | slice {tid : Nat} {n : Bytes} {h : VH} {els : List GoVal}
      (hg : ttvGet m tid = some (.slice h els)) :
      Located tt m (.slice tid n) { vals := els.map (·.h.r), om := false, bulk := false, argType := tid }
  | mapKey {tid : Nat} {n key : Bytes} {h : VH} {kv : Option (List (Bytes × GoVal))} {v : GoVal}
      (hg : ttvGet m tid = some (.map h kv)) (hk : mapIndex kv key = some v) :
      Located tt m (.mapKey tid n key) { vals := [v.h.r], om := false, bulk := false, argType := tid }
  | mapKeyBulk {tid : Nat} {n key : Bytes} {h : VH} {els : List GoVal}
      (hg : ttvGet m tid = none) (hb : locateBulk tt m tid = some (.slice h els)) (hne : els ≠ [])
      (hall : ∀ e ∈ els, (mapElemVal key e).isSome = true) :
      Located tt m (.mapKey tid n key)
        { vals := els.map (mapElemR key), om := false, bulk := true, argType := h.t }
  | field {tid : Nat} {n : Bytes} {f : SField} {s v : GoVal}
      (hg : ttvGet m tid = some s) (hv : fieldByIndex s f.index true = .ok v) :
      Located tt m (.field tid n f)
        { vals := [v.h.r], om := v.h.zero && f.omitEmpty, bulk := false, argType := tid }
  | fieldBulk {tid : Nat} {n : Bytes} {f : SField} {h : VH} {els : List GoVal}
      (hg : ttvGet m tid = none) (hb : locateBulk tt m tid = some (.slice h els)) (hne : els ≠ [])
      (hall : ∀ e ∈ els, (fieldElemVal f e).isSome = true)
      (hom : f.omitEmpty = true → ∀ e ∈ els, fieldElemZero f e = fieldElemZero f (els.headD default)) :
      Located tt m (.field tid n f)
        { vals := els.map (fieldElemR f), om := f.omitEmpty && fieldElemZero f (els.headD default),
          bulk := true, argType := h.t }

theorem locateParams_ok_iff {tt : TypeTable} {m : TypeToValue} {l : Loc} {p : Params} :
    locateParams tt m l = .ok p ↔ Located tt m l p := by
  constructor
  · intro h
    cases l with
    | slice tid n =>
      rw [locateParams] at h
      split at h
      · cases h; exact .slice (by assumption)
      · cases h
      · cases h
    | mapKey tid n key =>
      rw [locateParams] at h
      split at h
      · rename_i hd kv hg
        split at h
        · cases h
        · rename_i v hk
          cases h; exact .mapKey hg hk
      · cases h
      · rename_i hg
        split at h
        · rename_i hd els hb
          split at h
          · cases h
          · rename_i hne
            split at h
            · cases h
            · rename_i vals hv
              cases h
              obtain ⟨h1, rfl⟩ := (bulkMapVals_ok_iff key els [] vals).1 hv
              exact .mapKeyBulk hg hb (mt List.isEmpty_iff.2 hne) h1
        · cases h
        · cases h
    | field tid n f =>
      rw [locateParams] at h
      split at h
      · rename_i s hg
        split at h
        · cases h
        · rename_i v hv
          cases h; exact .field hg hv
      · rename_i hg
        split at h
        · rename_i hd els hb
          split at h
          · cases h
          · rename_i hne
            split at h
            · cases h
            · rename_i vals om hv
              cases h
              have hne := mt List.isEmpty_iff.2 hne
              obtain ⟨h1, h2, rfl, rfl⟩ := (bulkFieldVals_first_ok_iff hne).1 hv
              exact .fieldBulk hg hb hne h1 h2
        · cases h
        · cases h
  · intro h
    cases h with
    | slice hg => rw [locateParams, hg]
    | mapKey hg hk => simp only [locateParams, hg, hk]
    | mapKeyBulk hg hb hne hall =>
      have hv := (bulkMapVals_ok_iff _ _ [] _).2 ⟨hall, rfl⟩
      simp only [locateParams, hg, hb, List.isEmpty_eq_false_iff.2 hne, hv, Bool.false_eq_true, if_false,
        List.nil_append]
    | field hg hv => simp only [locateParams, hg, hv]
    | fieldBulk hg hb hne hall hom =>
      have hv := (bulkFieldVals_first_ok_iff hne).2 ⟨hall, hom, rfl, rfl⟩
      simp only [locateParams, hg, hb, List.isEmpty_eq_false_iff.2 hne, hv, Bool.false_eq_true, if_false]

theorem Located.unique {tt : TypeTable} {m : TypeToValue} {l : Loc} {p p' : Params}
    (h : Located tt m l p) (h' : Located tt m l p') : p = p' :=
  Except.ok.inj ((locateParams_ok_iff.2 h).symm.trans (locateParams_ok_iff.2 h'))

theorem exists_located_iff {tt : TypeTable} {m : TypeToValue} {l : Loc} {p : Params} {Q : Params → Prop}
    (hl : locateParams tt m l = .ok p) : (∃ p', Located tt m l p' ∧ Q p') ↔ Q p :=
  ⟨fun h => (h.choose_spec.1.unique (locateParams_ok_iff.1 hl)) ▸ h.choose_spec.2,
    fun hq => ⟨p, locateParams_ok_iff.1 hl, hq⟩⟩

end Sqlair
