/-
  Declarative acceptance of the arguments of Query (`ArgsOK`) and the specification of the steps
  of `bindInputs` against it, up to the equivalence `bindInputs_ok_iff_argsOK` (C08).
-/
import SqlairProofs.Typed.Locate
import SqlairProofs.Bind.Accept
import SqlairProofs.Bind.Fold
import SqlairProofs.Bind.LocDefs

namespace Sqlair

/-- `insertColumn.bindInputs` (bindinputs.go) succeeds; `explicit`: written `$T.m`, not a member of
    `$T.*`; `p.om`: a zero value under `omitempty` -/
def InsertColOK (tt : TypeTable) (m : TypeToValue) : TCol → Prop
  | .literal _ _ => True
  | .insert l _ explicit =>
    ∃ p, Located tt m l p ∧ (p.bulk = false → p.vals.length ≤ 1) ∧ (p.om = true → explicit = false)

def TExprOK (tt : TypeTable) (m : TypeToValue) : TExpr → Prop
  | .bypass _ => True
  | .output _ => True
  | .input l => ∃ p, Located tt m l p ∧ p.om = false ∧ p.bulk = false
  | .insert cols =>
    (∀ c ∈ cols, InsertColOK tt m c) ∧
    ∃ n, ∀ l ∈ cols.filterMap TCol.loc?, ∀ p, Located tt m l p → p.bulk = true → p.vals.length = n

def UsesType (tt : TypeTable) (m : TypeToValue) (te : TExpr) (t : Nat) : Prop :=
  ∃ l ∈ te.inputLocs, ∃ p, Located tt m l p ∧ p.argType = t

/-- C08: Declarative acceptance of the arguments of Query: `validateInputs` accepts them
    (`Accepts`: the exact condition of `validateInputs_nil_ok_iff`: every argument is non-nil, of a
    supported named kind, and no type is provided twice or both as `T` and `[]T`); every typed
    expression can locate its parameters in them; every argument is used by some expression. -/
def ArgsOK (tt : TypeTable) (tes : List TExpr) (args : List GoVal) : Prop :=
  Accepts tt args ∧
  (∀ te ∈ tes, TExprOK tt (args.map argEntry) te) ∧
  (∀ a ∈ args, ∃ te ∈ tes, UsesType tt (args.map argEntry) te (argKey a))

theorem exists_ite_error_eq_ok {ε α : Type} {c : Prop} [Decidable c] {e : ε} {x : Except ε α} :
    (∃ r, (if c then .error e else x) = .ok r) ↔ ¬c ∧ ∃ r, x = .ok r := by
  split <;> simp [*]

section
variable {tt : TypeTable} {m : TypeToValue}

theorem TCol.bind_ok_iff {c : TCol} {ic : Nat} :
    (∃ r, c.bind tt m ic = .ok r) ↔ InsertColOK tt m c := by
  cases c with
  | literal column lit => exact ⟨fun _ => trivial, fun _ => ⟨_, rfl⟩⟩
  | insert l column explicit =>
    rw [TCol.bind]
    cases hl : locateParams tt m l with
    | error e =>
      exact iff_of_false not_error_eq_ok fun h => by
        cases hl.symm.trans (locateParams_ok_iff.2 h.choose_spec.1)
    | ok p =>
      refine Iff.trans ?_ (exists_located_iff hl).symm
      dsimp only
      rw [exists_ite_error_eq_ok, exists_ite_error_eq_ok]
      simp

theorem TCol.bind_located {c : TCol} {ic ic' : Nat} {bc : BCol}
    (h : c.bind tt m ic = .ok (bc, ic')) :
    (∀ n, (∀ l, c.loc? = some l → ∀ p, Located tt m l p → p.bulk = true → p.vals.length = n) ↔
      (bc.bulk = true → bc.vals.length = n)) ∧
    ∀ t, (∃ l, c.loc? = some l ∧ ∃ p, Located tt m l p ∧ p.argType = t) ↔ bc.argType = some t := by
  have hs := (TCol.bind_spec h).1
  cases c with
  | literal column lit =>
    obtain ⟨-, -, hb, -, -, ha⟩ := hs
    simp [TCol.loc?, hb, ha]
  | insert l column explicit =>
    obtain ⟨p, hp, hv, -, hb, -, ha, -⟩ := hs
    simp [TCol.loc?, hv, hb, ha, ← locateParams_ok_iff, hp]

theorem exists_mem_cons_and {α : Type} {p : α → Prop} {a : α} {l : List α} :
    (∃ x, x ∈ a :: l ∧ p x) ↔ p a ∨ ∃ x, x ∈ l ∧ p x := by simp only [List.mem_cons, exists_eq_or_imp]

/-- the bulk bookkeeping of one step of the column loop, with the loop on the remaining columns
    (`F`), their acceptance (`P`) and their common row count (`B`) abstract -/
theorem bulk_step_ok_iff {ε α : Type} {F : Bool → Nat → Except ε α} {P : Prop} {B : Nat → Prop}
    (ih : ∀ b n, (∃ r, F b n = .ok r) ↔ P ∧ ∃ n', (b = true → n' = n) ∧ B n')
    (e : ε) (bb bulk : Bool) (len numRows : Nat) :
    (∃ r, (if bb && bulk && len != numRows then .error e
        else F (bulk || bb) (if bb && !bulk then len else numRows)) = .ok r) ↔
      P ∧ ∃ n, (bulk = true → n = numRows) ∧
        (bb = true → len = n) ∧ B n := by
  cases bb with
  | false => simp [ih]
  | true =>
    cases bulk with
    | false => simp [ih, eq_comm]
    | true =>
      simp only [Bool.true_and, Bool.not_true, Bool.false_eq_true, if_false, Bool.true_or,
        exists_ite_error_eq_ok, ih, bne_iff_ne, ne_eq, Decidable.not_not, forall_const, exists_eq_left]
      exact and_left_comm

theorem bindCols_ok_iff_argUsed :
    ∀ (cols : List TCol) (qb : QB) (acc : List BCol) (bulk : Bool) (numRows : Nat),
    ((∃ r, bindCols tt m cols qb acc bulk numRows = .ok r) ↔
      (∀ c ∈ cols, InsertColOK tt m c) ∧
      ∃ n, (bulk = true → n = numRows) ∧
        ∀ c ∈ cols, ∀ l, c.loc? = some l → ∀ p, Located tt m l p → p.bulk = true → p.vals.length = n) ∧
    ∀ qb' bcs n', bindCols tt m cols qb acc bulk numRows = .ok (qb', bcs, n') →
      ∀ t, t ∈ qb'.argUsed ↔ t ∈ qb.argUsed ∨
        ∃ c ∈ cols, ∃ l, c.loc? = some l ∧ ∃ p, Located tt m l p ∧ p.argType = t := by
  intro cols
  induction cols with
  | nil =>
    intro qb acc bulk numRows
    refine ⟨iff_of_true ⟨_, rfl⟩ ⟨fun _ h => absurd h List.not_mem_nil,
      numRows, fun _ => rfl, fun _ h => absurd h List.not_mem_nil⟩, fun qb' bcs n' h t => ?_⟩
    cases h
    exact ⟨Or.inl, fun h => h.elim id fun h => absurd h.choose_spec.1 List.not_mem_nil⟩
  | cons c rest ih =>
    intro qb acc bulk numRows
    cases hb : c.bind tt m qb.inputCount with
    | error e =>
      rw [bindCols, hb]
      exact ⟨iff_of_false not_error_eq_ok fun h =>
        not_error_eq_ok (hb ▸ TCol.bind_ok_iff.2 (h.1 c List.mem_cons_self)), fun _ _ _ h => by cases h⟩
    | ok r =>
      obtain ⟨bc, ic⟩ := r
      obtain ⟨hbl, hat⟩ := TCol.bind_located hb
      have hq := QB.mem_afterCol_argUsed qb bc ic
      rw [bindCols_cons, hb, bind_ok]
      dsimp only
      refine ⟨?_, fun qb' bcs n' h t => ?_⟩
      · refine Iff.trans ?_ (and_congr List.forall_mem_cons
          (exists_congr fun n => and_congr_right' (List.forall_mem_cons.trans (and_congr_left' (hbl n))))).symm
        rw [and_iff_right (TCol.bind_ok_iff.1 ⟨_, hb⟩)]
        exact bulk_step_ok_iff (fun b n => (ih (qb.afterCol bc ic) _ b n).1) _ _ _ _ _
      · obtain ⟨-, h⟩ | ⟨-, h⟩ := of_ite_eq h
        · cases h
        rw [(ih _ _ _ _).2 _ _ _ h t, hq, exists_mem_cons_and, hat t, or_assoc]

theorem exists_mem_filterMap {α β : Type} {f : α → Option β} {l : List α} {P : β → Prop} :
    (∃ b ∈ l.filterMap f, P b) ↔ ∃ a ∈ l, ∃ b, f a = some b ∧ P b := by
  simp only [List.mem_filterMap, ← exists_and_right, ← exists_and_left, and_assoc]
  exact exists_comm

theorem addToQuery_spec {qb : QB} {te : TExpr} :
    ((∃ qb', addToQuery tt m qb te = .ok qb') ↔ TExprOK tt m te) ∧
    ∀ qb', addToQuery tt m qb te = .ok qb' →
      ∀ t, t ∈ qb'.argUsed ↔ t ∈ qb.argUsed ∨ UsesType tt m te t := by
  cases te with
  | bypass _ | output _ =>
    refine ⟨⟨fun _ => trivial, fun _ => ⟨_, rfl⟩⟩, fun qb' h t => ?_⟩
    cases h
    simp only [UsesType, TExpr.inputLocs, List.not_mem_nil, false_and, exists_const, or_false]
  | input l =>
    rw [addToQuery_input]
    cases hl : locateParams tt m l with
    | error e =>
      exact ⟨iff_of_false not_error_eq_ok fun h =>
        (by cases hl.symm.trans (locateParams_ok_iff.2 h.choose_spec.1)), fun _ h => by cases h⟩
    | ok p =>
      rw [bind_ok]
      refine ⟨?_, fun qb' h t => ?_⟩
      · rw [exists_ite_error_eq_ok, exists_ite_error_eq_ok, Bool.not_eq_true, Bool.not_eq_true]
        exact (and_congr_right' (and_iff_left ⟨_, rfl⟩)).trans
          (exists_located_iff hl : TExprOK tt m (.input l) ↔ p.om = false ∧ p.bulk = false).symm
      · obtain ⟨-, h⟩ | ⟨-, h⟩ := of_ite_eq h
        · cases h
        obtain ⟨-, h⟩ | ⟨-, h⟩ := of_ite_eq h
        · cases h
        cases h
        simp only [mem_markUsed_iff, UsesType, TExpr.inputLocs, List.mem_singleton, exists_eq_left,
          exists_located_iff hl]
        exact or_comm.trans (or_congr_right eq_comm)
  | insert cols =>
    obtain ⟨h1, h2⟩ := @bindCols_ok_iff_argUsed tt m cols qb [] false 1
    have hT : (∃ r, bindCols tt m cols qb [] false 1 = .ok r) ↔ TExprOK tt m (.insert cols) :=
      h1.trans (and_congr_right' (exists_congr fun n =>
        (and_iff_right fun h => absurd h Bool.false_ne_true).trans List.forall_mem_filterMap.symm))
    rw [addToQuery_insert]
    cases hb : bindCols tt m cols qb [] false 1 with
    | error e =>
      exact ⟨iff_of_false not_error_eq_ok fun h => not_error_eq_ok (hb ▸ hT.2 h), fun _ h => by cases h⟩
    | ok r =>
      obtain ⟨qb1, bcs, numRows⟩ := r
      refine ⟨iff_of_true (addInsert_ok (bindCols_shape hb)) (hT.1 ⟨_, hb⟩), fun qb' h t => ?_⟩
      rw [addInsert_spec h, h2 _ _ _ hb t]
      exact or_congr_right exists_mem_filterMap.symm

theorem foldlM_addToQuery_spec (tes : List TExpr) (qb : QB) :
    ((∃ qb', tes.foldlM (addToQuery tt m) qb = .ok qb') ↔ ∀ te ∈ tes, TExprOK tt m te) ∧
    ∀ qb', tes.foldlM (addToQuery tt m) qb = .ok qb' →
      ∀ t, t ∈ qb'.argUsed ↔ t ∈ qb.argUsed ∨ ∃ te ∈ tes, UsesType tt m te t :=
  ⟨foldlM_except_exists_ok (f := addToQuery tt m) (fun _ _ => addToQuery_spec.1) tes qb, fun qb' h t =>
    foldlM_except_rel (S := fun qb tes qb' => t ∈ qb'.argUsed ↔ t ∈ qb.argUsed ∨ ∃ te ∈ tes, UsesType tt m te t)
      (fun _ => ⟨Or.inl, fun h => h.elim id fun ⟨_, h, _⟩ => nomatch h⟩)
      (fun hs _ ih => by rw [ih, addToQuery_spec.2 _ hs t, exists_mem_cons_and, or_assoc]) tes qb qb' h⟩

end

theorem ttvGet_args_some {args : List GoVal} {t : Nat} {v : GoVal}
    (hg : ttvGet (args.map argEntry) t = some v) : ∃ a ∈ args, argKey a = t ∧ indirect a = v := by
  obtain ⟨a, ha, he⟩ := List.mem_map.1 (mem_of_assoc hg)
  exact ⟨a, ha, congrArg Prod.fst he, congrArg Prod.snd he⟩

theorem ttvGet_args_none_iff {args : List GoVal} (t : Nat) :
    ttvGet (args.map argEntry) t = none ↔ ∀ a ∈ args, argKey a ≠ t := by
  unfold ttvGet
  rw [Option.map_eq_none_iff, List.find?_eq_none, List.forall_mem_map]
  exact forall₂_congr fun a _ => not_congr beq_iff_eq

theorem ttvGet_args_iff {tt : TypeTable} {args : List GoVal} (h : Accepts tt args) (t : Nat) (v : GoVal) :
    ttvGet (args.map argEntry) t = some v ↔ ∃ a ∈ args, argKey a = t ∧ indirect a = v := by
  refine ⟨ttvGet_args_some, ?_⟩
  rintro ⟨a, ha, rfl, rfl⟩
  cases hf : ttvGet (args.map argEntry) (argKey a) with
  | none => exact absurd rfl ((ttvGet_args_none_iff _).1 hf a ha)
  | some v =>
    obtain ⟨b, hb, hk, rfl⟩ := ttvGet_args_some hf
    rw [inj_of_nodup_map h.nodup_keys hb ha hk]

theorem locateBulk_args {tt : TypeTable} {args : List GoVal} {t : Nat} {v : GoVal}
    (h : locateBulk tt (args.map argEntry) t = some v) :
    ∃ a ∈ args, indirect a = v ∧ (isSliceOf tt (argKey a) t = true ∨ isSliceOfPtr tt (argKey a) t = true) := by
  obtain ⟨k, hk, hs⟩ := locateBulk_some h
  obtain ⟨a, ha, he⟩ := List.mem_map.1 hk
  obtain ⟨rfl, rfl⟩ := Prod.mk.inj he
  exact ⟨a, ha, rfl, hs⟩

theorem Located.arg {tt : TypeTable} {args : List GoVal} {l : Loc} {p : Params}
    (h : Located tt (args.map argEntry) l p) :
    (p.bulk = false ∧ p.argType = l.tid ∧ ∃ a ∈ args, argKey a = l.tid) ∨
    (p.bulk = true ∧ (∀ b ∈ args, argKey b ≠ l.tid) ∧
      ∃ a ∈ args, argKey a = p.argType ∧
        (isSliceOf tt (argKey a) l.tid = true ∨ isSliceOfPtr tt (argKey a) l.tid = true)) := by
  cases h with
  | slice hg | mapKey hg _ | field hg _ =>
    exact Or.inl ⟨rfl, rfl, (ttvGet_args_some hg).imp fun _ h => ⟨h.1, h.2.1⟩⟩
  | mapKeyBulk hg hb _ _ | fieldBulk hg hb _ _ _ =>
    obtain ⟨a, ha, hv, hs⟩ := locateBulk_args hb
    exact Or.inr ⟨rfl, (ttvGet_args_none_iff _).1 hg, a, ha, by rw [argKey, hv]; rfl, hs⟩

/-- C08: Query accepts the arguments iff they are `ArgsOK`, for every list of typed expressions
    (not only one that `bindTypes` produces) -/
theorem bindInputs_ok_iff_argsOK {tt : TypeTable} {tes : List TExpr} {args : List GoVal} :
    (∃ pq, bindInputs tt tes args = .ok pq) ↔ ArgsOK tt tes args := by
  rw [bindInputs_eq, ArgsOK]
  cases hv : validateInputs tt args [] with
  | error e =>
    exact iff_of_false not_error_eq_ok fun h => by
      cases hv.symm.trans ((validateInputs_nil_ok_iff tt args _).2 ⟨rfl, h.1⟩)
  | ok m =>
    obtain ⟨rfl, hacc⟩ := (validateInputs_nil_ok_iff tt args m).1 hv
    obtain ⟨f1, f2⟩ := @foldlM_addToQuery_spec tt (args.map argEntry) tes {}
    rw [bind_ok]
    cases hf : tes.foldlM (addToQuery tt (args.map argEntry)) ({} : QB) with
    | error e =>
      exact iff_of_false not_error_eq_ok fun h => not_error_eq_ok (hf ▸ f1.2 h.2.1)
    | ok qb =>
      rw [bind_ok]
      have hall : (args.map argEntry).all (fun p => qb.argUsed.contains p.1) = true ↔
          ∀ a ∈ args, ∃ te ∈ tes, UsesType tt (args.map argEntry) te (argKey a) := by
        rw [List.all_eq_true, List.forall_mem_map]
        exact forall₂_congr fun a _ => List.contains_iff_mem.trans
          ((f2 qb hf _).trans (or_iff_right List.not_mem_nil))
      by_cases hc : (args.map argEntry).all (fun p => qb.argUsed.contains p.1) = true
      · rw [if_pos hc]
        exact iff_of_true ⟨_, rfl⟩ ⟨hacc, f1.1 ⟨_, hf⟩, hall.1 hc⟩
      · rw [if_neg hc]
        exact iff_of_false not_error_eq_ok fun h => hc (hall.2 h.2.2)

end Sqlair
