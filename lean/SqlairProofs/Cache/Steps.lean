/-
  What an enabled step does, one lemma `step_X` per step, in terms of the component-level views
  (`alook`/`ainsert` of AList.lean, `dsGet`/`dsUpd` of Inv.lean), for the steps that close nothing.  Of `exec` only
  who takes it (`step_exec_op`): what it does needs the invariant (`Inv.step_exec`, Simple.lean).  The four steps
  that close a statement have theirs where closing is treated (Close.lean, Fin.lean).
-/
import SqlairProofs.Cache.Inv
import SqlairProofs.Cache.Hit

namespace Sqlair.Cache

variable {st st' : St}

theorem eq_of_not_bne {α : Type} [BEq α] [LawfulBEq α] {a b : α} (h : ¬ (a != b) = true) : a = b := by
  simpa using h

theorem step_newS (h : step st .newS = some st') :
    st' = { st with nextS := st.nextS + 1, stmtDB := st.stmtDB ++ [(st.nextS, [])], liveS := st.liveS ++ [st.nextS] } :=
  (Option.some.inj h).symm

theorem step_newD (h : step st .newD = some st') :
    st' = { st with nextD := st.nextD + 1, dbStmt := st.dbStmt ++ [(st.nextD, [])], liveD := st.liveD ++ [st.nextD] } :=
  (Option.some.inj h).symm

theorem step_dropS {s : Nat} (h : step st (.dropS s) = some st') :
    s ∈ st.liveS ∧ st' = { st with liveS := st.liveS.filter (· != s) } := by
  obtain ⟨hc, h⟩ := Option.ite_none_right_eq_some.1 h
  exact ⟨List.contains_iff_mem.1 hc, (Option.some.inj h).symm⟩

theorem step_dropD {d : Nat} (h : step st (.dropD d) = some st') :
    d ∈ st.liveD ∧ st' = { st with liveD := st.liveD.filter (· != d) } := by
  obtain ⟨hc, h⟩ := Option.ite_none_right_eq_some.1 h
  exact ⟨List.contains_iff_mem.1 hc, (Option.some.inj h).symm⟩

theorem step_query {t s d q : Nat} :
    step st (.query t s d q) = some st' ↔ s ∈ st.liveS ∧ d ∈ st.liveD ∧ alook st.ops t = none ∧
      st' = { st with ops := ainsert st.ops t { s := s, d := d, sql := q } } := by
  have hc : (st.liveS.contains s && st.liveD.contains d && (st.getOp t).isNone) = true ↔
      s ∈ st.liveS ∧ d ∈ st.liveD ∧ alook st.ops t = none := by
    simp only [Bool.and_eq_true, List.contains_iff_mem, Option.isNone_iff_eq_none, and_assoc, getOp_eq]
  constructor
  · intro h
    obtain ⟨hg, h⟩ := Option.ite_none_right_eq_some.1 h
    exact ⟨(hc.1 hg).1, (hc.1 hg).2.1, (hc.1 hg).2.2, (Option.some.inj h).symm⟩
  · rintro ⟨hs, hd, ht, rfl⟩
    exact if_pos (hc.2 ⟨hs, hd, ht⟩)

theorem l5s_hit_iff {s d q : Nat} :
    l5s_hit st s d q = true ↔ ∃ id x, lookup2 st.stmtDB s d = some id ∧ dsGet st.ds id = some x ∧ x.sql = q := by
  unfold l5s_hit
  cases lookup2 st.stmtDB s d with
  | none => simp
  | some id => cases hx : dsGet st.ds id <;> simp [getDS_eq, hx]

theorem step_lookup_start {t : Nat} {o : Op} (ho : alook st.ops t = some o) (hpc : o.pc = .start) :
    ∃ pc, step st (.lookup t) = some { st with ops := ainsert st.ops t { o with pc := pc } } ∧
      ((∃ id x, lookup2 st.stmtDB o.s o.d = some id ∧ dsGet st.ds id = some x ∧ x.sql = o.sql ∧ pc = .ready id) ∨
        (l5s_hit st o.s o.d o.sql = false ∧ pc = .missed)) := by
  by_cases hh : l5s_hit st o.s o.d o.sql = true
  · obtain ⟨id, x, hl, hx, hq⟩ := l5s_hit_iff.1 hh
    exact ⟨.ready id, by simp [step, getOp_eq, ho, hpc, hl, getDS_eq, hx, hq, setOp_eq], .inl ⟨id, x, hl, hx, hq, rfl⟩⟩
  · refine ⟨.missed, ?_, .inr ⟨Bool.eq_false_iff.2 hh, rfl⟩⟩
    -- `step` answers `missed` on every branch but the one `l5s_hit_iff` names
    simp only [step, getOp_eq, ho, hpc, getDS_eq, setOp_eq, bne_self_eq_false, Bool.false_eq_true, if_false]
    split
    · next id hl =>
      split
      · next x hx =>
        split
        · next hq => exact absurd (l5s_hit_iff.2 ⟨id, x, hl, hx, beq_iff_eq.1 hq⟩) hh
        · rfl
      · rfl
    · rfl

theorem step_lookup {t : Nat} (h : step st (.lookup t) = some st') :
    ∃ o pc, alook st.ops t = some o ∧ o.pc = .start ∧
      st' = { st with ops := ainsert st.ops t { o with pc := pc } } ∧
      ((∃ id x, lookup2 st.stmtDB o.s o.d = some id ∧ dsGet st.ds id = some x ∧ x.sql = o.sql ∧ pc = .ready id) ∨
        (l5s_hit st o.s o.d o.sql = false ∧ pc = .missed)) := by
  obtain ⟨o, ho, hpc⟩ : ∃ o, alook st.ops t = some o ∧ o.pc = .start := by
    dsimp only [step] at h
    split at h
    · next o ho => exact ⟨o, ho, eq_of_not_bne (Option.ite_none_left_eq_some.1 h).1⟩
    · cases h
  obtain ⟨pc, hs, hc⟩ := step_lookup_start ho hpc
  exact ⟨o, pc, ho, hpc, Option.some.inj (hs.symm.trans h) ▸ rfl, hc⟩

theorem step_prepare {t : Nat} :
    step st (.prepare t) = some st' ↔ ∃ o, alook st.ops t = some o ∧ o.pc = .missed ∧
      st' = { st with
        ds := st.ds ++ [({ id := st.ds.length + 1, db := o.d, sql := o.sql } : DStmt)],
        log := st.log ++ [.prepare (st.ds.length + 1) o.d o.sql],
        ops := ainsert st.ops t { o with pc := .prepared (st.ds.length + 1) } } := by
  constructor
  · intro h
    dsimp only [step] at h
    split at h
    · next o ho =>
      obtain ⟨hpc, h⟩ := Option.ite_none_left_eq_some.1 h
      exact ⟨o, ho, eq_of_not_bne hpc, (Option.some.inj h).symm⟩
    · cases h
  · rintro ⟨o, ho, hpc, rfl⟩
    simp [step, getOp_eq, ho, hpc, setOp_eq, St.emit]

/-- what `insert` does to the statement it displaces (cache.go:138-140, `runtime.SetFinalizer(ds, closeDriverStmt)`) -/
def markFin (x : DStmt) : DStmt := { x with finalizer := true }

def evictDs (st : St) (s d : Nat) : List DStmt :=
  match lookup2 st.stmtDB s d with
  | some old => dsUpd st.ds old markFin
  | none => st.ds

theorem length_evictDs (st : St) (s d : Nat) : (evictDs st s d).length = st.ds.length := by
  unfold evictDs
  split
  · exact length_upd ..
  · rfl

theorem step_insert {t : Nat} :
    step st (.insert t) = some st' ↔ ∃ o id, alook st.ops t = some o ∧ o.pc = .prepared id ∧
      st' = { st with
        ds := evictDs st o.s o.d,
        stmtDB := set2 st.stmtDB o.s o.d id,
        dbStmt := addIdx st.dbStmt o.d o.s,
        ops := ainsert st.ops t { o with pc := .ready id } } := by
  constructor
  · intro h
    dsimp only [step] at h
    split at h
    · next o ho =>
      split at h
      · next id hpc =>
        refine ⟨o, id, ho, hpc, ?_⟩
        rw [← Option.some.inj h]
        unfold evictDs
        cases lookup2 st.stmtDB o.s o.d <;> rfl
      · cases h
    · cases h
  · rintro ⟨o, id, ho, hpc, rfl⟩
    simp only [step, getOp_eq, ho, hpc, setOp_eq, updDS_eq]
    unfold evictDs
    cases lookup2 st.stmtDB o.s o.d <;> rfl

theorem step_exec_op {t : Nat} {iter : Option Nat} (h : step st (.exec t iter) = some st') :
    ∃ o, alook st.ops t = some o ∧ o.pc ≠ .done := by
  dsimp only [step] at h
  split at h
  · next o ho =>
    refine ⟨o, ho, fun hpc => ?_⟩
    rw [hpc] at h
    cases h
  · cases h

end Sqlair.Cache
