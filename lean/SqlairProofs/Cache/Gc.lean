/-
  Garbage collection to quiescence: every enabled finalizer strictly decreases a measure,
  so `gc` with enough fuel ends in a state where no finalizer is enabled, and is one `FinKeep`
  (`gc_spec`).  No finalizer is enabled exactly when whatever could be finalized is still
  reachable (`enabledFinalizers_nil_iff`); in a quiescent state that leaves nothing
  (`quiescent_final`), so collecting a quiescent state closes everything (`gc_quiescent`).
-/
import SqlairProofs.Cache.Reach

namespace Sqlair.Cache

variable {st st' : St}

theorem enabledFinalizers_nil_iff : enabledFinalizers st = [] ↔
    (∀ x ∈ st.ds, x.finalizer = true → st.dsReachable x.id = true) ∧
      (∀ p ∈ st.stmtDB, st.sReachable p.1 = true) ∧ (∀ p ∈ st.dbStmt, st.dReachable p.1 = true) := by
  unfold enabledFinalizers
  simp only [List.append_eq_nil_iff, List.map_eq_nil_iff, List.filter_eq_nil_iff, Bool.and_eq_true, Bool.not_eq_true',
    not_and, Bool.not_eq_false, and_assoc]

theorem dsReachable_cases (hi : Inv st) {id : Nat} (h : st.dsReachable id = true) :
    (∃ s d, lookup2 st.stmtDB s d = some id) ∨ (∃ p ∈ st.ops, p.2.pc = .prepared id ∨ p.2.pc = .ready id) ∨
      ∃ hd, (hd, id) ∈ st.iters := by
  unfold St.dsReachable at h
  simp only [Bool.or_eq_true] at h
  rcases h with (hc | ho) | hit
  · obtain ⟨p, hp, hr⟩ := List.any_eq_true.1 hc
    obtain ⟨e, hem, hee⟩ := List.any_eq_true.1 hr
    exact .inl ⟨p.1, e.1, hi.maps.lookup2_of_mem (row := p.2) hp (by rw [← beq_iff_eq.1 hee]; exact hem)⟩
  · obtain ⟨p, hp, hh⟩ := List.any_eq_true.1 ho
    exact .inr (.inl ⟨p, hp, by simpa using hh⟩)
  · exact .inr (.inr (any_snd_iff_mem.1 hit))

theorem enabledFinalizers_enabled (hi : Inv st) {x : Step} (h : x ∈ enabledFinalizers st) :
    ∃ st', step st x = some st' ∧ FinKeep st st' ∧ gcMeasure st' < gcMeasure st := by
  unfold enabledFinalizers at h
  simp only [List.mem_append, List.mem_map, List.mem_filter, Bool.and_eq_true, Bool.not_eq_true'] at h
  rcases h with (⟨y, ⟨hy, hf, hr⟩, rfl⟩ | ⟨p, ⟨hp, hr⟩, rfl⟩) | ⟨p, ⟨hp, hr⟩, rfl⟩
  · have hs := step_finDS.2 ⟨y, hi.dsOK.ids.get_of_mem hy, hf, hr, rfl⟩
    exact ⟨_, hs, (inv_finDS hi hs).2⟩
  · have hs := step_finS.2 ⟨hr, alook_isSome_iff.2 (List.mem_map_of_mem hp), rfl⟩
    exact ⟨_, hs, (inv_finS hi hs).2⟩
  · have hs := step_finD.2 ⟨hr, alook_isSome_iff.2 (List.mem_map_of_mem hp), rfl⟩
    exact ⟨_, hs, (inv_finD hi hs).2⟩

theorem enabledFinalizers_nil_of_measure (h : gcMeasure st = 0) : enabledFinalizers st = [] := by
  obtain ⟨h12, h3⟩ := Nat.add_eq_zero_iff.1 h
  obtain ⟨h1, h2⟩ := Nat.add_eq_zero_iff.1 h12
  refine enabledFinalizers_nil_iff.2 ⟨fun y hy hf => ?_, ?_, ?_⟩
  · exact absurd (List.mem_map.2 ⟨y, hy, hf⟩) (List.count_eq_zero.1 h1)
  · rw [List.eq_nil_of_length_eq_zero h2]; nofun
  · rw [List.eq_nil_of_length_eq_zero h3]; nofun

theorem gc_is_run : ∀ (fuel : Nat) (st : St), ∃ steps, gc fuel st = run st steps := by
  intro fuel
  induction fuel with
  | zero => intro st; exact ⟨[], rfl⟩
  | succ f ih =>
    intro st
    unfold gc
    cases he : enabledFinalizers st with
    | nil => exact ⟨[], rfl⟩
    | cons x rest =>
      obtain ⟨steps, hs⟩ := ih ((step st x).getD st)
      exact ⟨x :: steps, by simp only [hs]; rfl⟩

theorem Reachable.gc (hr : Reachable st) (fuel : Nat) : Reachable (gc fuel st) := by
  obtain ⟨steps, h⟩ := gc_is_run fuel st
  exact h ▸ hr.runs steps

theorem gc_spec : ∀ (fuel : Nat) (st : St), Inv st → gcMeasure st ≤ fuel →
    enabledFinalizers (gc fuel st) = [] ∧ FinKeep st (gc fuel st) := by
  intro fuel
  induction fuel with
  | zero =>
    intro st _ hm
    exact ⟨enabledFinalizers_nil_of_measure (Nat.le_zero.1 hm), .refl st⟩
  | succ f ih =>
    intro st hi hm
    unfold gc
    cases he : enabledFinalizers st with
    | nil => exact ⟨he, .refl st⟩
    | cons x rest =>
      simp only
      obtain ⟨st', hs, hk1, hlt⟩ := enabledFinalizers_enabled hi (by rw [he]; exact List.mem_cons_self ..)
      rw [hs]
      simp only [Option.getD_some]
      obtain ⟨h2, hk⟩ := ih st' (inv_step hi x hs) (Nat.le_of_lt_succ (Nat.lt_of_lt_of_le hlt hm))
      exact ⟨h2, hk1.trans hk⟩

theorem gcMeasure_le (st : St) : gcMeasure st ≤ st.ds.length + st.stmtDB.length + st.dbStmt.length := by
  have := List.count_le_length (a := true) (l := st.ds.map (·.finalizer))
  rw [List.length_map] at this
  exact Nat.add_le_add_right (Nat.add_le_add_right this _) _

def Quiescent (st : St) : Prop :=
  st.liveS = [] ∧ st.liveD = [] ∧ st.iters = [] ∧ ∀ p ∈ st.ops, p.2.pc = .done

theorem Quiescent.liveS (h : Quiescent st) : st.liveS = [] := h.1
theorem Quiescent.liveD (h : Quiescent st) : st.liveD = [] := h.2.1
theorem Quiescent.iters (h : Quiescent st) : st.iters = [] := h.2.2.1
theorem Quiescent.ops (h : Quiescent st) : ∀ p ∈ st.ops, p.2.pc = .done := h.2.2.2

theorem Quiescent.sReachable (h : Quiescent st) (s : Nat) : st.sReachable s = false :=
  sReachable_eq_false_iff.2 ⟨by rw [h.liveS]; nofun, fun t o hm hpc => absurd (h.ops (t, o) hm) hpc⟩

theorem Quiescent.dReachable (h : Quiescent st) (d : Nat) : st.dReachable d = false :=
  dReachable_eq_false_iff.2 ⟨by rw [h.liveD]; nofun, fun t o hm hpc => absurd (h.ops (t, o) hm) hpc⟩

/-- At a fixpoint a statement awaiting its finalizer is reachable (`enabledFinalizers_nil_iff`): cached (but what is
    cached has none), held by an operation between `lookup` and `exec`, or under an open iterator. -/
theorem finalizer_false_of_fixpoint (hi : Inv st) (he : enabledFinalizers st = [])
    (hidle : ∀ p ∈ st.ops, p.2.pc = .start ∨ p.2.pc = .done) (hit : st.iters = []) {x : DStmt} (hx : x ∈ st.ds) :
    x.finalizer = false := by
  cases hfin : x.finalizer with
  | false => rfl
  | true =>
    rcases dsReachable_cases hi ((enabledFinalizers_nil_iff.1 he).1 x hx hfin) with ⟨s, d, hl⟩ | ⟨p, hp, hh⟩ | ⟨hd, hm⟩
    · have h : _ ∧ _ ∧ x.finalizer = false := of_dsGet (hi.cache.ok _ _ _ hl) (hi.dsOK.ids.get_of_mem hx)
      exact nomatch hfin.symm.trans h.2.2
    · rcases hidle p hp with h | h <;> rw [h] at hh <;> rcases hh with hh | hh <;> cases hh
    · rw [hit] at hm; cases hm

theorem quiescent_final (hi : Inv st) (hq : Quiescent st) (he : enabledFinalizers st = []) :
    st.stmtDB = [] ∧ st.dbStmt = [] ∧
      ∀ x ∈ st.ds, x.closeCalled = true ∧ x.closeCalls = 1 ∧ x.driverClosed = true ∧ x.finalizer = false := by
  obtain ⟨_, he2, he3⟩ := enabledFinalizers_nil_iff.1 he
  have hs : st.stmtDB = [] := List.eq_nil_iff_forall_not_mem.2 fun p hp =>
    Bool.noConfusion ((hq.sReachable p.1).symm.trans (he2 p hp))
  have hd : st.dbStmt = [] := List.eq_nil_iff_forall_not_mem.2 fun p hp =>
    Bool.noConfusion ((hq.dReachable p.1).symm.trans (he3 p hp))
  refine ⟨hs, hd, fun x hx => ?_⟩
  have hg := hi.dsOK.ids.get_of_mem hx
  have hfin := finalizer_false_of_fixpoint hi he (fun p hp => .inr (hq.ops p hp)) hq.iters hx
  have hcc : x.closeCalled = true := by
    rcases hi.noLeak x.id x hg with h | h | ⟨s, d, h⟩ | ⟨t, o, hm, hpc⟩
    · exact h
    · rw [hfin] at h; cases h
    · rw [hs] at h; cases h
    · have := hq.ops (t, o) hm; simp only at this; rw [hpc] at this; cases this
  refine ⟨hcc, ?_, hi.driverClosed_of_no_iters hq.iters hx hcc, hfin⟩
  have := hi.dsOK.calls x.id x hg
  rw [this, hcc]; rfl

/-- with the fuel that is needed; `gcMeasure_le` bounds it by the table sizes, which is the fuel `runHistory` gives -/
theorem gc_quiescent (hr : Reachable st) (hq : Quiescent st) {fuel : Nat} (hf : gcMeasure st ≤ fuel) :
    Reachable (gc fuel st) ∧ (gc fuel st).stmtDB = [] ∧ (gc fuel st).dbStmt = [] ∧
      (gc fuel st).ds.length = st.ds.length ∧
      ∀ x ∈ (gc fuel st).ds, x.closeCalled = true ∧ x.closeCalls = 1 ∧ x.driverClosed = true ∧
        (gc fuel st).log.count (.close x.id) = 1 := by
  obtain ⟨he, hk⟩ := gc_spec fuel st hr.inv hf
  have hr' := hr.gc fuel
  obtain ⟨hs, hd, hall⟩ := quiescent_final hr'.inv
    ⟨hk.liveS.trans hq.liveS, hk.liveD.trans hq.liveD, hk.iters.trans hq.iters, hk.ops ▸ hq.ops⟩ he
  refine ⟨hr', hs, hd, hk.dsLen, fun x hx => ?_⟩
  obtain ⟨a, b, c, _⟩ := hall x hx
  exact ⟨a, b, c, (hr'.inv.driverClosed_iff_logged hx).1 c⟩

end Sqlair.Cache
