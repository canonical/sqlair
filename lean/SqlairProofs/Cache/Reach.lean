/-
  The invariant over all steps (`inv_step`) and all reachable states (`Reachable.inv`); what a step other
  than `exec` may log (`step_log_of_ne_exec`).
-/
import SqlairProofs.Cache.Insert
import SqlairProofs.Cache.Fin

namespace Sqlair.Cache

variable {st st' : St}

/-- C09: every enabled step of the statement-cache model preserves the invariant `Inv`. -/
theorem inv_step {st st' : St} (hi : Inv st) (x : Step) (h : step st x = some st') : Inv st' := by
  cases x with
  | newS => exact inv_newS hi h
  | newD => exact inv_newD hi h
  | query t s d q => exact inv_query hi h
  | lookup t => exact inv_lookup hi h
  | prepare t => exact inv_prepare hi h
  | insert t => exact inv_insert hi h
  | exec t it => exact inv_exec hi h
  | iterClose h' => exact inv_iterClose hi h
  | dropS s => exact inv_dropS hi h
  | dropD d => exact inv_dropD hi h
  | finS s => exact (inv_finS hi h).1
  | finD d => exact (inv_finD hi h).1
  | finDS id => exact (inv_finDS hi h).1

/-- only `exec` logs an `exec` or `execClosed` event -/
theorem step_log_of_ne_exec (hi : Inv st) {x : Step} (hx : ∀ t it, x ≠ .exec t it) (h : step st x = some st') :
    ∃ evs, st'.log = st.log ++ evs ∧ ∀ e ∈ evs, (∃ id d q, e = Ev.prepare id d q) ∨ ∃ id, e = Ev.close id := by
  have same : st'.log = st.log → ∃ evs, st'.log = st.log ++ evs ∧
      ∀ e ∈ evs, (∃ id d q, e = Ev.prepare id d q) ∨ ∃ id, e = Ev.close id :=
    fun e => ⟨[], by rw [e, List.append_nil], nofun⟩
  have closes : FinKeep st st' → ∃ evs, st'.log = st.log ++ evs ∧
      ∀ e ∈ evs, (∃ id d q, e = Ev.prepare id d q) ∨ ∃ id, e = Ev.close id :=
    fun hk => let ⟨evs, hl, hev⟩ := hk.log; ⟨evs, hl, fun e he => .inr (hev e he)⟩
  cases x with
  | newS => exact same (by rw [step_newS h])
  | newD => exact same (by rw [step_newD h])
  | query t s d q => obtain ⟨_, _, _, rfl⟩ := step_query.1 h; exact same rfl
  | lookup t => obtain ⟨o, pc, _, _, rfl, _⟩ := step_lookup h; exact same rfl
  | prepare t =>
    obtain ⟨o, _, _, rfl⟩ := step_prepare.1 h
    exact ⟨_, rfl, fun e he => .inl ⟨_, _, _, List.mem_singleton.1 he⟩⟩
  | insert t => obtain ⟨o, id, _, _, rfl⟩ := step_insert.1 h; exact same rfl
  | exec t it => exact absurd rfl (hx t it)
  | iterClose hd =>
    obtain ⟨id, _, hc⟩ := step_iterClose h
    rcases hc with ⟨x, _, _, _, _, rfl⟩ | ⟨_, rfl⟩
    · exact ⟨_, rfl, fun e he => .inr ⟨_, List.mem_singleton.1 he⟩⟩
    · exact same rfl
  | dropS s => obtain ⟨_, rfl⟩ := step_dropS h; exact same rfl
  | dropD d => obtain ⟨_, rfl⟩ := step_dropD h; exact same rfl
  | finS s => exact closes (inv_finS hi h).2.1
  | finD d => exact closes (inv_finD hi h).2.1
  | finDS id => exact closes (inv_finDS hi h).2.1

/-- the states of all executions: any interleaving of the atomic steps of any number of
    operations with reference drops and finalizer runs -/
def Reachable (st : St) : Prop := ∃ steps, st = run {} steps

theorem run_append (st : St) (xs ys : List Step) : run st (xs ++ ys) = run (run st xs) ys := by
  unfold run; rw [List.foldl_append]

theorem run_cons (st : St) (x : Step) (xs : List Step) : run st (x :: xs) = run ((step st x).getD st) xs := rfl

theorem run_induction {P : St → Prop} (hstep : ∀ st st' x, P st → step st x = some st' → P st') (h : P st)
    (steps : List Step) : P (run st steps) := by
  induction steps generalizing st with
  | nil => exact h
  | cons x xs ih =>
    rw [run_cons]
    apply ih
    cases hs : step st x with
    | none => exact h
    | some st' => exact hstep _ _ _ h hs

theorem inv_run (hi : Inv st) (steps : List Step) : Inv (run st steps) :=
  run_induction (fun _ _ x hi h => inv_step hi x h) hi steps

theorem Reachable.inv {st : St} (h : Reachable st) : Inv st := by
  obtain ⟨steps, rfl⟩ := h
  exact inv_run inv_init steps

theorem Reachable.init : Reachable {} := ⟨[], rfl⟩

theorem Reachable.of_run (steps : List Step) : Reachable (run {} steps) := ⟨steps, rfl⟩

theorem Reachable.boundS (hr : Reachable st) {s : Nat} (h : s ∈ st.liveS) : 1 ≤ s ∧ s < st.nextS := by
  obtain ⟨v, hv⟩ := Option.isSome_iff_exists.1 (hr.inv.live.liveS s h)
  exact hr.inv.maps.sKeys_lt (s, v) (alook_some_mem hv)

theorem Reachable.boundD (hr : Reachable st) {d : Nat} (h : d ∈ st.liveD) : 1 ≤ d ∧ d < st.nextD := by
  obtain ⟨v, hv⟩ := Option.isSome_iff_exists.1 (hr.inv.live.liveD d h)
  exact hr.inv.maps.dKeys_lt (d, v) (alook_some_mem hv)

theorem Reachable.runs (h : Reachable st) (steps : List Step) : Reachable (run st steps) := by
  obtain ⟨steps0, rfl⟩ := h
  exact ⟨steps0 ++ steps, (run_append _ _ _).symm⟩

theorem Reachable.induction {P : St → Prop} (h0 : P {}) (hstep : ∀ st st' x, P st → Sqlair.Cache.step st x = some st' → P st')
    {st : St} (h : Reachable st) : P st := by
  obtain ⟨steps, rfl⟩ := h
  exact run_induction hstep h0 steps

end Sqlair.Cache
