/-
  The finalizers of Statement (`finS`) and DB (`finD`): their folds are sweeps of `evictSlot`
  (an `evictClose` of what a slot holds) followed by `eraseS` / `eraseD`; so each keeps the
  invariant, is a `FinKeep` and decreases `gcMeasure`.
-/
import SqlairProofs.Cache.Evict

namespace Sqlair.Cache

variable {st st' : St}

theorem lookup2_foldl {α : Type} (f : St → α → St) (slot : α → Nat × Nat)
    (hstep : ∀ st a s' d', lookup2 (f st a).stmtDB s' d' = if (s', d') = slot a then none else lookup2 st.stmtDB s' d') :
    ∀ (l : List α) (st : St) (s' d' : Nat),
      lookup2 (l.foldl f st).stmtDB s' d' = if (s', d') ∈ l.map slot then none else lookup2 st.stmtDB s' d' := by
  intro l
  induction l with
  | nil => intro st s' d'; rfl
  | cons a l ih =>
    intro st s' d'
    rw [List.foldl_cons, ih, hstep, List.map_cons]
    by_cases h1 : (s', d') ∈ l.map slot
    · rw [if_pos h1, if_pos (List.mem_cons_of_mem _ h1)]
    · rw [if_neg h1]
      by_cases h2 : (s', d') = slot a
      · rw [if_pos h2, if_pos (h2 ▸ List.mem_cons_self)]
      · rw [if_neg h2, if_neg (fun h => (List.mem_cons.1 h).elim h2 h1)]

def evictSlot (s d : Nat) (st : St) : St :=
  match lookup2 st.stmtDB s d with
  | some id => evictClose s d id st
  | none => st

theorem evictSlot_some {s d id : Nat} {st : St} (h : lookup2 st.stmtDB s d = some id) :
    evictSlot s d st = evictClose s d id st := by rw [evictSlot, h]

theorem evictSlot_none {s d : Nat} {st : St} (h : lookup2 st.stmtDB s d = none) : evictSlot s d st = st := by
  rw [evictSlot, h]

theorem evictSlot_lookup2 (s d : Nat) (st : St) (s' d' : Nat) :
    lookup2 (evictSlot s d st).stmtDB s' d' = if (s', d') = (s, d) then none else lookup2 st.stmtDB s' d' := by
  simp only [Prod.mk.injEq]
  cases hl : lookup2 st.stmtDB s d with
  | some id => rw [evictSlot_some hl, evictClose_eq]; exact lookup2_del2 ..
  | none =>
    rw [evictSlot_none hl]
    split
    · next e => rw [e.1, e.2, hl]
    · rfl

theorem evictSlot_keys (s d : Nat) (st : St) :
    (evictSlot s d st).stmtDB.map (·.1) = st.stmtDB.map (·.1) ∧
      (evictSlot s d st).dbStmt.map (·.1) = st.dbStmt.map (·.1) := by
  cases hl : lookup2 st.stmtDB s d with
  | some id =>
    rw [evictSlot_some hl, evictClose_eq]
    exact ⟨by rw [del2_eq]; exact keys_modify .., by rw [delIdx_eq]; exact keys_modify ..⟩
  | none => rw [evictSlot_none hl]; exact ⟨rfl, rfl⟩

theorem foldl_evictSlot_inv {α : Type} (slot : α → Nat × Nat) :
    ∀ (l : List α) (cur : St), Inv cur →
      (∀ a ∈ l, ∀ t o, (t, o) ∈ cur.ops → o.pc ≠ .done → ¬ (o.s = (slot a).1 ∧ o.d = (slot a).2)) →
      let st' := l.foldl (fun st a => evictSlot (slot a).1 (slot a).2 st) cur
      Inv st' ∧ FinKeep cur st' ∧ st'.stmtDB.map (·.1) = cur.stmtDB.map (·.1) ∧
        st'.dbStmt.map (·.1) = cur.dbStmt.map (·.1) := by
  intro l
  induction l with
  | nil => intro cur hi _; exact ⟨hi, .refl cur, rfl, rfl⟩
  | cons a l ih =>
    intro cur hi hno
    have hno' := fun b hb => hno b (List.mem_cons_of_mem _ hb)
    obtain ⟨k1, k2⟩ := evictSlot_keys (slot a).1 (slot a).2 cur
    rw [List.foldl_cons]
    cases hl : lookup2 cur.stmtDB (slot a).1 (slot a).2 with
    | none =>
      rw [evictSlot_none hl]; exact ih cur hi hno'
    | some id =>
      rw [evictSlot_some hl] at k1 k2 ⊢
      obtain ⟨x, hx, _, hcc, _⟩ := hi.cache.ok _ _ id hl
      have hk := evictClose_keep (s := (slot a).1) (d := (slot a).2) hx hcc
      obtain ⟨h1, h2, h3, h4⟩ := ih _ (inv_evictClose hi hl (hno a List.mem_cons_self)) (hk.ops ▸ hno')
      exact ⟨h1, hk.trans h2, h3.trans k1, h4.trans k2⟩

/-- the second disjunct of `sReachable` (`f := (·.s)`) and of `dReachable` (`f := (·.d)`), negated -/
theorem ops_any_false_iff {f : Op → Nat} {ops : List (Nat × Op)} {k : Nat} :
    ops.any (fun p => f p.2 == k && p.2.pc != .done) = false ↔ ∀ t o, (t, o) ∈ ops → o.pc ≠ .done → f o ≠ k := by
  rw [List.any_eq_false]
  constructor
  · intro h t o hm hpc e
    have := h (t, o) hm
    simp [e, hpc] at this
  · intro h p hp
    have := h p.1 p.2 hp
    simp only [Bool.and_eq_true, beq_iff_eq, bne_iff_ne, not_and, Decidable.not_not]
    exact fun e => Decidable.byContradiction fun hpc => this hpc e

theorem sReachable_eq_false_iff {s : Nat} :
    st.sReachable s = false ↔ s ∉ st.liveS ∧ ∀ t o, (t, o) ∈ st.ops → o.pc ≠ .done → o.s ≠ s := by
  unfold St.sReachable
  rw [Bool.or_eq_false_iff]
  exact and_congr (by rw [← Bool.not_eq_true, List.contains_iff_mem]) (ops_any_false_iff (f := (·.s)))

theorem dReachable_eq_false_iff {d : Nat} :
    st.dReachable d = false ↔ d ∉ st.liveD ∧ ∀ t o, (t, o) ∈ st.ops → o.pc ≠ .done → o.d ≠ d := by
  unfold St.dReachable
  rw [Bool.or_eq_false_iff]
  exact and_congr (by rw [← Bool.not_eq_true, List.contains_iff_mem]) (ops_any_false_iff (f := (·.d)))

def finSBody (s : Nat) (st : St) (p : Nat × Nat) : St :=
  { st.closeStmt p.2 with dbStmt := delIdx (st.closeStmt p.2).dbStmt p.1 s }

/-- Both finalizer steps have this shape: enabled when the key is unreachable and still has an entry. -/
theorem fin_enabled {β : Type} {m : List (Nat × β)} {k : Nat} {r : Bool} {a : St} :
    (if (r || !(m.any (·.1 == k))) = true then none else some a) = some st' ↔
      r = false ∧ (alook m k).isSome ∧ st' = a := by
  constructor
  · intro h
    obtain ⟨hc, h⟩ := Option.ite_none_left_eq_some.1 h
    rw [Bool.or_eq_true, not_or, Bool.not_eq_true, Bool.not_eq_true, Bool.not_eq_false'] at hc
    exact ⟨hc.1, alook_isSome_iff.2 (any_key_iff_mem.1 hc.2), (Option.some.inj h).symm⟩
  · rintro ⟨hr, hk, rfl⟩
    exact if_neg (by rw [hr, any_key_iff_mem.2 (alook_isSome_iff.1 hk)]; exact Bool.false_ne_true)

theorem step_finS {s : Nat} :
    step st (.finS s) = some st' ↔ st.sReachable s = false ∧ (alook st.stmtDB s).isSome ∧
      st' = eraseS s (((alook st.stmtDB s).getD []).foldl (finSBody s) st) := fin_enabled

/-- the micro-steps also empty row `s` entry by entry; `eraseS` removes the row anyway -/
theorem finS_eq_micro (s : Nat) (row : List (Nat × Nat)) (st : St) (hnd : (row.map (·.1)).Nodup)
    (hl : ∀ p ∈ row, lookup2 st.stmtDB s p.1 = some p.2) :
    eraseS s (row.foldl (finSBody s) st) = eraseS s (row.foldl (fun st p => evictSlot s p.1 st) st) := by
  have : ∀ (row : List (Nat × Nat)) (st : St) (m : List (Nat × List (Nat × Nat))),
      m.filter (·.1 != s) = st.stmtDB.filter (·.1 != s) → (row.map (·.1)).Nodup →
      (∀ p ∈ row, lookup2 m s p.1 = some p.2) →
      eraseS s (row.foldl (finSBody s) st) =
        eraseS s (row.foldl (fun st p => evictSlot s p.1 st) { st with stmtDB := m }) := by
    intro row
    induction row with
    | nil => intro st m hm _ _; unfold eraseS; rw [List.foldl_nil, List.foldl_nil, hm]
    | cons p row ih =>
      intro st m hm hnd hl
      rw [List.map_cons, List.nodup_cons] at hnd
      have e : evictSlot s p.1 { st with stmtDB := m } = { finSBody s st p with stmtDB := del2 m s p.1 } := by
        rw [evictSlot_some (st := { st with stmtDB := m }) (hl p List.mem_cons_self), evictClose_eq, finSBody,
          closeStmt_res st]
      rw [List.foldl_cons, List.foldl_cons, e]
      refine ih _ _ ?_ hnd.2 fun q hq => ?_
      · rw [del2_eq, filter_amodify, hm, finSBody, closeStmt_res]
      · rw [lookup2_del2, if_neg]
        · exact hl q (List.mem_cons_of_mem _ hq)
        · exact fun e => hnd.1 (e.2 ▸ List.mem_map.2 ⟨q, hq, rfl⟩)
  exact this row st st.stmtDB rfl hnd hl

theorem inv_finS {s : Nat} (hi : Inv st) (h : step st (.finS s) = some st') :
    Inv st' ∧ FinKeep st st' ∧ gcMeasure st' < gcMeasure st := by
  obtain ⟨hreach, hkey, rfl⟩ := step_finS.1 h
  obtain ⟨hlive, hno⟩ := sReachable_eq_false_iff.1 hreach
  obtain ⟨row, hrow⟩ := Option.isSome_iff_exists.1 hkey
  have hnd : (row.map (·.1)).Nodup := hi.maps.row_nodup (s, row) (alook_some_mem hrow)
  have hl : ∀ p ∈ row, lookup2 st.stmtDB s p.1 = some p.2 := fun p hp =>
    hi.maps.lookup2_of_mem (alook_some_mem hrow) hp
  rw [hrow, Option.getD_some, finS_eq_micro s row st hnd hl]
  obtain ⟨h1, hk, hks, _⟩ := foldl_evictSlot_inv (fun p : Nat × Nat => (s, p.1)) row st hi fun _ _ t o hm hpc e => hno t o hm hpc e.1
  obtain ⟨hk2, hlt⟩ := eraseS_keep (alook_isSome_iff.2 (hks ▸ alook_isSome_iff.1 hkey))
  refine ⟨inv_eraseS h1 ?_ ?_ ?_, hk.trans hk2, Nat.lt_of_lt_of_le hlt hk.le⟩
  · -- every slot of the row has been emptied, and there were no others
    intro d
    rw [lookup2_foldl _ (fun p => (s, p.1)) fun st p => evictSlot_lookup2 s p.1 st]
    split
    · rfl
    · next e =>
      rw [lookup2_eq, hrow, Option.bind_some, alook_none_iff]
      exact fun p hp e' => e (List.mem_map.2 ⟨p, hp, by rw [e']⟩)
  · rw [hk.liveS]; exact hlive
  · rw [hk.ops]; exact hno

def finDBody (d : Nat) (st : St) (s : Nat) : St :=
  match lookup2 st.stmtDB s d with
  | some id => { st.closeStmt id with stmtDB := del2 (st.closeStmt id).stmtDB s d }
  | none => st

theorem step_finD {d : Nat} :
    step st (.finD d) = some st' ↔ st.dReachable d = false ∧ (alook st.dbStmt d).isSome ∧
      st' = eraseD d ((getIdx st.dbStmt d).foldl (finDBody d) st) := fin_enabled

/-- the micro-steps also shrink the index entry of `d` step by step, so the two runs differ in `dbStmt` at key `d`
    only; `eraseD` removes that key anyway -/
theorem finD_eq_micro (d : Nat) (ss : List Nat) (st : St) :
    eraseD d (ss.foldl (finDBody d) st) = eraseD d (ss.foldl (fun st s => evictSlot s d st) st) := by
  obtain ⟨m, e, hm⟩ := List.foldl_rel (l := ss) (f := finDBody d) (g := fun st s => evictSlot s d st)
    (r := fun a b => ∃ m, b = { a with dbStmt := m } ∧ m.filter (·.1 != d) = a.dbStmt.filter (·.1 != d))
    ⟨st.dbStmt, rfl, rfl⟩ fun s _ a _ ⟨m, e, hm⟩ => by
      subst e
      unfold finDBody
      cases hl : lookup2 a.stmtDB s d with
      | none => exact ⟨m, evictSlot_none (st := { a with dbStmt := m }) hl, hm⟩
      | some id =>
        dsimp only
        refine ⟨delIdx m d s, ?_, ?_⟩
        · rw [evictSlot_some (st := { a with dbStmt := m }) hl, evictClose_eq, closeStmt_res a]
        · rw [delIdx_eq, filter_amodify, hm, closeStmt_res]
  unfold eraseD
  rw [e, hm]

theorem inv_finD {d : Nat} (hi : Inv st) (h : step st (.finD d) = some st') :
    Inv st' ∧ FinKeep st st' ∧ gcMeasure st' < gcMeasure st := by
  obtain ⟨hreach, hkey, rfl⟩ := step_finD.1 h
  obtain ⟨hlive, hno⟩ := dReachable_eq_false_iff.1 hreach
  obtain ⟨h1, hk, _, hkd⟩ := foldl_evictSlot_inv (fun s => (s, d)) (getIdx st.dbStmt d) st hi
    fun _ _ t o hm hpc e => hno t o hm hpc e.2
  -- the slots the index promised are empty now, so by the invariant the index entry is empty
  have hemp : ∀ s, lookup2 ((getIdx st.dbStmt d).foldl (fun st s => evictSlot s d st) st).stmtDB s d = none := by
    intro s
    rw [lookup2_foldl _ (fun s => (s, d)) fun st s => evictSlot_lookup2 s d st]
    split
    · rfl
    · next e =>
      cases hl : lookup2 st.stmtDB s d with
      | none => rfl
      | some id =>
        exact absurd (List.mem_map.2 ⟨s, (hi.maps.index s d).2 (by rw [hl]; exact fun h => nomatch h), rfl⟩) e
  rw [finD_eq_micro]
  obtain ⟨hk2, hlt⟩ := eraseD_keep (alook_isSome_iff.2 (hkd ▸ alook_isSome_iff.1 hkey))
  refine ⟨inv_eraseD h1 ?_ ?_ ?_, hk.trans hk2, Nat.lt_of_lt_of_le hlt hk.le⟩
  · exact List.eq_nil_iff_forall_not_mem.2 fun s hs => (h1.maps.index s d).1 hs (hemp s)
  · rw [hk.liveD]; exact hlive
  · rw [hk.ops]; exact hno

end Sqlair.Cache
