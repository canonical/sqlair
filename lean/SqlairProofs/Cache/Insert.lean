/-
  Preservation of the invariant by `insert` (the critical section of `driverPrepareStmt` in cache.go: insert/evict
  under the write lock).
-/
import SqlairProofs.Cache.Simple

namespace Sqlair.Cache

variable {st st' : St}

variable {sm : List (Nat × List (Nat × Nat))} {dm : List (Nat × List Nat)}

theorem MapsOK.insert {nS nD : Nat}
    (hmp : MapsOK sm dm nS nD) (s d id : Nat) (hs : (alook sm s).isSome) (hd : (alook dm d).isSome) :
    MapsOK (set2 sm s d id) (addIdx dm d s) nS nD := by
  rw [set2_eq, addIdx_eq]
  refine hmp.modify s d (fun _ => keys_ainsert_nodup) (fun l hl => ?_) fun s' d' => ?_
  · split
    · exact hl
    · next hc => exact nodup_concat hl fun hm => hc (List.contains_iff_mem.2 hm)
  · obtain ⟨row, hrow⟩ := Option.isSome_iff_exists.1 hs
    rw [← addIdx_eq, ← set2_eq, mem_getIdx_addIdx, hd, hmp.index, lookup2_set2]
    by_cases e : s' = s ∧ d' = d
    · rw [if_pos e, hrow]; exact ⟨fun _ h => (nomatch h), fun _ => Or.inr ⟨e.2, e.1, rfl⟩⟩
    · rw [if_neg e]; exact ⟨fun h => h.elim (fun h => h) fun h => absurd ⟨h.2.1, h.1⟩ e, Or.inl⟩

/-- The maps and the operation table are treated first, over the driver statements as they were: every component
    but `NoLeak` holds of that intermediate state.  The eviction mark is then one `DsPut`; only `NoLeak` needs the
    new slot, the new `pc` and the mark at the same time. -/
theorem inv_insert {t : Nat} (hi : Inv st) (h : step st (.insert t) = some st') : Inv st' := by
  obtain ⟨o, id, ho, hpc, rfl⟩ := step_insert.1 h
  have hm := alook_some_mem ho
  have hkeys := hi.ops.keys t o hm (by simp [hpc])
  obtain ⟨row, hrow⟩ := Option.isSome_iff_exists.1 hkeys.1
  obtain ⟨x, hx, hdb, hsql, hcc, hfin, hnc, huniq⟩ := hi.ops.prepared t o id hm hpc
  have hcok := hi.cache.ok
  have hcinj := hi.cache.inj
  have hmaps := hi.maps.insert o.s o.d id hkeys.1 hkeys.2
  have hcache : CacheOK (set2 st.stmtDB o.s o.d id) st.ds := by
    constructor
    · intro s' d' id' hl'
      rcases lookup2_set2_some hl' with ⟨e, rfl⟩ | ⟨_, h⟩
      · exact ⟨x, hx, hdb.trans e.2.symm, hcc, hfin⟩
      · exact hcok _ _ _ h
    · intro s1 d1 s2 d2 id' h1 h2
      rcases lookup2_set2_some h1 with ⟨e1, rfl⟩ | ⟨_, h1⟩ <;> rcases lookup2_set2_some h2 with ⟨e2, r⟩ | ⟨_, h2⟩
      · exact ⟨e1.1.trans e2.1.symm, e1.2.trans e2.2.symm⟩
      · exact absurd h2 (hnc _ _)
      · exact absurd (r ▸ h1) (hnc _ _)
      · exact hcinj _ _ _ _ _ h1 h2
  have hlive : LiveOK st.liveS st.liveD (set2 st.stmtDB o.s o.d id) (addIdx st.dbStmt o.d o.s) :=
    ⟨fun s hs => by rw [set2_eq, isSome_alook_modify]; exact hi.live.liveS s hs,
     fun d hd => by rw [addIdx_eq, isSome_alook_modify]; exact hi.live.liveD d hd⟩
  have hops1 : OpsOK (ainsert st.ops t { o with pc := .ready id }) st.stmtDB st.dbStmt st.ds :=
    hi.ops.set t _ (fun _ => hkeys) ⟨x, hx, hdb, hsql, hcc, fun s d hl' => absurd hl' (hnc s d),
      fun t2 o2 hm2 hne hpc2 => hne (huniq t2 o2 hm2 (Or.inl hpc2))⟩
  have hhold : ∀ t1 o1, (t1, o1) ∈ ainsert st.ops t { o with pc := .ready id } →
      o1.pc ≠ .prepared id ∧ (o1.pc = .ready id → o1.s = o.s ∧ o1.d = o.d) := by
    intro t1 o1 hm1
    rcases mem_ainsert.1 hm1 with e | ⟨hm1, hne⟩
    · cases e; exact ⟨fun h => (nomatch h), fun _ => ⟨rfl, rfl⟩⟩
    · exact ⟨fun hh => hne (huniq t1 o1 hm1 (Or.inl hh)), fun hh => absurd (huniq t1 o1 hm1 (Or.inr hh)) hne⟩
  have hops : OpsOK (ainsert st.ops t { o with pc := .ready id }) (set2 st.stmtDB o.s o.d id)
      (addIdx st.dbStmt o.d o.s) st.ds := by
    refine hops1.of_maps (fun _ _ _ _ h => ?_) (fun _ _ _ _ h => ?_) fun s' d' i hl' => ?_
    · rw [set2_eq, isSome_alook_modify]; exact h
    · rw [addIdx_eq, isSome_alook_modify]; exact h
    rcases lookup2_set2_some hl' with ⟨e, rfl⟩ | ⟨_, h⟩
    · exact Or.inr fun t1 o1 hm1 =>
        ⟨(hhold t1 o1 hm1).1, fun hr => ⟨e.1.trans ((hhold t1 o1 hm1).2 hr).1.symm, e.2.trans ((hhold t1 o1 hm1).2 hr).2.symm⟩⟩
    · exact Or.inl h
  have hown : ∀ i, lookup2 st.stmtDB o.s o.d ≠ some i →
      ((∃ s d, lookup2 st.stmtDB s d = some i) ∨ ∃ t1 o1, (t1, o1) ∈ st.ops ∧ o1.pc = .prepared i) →
      ((∃ s d, lookup2 (set2 st.stmtDB o.s o.d id) s d = some i) ∨
        ∃ t1 o1, (t1, o1) ∈ ainsert st.ops t { o with pc := .ready id } ∧ o1.pc = .prepared i) := by
    rintro i hne (⟨s, d, h⟩ | ⟨t1, o1, hm1, hpc1⟩)
    · refine Or.inl ⟨s, d, ?_⟩
      rw [lookup2_set2, if_neg]; exact h
      rintro ⟨rfl, rfl⟩; exact hne h
    · by_cases e : t1 = t
      · subst e
        cases ho.symm.trans (alook_of_mem_nodup hi.ops.nodup hm1)
        rw [hpc] at hpc1; cases hpc1
        exact Or.inl ⟨o.s, o.d, by rw [lookup2_set2, if_pos ⟨rfl, rfl⟩, hrow]; rfl⟩
      · exact Or.inr ⟨t1, o1, mem_ainsert.2 (Or.inr ⟨hm1, e⟩), hpc1⟩
  cases hold : lookup2 st.stmtDB o.s o.d with
  | none =>
    simp only [evictDs, hold]
    exact { hi with maps := hmaps, cache := hcache, live := hlive, ops := hops,
                    noLeak := hi.noLeak.mono fun i _ _ _ _ => hown i (by rw [hold]; exact fun h => nomatch h) }
  | some old =>
    simp only [evictDs, hold]
    obtain ⟨y, hy, _, hycc, _⟩ := hcok _ _ _ hold
    have hp : DsPut st.ds (dsUpd st.ds old markFin) old (markFin y) := DsPut.upd hy fun _ => rfl
    have hnold : ∀ s d, lookup2 (set2 st.stmtDB o.s o.d id) s d ≠ some old := by
      intro s d hl'
      rcases lookup2_set2_some hl' with ⟨_, r⟩ | ⟨e, h⟩
      · exact hnc _ _ (r ▸ hold)
      · exact e (hcinj _ _ _ _ _ h hold)
    exact {
      dsOK := hi.dsOK.put hp (hi.dsOK.ids.upd fun _ => rfl) (fun _ => hycc) (hi.dsOK.calls old y hy)
        (hi.dsOK.dclosed old y hy)
      maps := hmaps
      cache := hcache.put hp hnold
      live := hlive
      ops := hops.put hp fun t1 o1 hm1 => by
        refine ⟨fun hh => ?_, fun hh => ?_⟩
        · obtain ⟨_, _, _, _, _, _, h6, _⟩ := hops1.prepared t1 o1 old hm1 hh
          exact h6 _ _ hold
        · have h : y.db = o1.d ∧ y.sql = o1.sql ∧ y.closeCalled = false ∧ _ :=
            of_dsGet (hops.ready t1 o1 old hm1 hh) hy
          exact ⟨h.1, h.2.1, h.2.2.1⟩
      iters := hi.iters.put hp hi.iters.nodup (fun _ h => h) (fun _ _ h _ => h)
        (fun h hm => (of_dsGet (hi.iters.isOpen h old hm) hy : y.driverClosed = false)) (fun h => nomatch hycc.symm.trans h)
      noLeak := NoLeak.mono (hp.forall hi.noLeak (Or.inr (Or.inl rfl))) fun i z hz _ hf => hown i fun h => by
        rw [hold] at h; cases h
        cases hp.self.symm.trans hz; exact nomatch hf
      log := hi.log.put hp hy rfl rfl rfl }

end Sqlair.Cache
