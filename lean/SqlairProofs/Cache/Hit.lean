/-
  What `lookupStmt` (cache.go:113-116) tests, as a function of the state.  The `lookup` step lemmas
  (Steps.lean), the effect of running one operation (`L5sRan`, Seq.lean) and the reuse clause of
  C09 (L5Sound/Defs) are all stated with it.
-/
import SqlairModel.Cache

namespace Sqlair.Cache

/-- does the cache hold, for the slot `(s, d)`, a driver statement with SQL shape `shape`? -/
def l5s_hit (st : St) (s d shape : Nat) : Bool :=
  match lookup2 st.stmtDB s d with
  | some id => match st.getDS id with
    | some x => x.sql == shape
    | none => false
  | none => false

end Sqlair.Cache
