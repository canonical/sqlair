/-
  `sql.Stmt.Close` on a statement that has not been closed yet.  `CloseRel` says what closing one
  statement does to the table and carries the components of the invariant that speak of its entry over it;
  neither the cache nor an operation may refer to a statement that is closed (`CacheOK.put`,
  `OpsOK.put_unheld` of Inv.lean).  On it rest the finalizer of an evicted statement (`finDS`) and the
  micro-step `evictClose` of Evict.lean that the finalizers of Statement and DB share.  `iterClose` is here
  as the other step that logs a driver-level close: a `Close` that was waiting for the rows reaches the
  driver.  Its statement has `closeCalled` already, so it is a `DsPut` of its own (`inv_iterClose`), not a
  `CloseRel`.  `FinKeep` is what the finalizers leave alone; none of them increases `gcMeasure`, by which
  `gc` terminates.
-/
import SqlairProofs.Cache.Inv

namespace Sqlair.Cache

variable {st st' : St}

/-- what `St.closeStmt` does to the entry of a statement not yet closed; `held`: an open iterator depends on it,
    so the driver-level close waits -/
def closeD (held : Bool) (x : DStmt) : DStmt :=
  { x with closeCalled := true, closeCalls := x.closeCalls + 1,
           driverClosed := if held then x.driverClosed else true }

theorem iterHolds_eq (st : St) (id : Nat) : st.iterHolds id = st.iters.any (·.2 == id) := rfl

theorem closeStmt_eq {id : Nat} {x : DStmt} (hx : dsGet st.ds id = some x) (hc : x.closeCalled = false) :
    st.closeStmt id =
      { st with ds := dsUpd st.ds id (closeD (st.iters.any (·.2 == id))),
                log := if st.iters.any (·.2 == id) then st.log else st.log ++ [.close id] } := by
  unfold St.closeStmt
  rw [getDS_eq, hx]
  simp only [hc, updDS_eq, iterHolds_eq, St.emit]
  cases hh : st.iters.any (·.2 == id)
  · simp only [Bool.not_false, Bool.and_self, if_true, Bool.false_eq_true, if_false]
    rw [dsUpd_dsUpd _ _ _ _ (by intro x; rfl)]
    rfl
  · simp only [Bool.not_true, Bool.and_false, Bool.false_eq_true, if_false, if_true]
    rfl

/-- the statement table and the log after `closeStmt`, as functions of what it reads -/
def closeRes (ds : List DStmt) (iters : List (Nat × Nat)) (log : List Ev) (id : Nat) : List DStmt × List Ev :=
  ((({ ds := ds, iters := iters, log := log } : St).closeStmt id).ds,
   (({ ds := ds, iters := iters, log := log } : St).closeStmt id).log)

theorem closeStmt_res (st : St) (id : Nat) :
    st.closeStmt id =
      { st with ds := (closeRes st.ds st.iters st.log id).1, log := (closeRes st.ds st.iters st.log id).2 } := by
  unfold closeRes St.closeStmt
  simp only [getDS_eq]
  cases dsGet st.ds id with
  | none => rfl
  | some x =>
    simp only [updDS_eq, iterHolds_eq, St.emit]
    by_cases h : (!x.closeCalled && !st.iters.any (·.2 == id)) = true
    · simp only [h]; rfl
    · simp only [h]; rfl

def finCount (ds : List DStmt) : Nat := (ds.map (·.finalizer)).count true

def gcMeasure (st : St) : Nat := finCount st.ds + st.stmtDB.length + st.dbStmt.length

structure FinKeep (st st' : St) : Prop where
  ops : st'.ops = st.ops
  liveS : st'.liveS = st.liveS
  liveD : st'.liveD = st.liveD
  iters : st'.iters = st.iters
  dsLen : st'.ds.length = st.ds.length
  nextS : st'.nextS = st.nextS
  nextD : st'.nextD = st.nextD
  log : ∃ evs, st'.log = st.log ++ evs ∧ ∀ e ∈ evs, ∃ id, e = Ev.close id
  le : gcMeasure st' ≤ gcMeasure st

theorem FinKeep.of_maps {st st' : St} (h : gcMeasure st' ≤ gcMeasure st) (ho : st'.ops = st.ops := by rfl)
    (hS : st'.liveS = st.liveS := by rfl) (hD : st'.liveD = st.liveD := by rfl) (hi : st'.iters = st.iters := by rfl)
    (hds : st'.ds.length = st.ds.length := by rfl) (hnS : st'.nextS = st.nextS := by rfl)
    (hnD : st'.nextD = st.nextD := by rfl) (hl : st'.log = st.log := by rfl) : FinKeep st st' :=
  ⟨ho, hS, hD, hi, hds, hnS, hnD, ⟨[], by rw [hl, List.append_nil], nofun⟩, h⟩

theorem FinKeep.refl (st : St) : FinKeep st st := .of_maps (Nat.le_refl _)

theorem FinKeep.trans {a b c : St} (h1 : FinKeep a b) (h2 : FinKeep b c) : FinKeep a c := by
  obtain ⟨e1, hl1, hc1⟩ := h1.log
  obtain ⟨e2, hl2, hc2⟩ := h2.log
  exact ⟨h2.ops.trans h1.ops, h2.liveS.trans h1.liveS, h2.liveD.trans h1.liveD, h2.iters.trans h1.iters,
    h2.dsLen.trans h1.dsLen, h2.nextS.trans h1.nextS, h2.nextD.trans h1.nextD,
    ⟨e1 ++ e2, by rw [hl2, hl1, List.append_assoc], fun e he => (List.mem_append.1 he).elim (hc1 e) (hc2 e)⟩,
    Nat.le_trans h2.le h1.le⟩

/-- the `log` of `closeStmt_eq`, in the form `FinKeep.log` asks for -/
theorem closeLog (log : List Ev) (held : Bool) (id : Nat) :
    ∃ evs, (if held then log else log ++ [Ev.close id]) = log ++ evs ∧ ∀ e ∈ evs, ∃ id, e = Ev.close id := by
  cases held
  · exact ⟨[.close id], rfl, fun e he => ⟨id, List.mem_singleton.1 he⟩⟩
  · exact ⟨[], (List.append_nil _).symm, nofun⟩

theorem finCount_cons (y : DStmt) (l : List DStmt) :
    finCount (y :: l) = finCount l + if y.finalizer = true then 1 else 0 := by
  unfold finCount
  simp only [List.map_cons, List.count_cons, beq_iff_eq]

theorem finCount_upd (ds : List DStmt) (id : Nat) {f : DStmt → DStmt} (hf : ∀ y, (f y).finalizer = y.finalizer) :
    finCount (dsUpd ds id f) = finCount ds := by
  unfold finCount
  rw [map_upd (·.finalizer) hf]

theorem finCount_map_lt (g : DStmt → DStmt) (hg : ∀ y, (g y).finalizer = true → y.finalizer = true) {x : DStmt}
    (hx1 : x.finalizer = true) (hx2 : (g x).finalizer = false) :
    ∀ (l : List DStmt), x ∈ l → finCount (l.map g) < finCount l := by
  have hpt : ∀ y, (if (g y).finalizer = true then 1 else 0) ≤ (if y.finalizer = true then 1 else 0) := by
    intro y
    by_cases h : (g y).finalizer = true
    · rw [if_pos h, if_pos (hg y h)]; exact Nat.le_refl 1
    · rw [if_neg h]; exact Nat.zero_le _
  have hle : ∀ (l : List DStmt), finCount (l.map g) ≤ finCount l := by
    intro l
    induction l with
    | nil => exact Nat.le_refl _
    | cons y l ih =>
      rw [List.map_cons, finCount_cons, finCount_cons]
      exact Nat.add_le_add ih (hpt y)
  intro l
  induction l with
  | nil => intro h; cases h
  | cons y l ih =>
    intro hm
    rw [List.map_cons, finCount_cons, finCount_cons]
    rcases List.mem_cons.1 hm with rfl | hm
    · rw [if_pos hx1, if_neg (by rw [hx2]; exact Bool.false_ne_true)]
      exact Nat.lt_succ_of_le (hle l)
    · exact Nat.add_lt_add_of_lt_of_le (ih hm) (hpt y)

theorem finCount_upd_lt {ds : List DStmt} {id : Nat} {x : DStmt} {f : DStmt → DStmt} (hx : dsGet ds id = some x)
    (hx1 : x.finalizer = true) (hx2 : (f x).finalizer = false) (hf : ∀ y, (f y).finalizer = true → y.finalizer = true) :
    finCount (dsUpd ds id f) < finCount ds := by
  unfold dsUpd
  refine finCount_map_lt _ (fun y hy => ?_) hx1 ?_ ds (dsGet_some hx).2
  · split at hy
    · exact hf y hy
    · exact hy
  · rw [if_pos (beq_iff_eq.2 (dsGet_some hx).1)]; exact hx2

structure CloseRel (ds ds' : List DStmt) (id : Nat) (x x' : DStmt) (held : Bool) : Prop where
  get : dsGet ds id = some x
  wasOpen : x.closeCalled = false
  ids : IdsOK ds'
  put : DsPut ds ds' id x'
  db : x'.db = x.db
  sql : x'.sql = x.sql
  cc : x'.closeCalled = true
  calls : x'.closeCalls = 1
  fin : x'.finalizer = false
  dc : x'.driverClosed = !held

theorem closeRel_upd {ds : List DStmt} (hd : DsOK ds) {id : Nat} {x : DStmt} (hx : dsGet ds id = some x)
    (hc : x.closeCalled = false) (held : Bool) {f : DStmt → DStmt} (hid : ∀ y, (f y).id = y.id)
    (hf : f x = { closeD held x with finalizer := false }) : CloseRel ds (dsUpd ds id f) id x (f x) held := by
  have hp := DsPut.upd hx hid
  rw [hf] at hp ⊢
  refine ⟨hx, hc, hd.ids.upd hid, hp, rfl, rfl, rfl, ?_, rfl, ?_⟩
  · have := hd.calls id x hx
    rw [hc] at this
    show x.closeCalls + 1 = 1
    rw [this]; rfl
  · cases held
    · rfl
    · exact (hd.not_dclosed hx hc : x.driverClosed = false)

section
variable {sm : List (Nat × List (Nat × Nat))} {ds ds' : List DStmt} {id : Nat} {x x' : DStmt} {held : Bool}
  (hr : CloseRel ds ds' id x x' held)
include hr

theorem CloseRel.closed {z : DStmt} (hz : dsGet ds' id = some z) : z.closeCalled = true := by
  cases hr.put.self.symm.trans hz; exact hr.cc

theorem CloseRel.dsOK (hd : DsOK ds) : DsOK ds' :=
  hd.put hr.put hr.ids (fun h => nomatch hr.fin.symm.trans h) (by rw [hr.cc, hr.calls]; rfl) fun _ => hr.cc

theorem CloseRel.iters {iters : List (Nat × Nat)} (hi : ItersOK iters ds)
    (hh : held = iters.any (·.2 == id)) : ItersOK iters ds' := by
  refine hi.put hr.put hi.nodup (fun _ h => h) (fun _ _ h _ => h) (fun h hm => ?_) (fun _ hdc => ?_)
  · rw [hr.dc, hh, any_snd_iff_mem.2 ⟨h, hm⟩]; rfl
  · rw [hr.dc, hh, Bool.not_eq_false'] at hdc
    exact any_snd_iff_mem.1 hdc

theorem CloseRel.log (hd : DsOK ds) {log : List Ev} (hl : LogOK log ds) :
    LogOK (if held then log else log ++ [.close id]) ds' := by
  have hopen := hd.not_dclosed hr.get hr.wasOpen
  have hdc := hr.dc
  cases held with
  | true => exact hl.put hr.put hr.get hr.db hr.sql (hdc.trans hopen.symm)
  | false => exact hl.put_close hr.put hr.get hr.db hr.sql hopen hdc

theorem CloseRel.noLeak {ops : List (Nat × Op)} (hn : NoLeak ds sm ops) : NoLeak ds' sm ops :=
  hr.put.forall hn (Or.inl hr.cc)

end

theorem step_finDS {id : Nat} :
    step st (.finDS id) = some st' ↔ ∃ x, dsGet st.ds id = some x ∧ x.finalizer = true ∧ st.dsReachable id = false ∧
      st' = (st.closeStmt id).updDS id fun x => { x with finalizer := false } := by
  constructor
  · intro h
    dsimp only [step] at h
    split at h
    · next x hx =>
      obtain ⟨hc, h⟩ := Option.ite_none_left_eq_some.1 h
      rw [Bool.or_eq_true, not_or, Bool.not_eq_true, Bool.not_eq_true, Bool.not_eq_false'] at hc
      exact ⟨x, hx, hc.1, hc.2, (Option.some.inj h).symm⟩
    · cases h
  · rintro ⟨x, hx, hf, hr, rfl⟩
    dsimp only [step]
    rw [getDS_eq, hx]
    exact if_neg (by rw [hf, hr]; exact Bool.false_ne_true)

theorem inCache_of_lookup2 {s d id : Nat} (h : lookup2 st.stmtDB s d = some id) : st.inCache id = true := by
  obtain ⟨row, hrow, hid⟩ := alook_of_lookup2 h
  exact List.any_eq_true.2 ⟨(s, row), alook_some_mem hrow,
    List.any_eq_true.2 ⟨(d, id), alook_some_mem hid, beq_self_eq_true id⟩⟩

theorem opHolds_false {id : Nat} (h : st.opHolds id = false) :
    ∀ t o, (t, o) ∈ st.ops → o.pc ≠ .prepared id ∧ o.pc ≠ .ready id := by
  intro t o hm
  have := List.any_eq_false.1 h (t, o) hm
  simp only [Bool.or_eq_true, beq_iff_eq, not_or] at this
  exact this

theorem inv_finDS {id : Nat} (hi : Inv st) (h : step st (.finDS id) = some st') :
    Inv st' ∧ FinKeep st st' ∧ gcMeasure st' < gcMeasure st := by
  obtain ⟨x, hx, hfin, hreach, rfl⟩ := step_finDS.1 h
  have hcc := hi.dsOK.fin_open id x hx hfin
  rw [closeStmt_eq hx hcc, updDS_eq, dsUpd_dsUpd st.ds id (closeD _) _ fun _ => rfl]
  obtain ⟨hreach, hnit⟩ := Bool.or_eq_false_iff.1 hreach
  obtain ⟨hnc, hnop⟩ := Bool.or_eq_false_iff.1 hreach
  have hr := closeRel_upd hi.dsOK hx hcc (st.iters.any (·.2 == id))
    (f := fun x => { closeD (st.iters.any (·.2 == id)) x with finalizer := false }) (fun _ => rfl) rfl
  have hlt : finCount (dsUpd st.ds id fun x => { closeD (st.iters.any (·.2 == id)) x with finalizer := false }) +
      st.stmtDB.length + st.dbStmt.length < gcMeasure st := by
    exact Nat.add_lt_add_right (Nat.add_lt_add_right (finCount_upd_lt hx hfin rfl fun _ h => absurd h Bool.false_ne_true) _) _
  refine ⟨?_, ⟨rfl, rfl, rfl, rfl, length_upd .., rfl, rfl, closeLog .., Nat.le_of_lt hlt⟩, hlt⟩
  exact {
    dsOK := hr.dsOK hi.dsOK
    maps := hi.maps
    cache := hi.cache.put hr.put fun s d hl => nomatch (inCache_of_lookup2 (st := st) hl).symm.trans hnc
    live := hi.live
    ops := hi.ops.put_unheld hr.put (opHolds_false hnop)
    iters := hr.iters hi.iters rfl
    noLeak := hr.noLeak hi.noLeak
    log := hr.log hi.dsOK hi.log }

theorem step_iterClose {h : Nat} (hs : step st (.iterClose h) = some st') :
    ∃ id, alook st.iters h = some id ∧
      ((∃ x, dsGet st.ds id = some x ∧ x.closeCalled = true ∧ x.driverClosed = false ∧
          (st.iters.filter (·.1 != h)).any (·.2 == id) = false ∧
          st' = { st with iters := st.iters.filter (·.1 != h),
                          ds := dsUpd st.ds id (fun x => { x with driverClosed := true }),
                          log := st.log ++ [.close id] }) ∨
       ((∀ x, dsGet st.ds id = some x → x.closeCalled = true → x.driverClosed = false →
            (st.iters.filter (·.1 != h)).any (·.2 == id) = true) ∧
          st' = { st with iters := st.iters.filter (·.1 != h) })) := by
  dsimp only [step] at hs
  split at hs
  · next h' id hf =>
    refine ⟨id, alook_of_find? hf, ?_⟩
    split at hs
    · next x hx =>
      split at hs
      · next hc =>
        rw [Bool.and_eq_true, Bool.and_eq_true, Bool.not_eq_true', Bool.not_eq_true'] at hc
        exact Or.inl ⟨x, hx, hc.1.1, hc.1.2, hc.2, (Option.some.inj hs).symm⟩
      · next hc =>
        refine Or.inr ⟨fun y hy h1 h2 => ?_, (Option.some.inj hs).symm⟩
        cases hx.symm.trans hy
        rw [h1, h2] at hc
        exact (Bool.not_eq_false' _).mp (Bool.not_eq_true _ ▸ hc)
    · next hx => exact Or.inr ⟨fun y hy => (nomatch hx.symm.trans hy), (Option.some.inj hs).symm⟩
  · cases hs

theorem inv_iterClose {h : Nat} (hi : Inv st) (hs : step st (.iterClose h) = some st') : Inv st' := by
  obtain ⟨id, hal, hc⟩ := step_iterClose hs
  have hmem := alook_some_mem hal
  obtain ⟨x, hx, hxd⟩ := hi.iters.isOpen h id hmem
  have hnd : ((st.iters.filter (·.1 != h)).map (·.1)).Nodup :=
    hi.iters.nodup.sublist (List.Sublist.map _ List.filter_sublist)
  have hsub : ∀ p ∈ st.iters.filter (·.1 != h), p ∈ st.iters := fun p hp => (List.mem_filter.1 hp).1
  have hkeep : ∀ h' id', (h', id') ∈ st.iters → id' ≠ id → (h', id') ∈ st.iters.filter (·.1 != h) := by
    intro h' id' hm hne
    refine List.mem_filter.2 ⟨hm, bne_iff_ne.2 ?_⟩
    rintro rfl
    have := alook_of_mem_nodup hi.iters.nodup hm
    rw [hal] at this; cases this; exact hne rfl
  rcases hc with ⟨y, hy, hcc, hdc, hheld, rfl⟩ | ⟨hheld, rfl⟩
  · -- the waiting close reaches the driver
    cases hx.symm.trans hy
    have hp : DsPut st.ds (dsUpd st.ds id fun x => { x with driverClosed := true }) id { x with driverClosed := true } :=
      DsPut.upd hx fun _ => rfl
    obtain ⟨hnc, hnh⟩ := hi.unreferenced fun y hy => by cases hx.symm.trans hy; exact hcc
    exact {
      dsOK := hi.dsOK.put hp (hi.dsOK.ids.upd fun _ => rfl) (hi.dsOK.fin_open id x hx) (hi.dsOK.calls id x hx)
        fun _ => hcc
      maps := hi.maps
      cache := hi.cache.put hp hnc
      live := hi.live
      ops := hi.ops.put_unheld hp hnh
      iters := hi.iters.put hp hnd hsub hkeep
        (fun h' hm => nomatch (any_snd_iff_mem.2 ⟨h', hm⟩).symm.trans hheld)
        (fun _ hd => nomatch hd)
      noLeak := hp.forall hi.noLeak (Or.inl hcc)
      log := hi.log.put_close hp hx rfl rfl hdc rfl }
  · exact { hi with iters := hi.iters.put (DsPut.refl hx) hnd hsub hkeep (fun _ _ => hxd)
                      fun h1 h2 => any_snd_iff_mem.1 (hheld x hx h1 h2) }

end Sqlair.Cache
