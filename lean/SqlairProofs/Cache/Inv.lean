/-
  The invariant of the cache transition system, bundled per group of state components (`Inv`),
  and how each component is carried over a change of the driver-statement table in one place
  (`DsPut` and the `put` lemmas).
-/
import SqlairProofs.Cache.AList

namespace Sqlair.Cache

/-- `St.getDS` and `St.updDS` on the bare table: the components of `Inv` are stated over the fields of the
    state, not over `St` -/
def dsGet (ds : List DStmt) (id : Nat) : Option DStmt := ds.find? (·.id == id)

def dsUpd (ds : List DStmt) (id : Nat) (f : DStmt → DStmt) : List DStmt :=
  ds.map fun x => if x.id == id then f x else x

theorem getDS_eq (st : St) (id : Nat) : st.getDS id = dsGet st.ds id := rfl
theorem updDS_eq (st : St) (id : Nat) (f : DStmt → DStmt) :
    st.updDS id f = { st with ds := dsUpd st.ds id f } := rfl
theorem getOp_eq (st : St) (t : Nat) : st.getOp t = alook st.ops t := rfl
theorem setOp_eq (st : St) (t : Nat) (o : Op) : st.setOp t o = { st with ops := ainsert st.ops t o } := rfl

section
variable {ds : List DStmt}

theorem dsGet_eq_alook (ds : List DStmt) (id : Nat) : dsGet ds id = alook (ds.map fun x => (x.id, x)) id := by
  unfold dsGet alook
  rw [List.find?_map, Option.map_map]
  exact Option.map_id'.symm

theorem dsGet_some {id : Nat} {x : DStmt} (h : dsGet ds id = some x) :
    x.id = id ∧ x ∈ ds := by
  rw [dsGet_eq_alook] at h
  obtain ⟨y, hy, e⟩ := List.mem_map.1 (alook_some_mem h)
  cases e; exact ⟨rfl, hy⟩

theorem of_dsGet {id : Nat} {y : DStmt} {Q : DStmt → Prop} (h : ∃ z, dsGet ds id = some z ∧ Q z)
    (hy : dsGet ds id = some y) : Q y := by
  obtain ⟨z, hz, hq⟩ := h
  rw [hy] at hz; cases hz; exact hq

theorem dsGet_upd {id : Nat} {f : DStmt → DStmt} (hf : ∀ x, (f x).id = x.id) (id' : Nat) :
    dsGet (dsUpd ds id f) id' = if id' = id then (dsGet ds id).map f else dsGet ds id' := by
  have e : (dsUpd ds id f).map (fun x => (x.id, x)) = amodify (ds.map fun x => (x.id, x)) id f := by
    unfold dsUpd amodify
    rw [List.map_map, List.map_map]
    apply List.map_congr_left
    intro x _
    show ((if x.id == id then f x else x).id, _) = if x.id == id then (x.id, f x) else (x.id, x)
    by_cases c : (x.id == id) = true
    · simp only [if_pos c, hf]
    · simp only [if_neg c]
  rw [dsGet_eq_alook, e, alook_modify, ← dsGet_eq_alook, ← dsGet_eq_alook]

theorem dsGet_append (ds : List DStmt) (x : DStmt) (id : Nat) :
    dsGet (ds ++ [x]) id = (dsGet ds id).or (if x.id = id then some x else none) := by
  rw [dsGet_eq_alook, dsGet_eq_alook, List.map_append, alook_append, List.map_singleton, alook_cons]; rfl

theorem map_upd {α : Type} (p : DStmt → α) {id : Nat} {f : DStmt → DStmt} (hf : ∀ x, p (f x) = p x) :
    (dsUpd ds id f).map p = ds.map p := by
  unfold dsUpd
  rw [List.map_map]
  apply List.map_congr_left
  intro x _
  simp only [Function.comp]
  split <;> simp [hf]

theorem length_upd (ds : List DStmt) (id : Nat) (f : DStmt → DStmt) : (dsUpd ds id f).length = ds.length := by
  simp [dsUpd]

theorem dsUpd_dsUpd (ds : List DStmt) (id : Nat) (f g : DStmt → DStmt) (hf : ∀ x, (f x).id = x.id) :
    dsUpd (dsUpd ds id f) id g = dsUpd ds id (fun x => g (f x)) := by
  unfold dsUpd
  rw [List.map_map]
  apply List.map_congr_left
  intro x _
  by_cases e : x.id = id
  · simp [e, hf]
  · simp [e]

def IdsOK (ds : List DStmt) : Prop := ds.map (·.id) = List.range' 1 ds.length

theorem IdsOK.get_of_mem (h : IdsOK ds) {x : DStmt} (hx : x ∈ ds) : dsGet ds x.id = some x := by
  rw [dsGet_eq_alook]
  refine alook_of_mem_nodup ?_ (List.mem_map.2 ⟨x, hx, rfl⟩)
  rw [List.map_map]
  exact h ▸ List.nodup_range'

theorem IdsOK.fresh (h : IdsOK ds) : dsGet ds (ds.length + 1) = none := by
  cases hx : dsGet ds (ds.length + 1) with
  | none => rfl
  | some x =>
    obtain ⟨e, hm⟩ := dsGet_some hx
    have : x.id ∈ ds.map (·.id) := List.mem_map.2 ⟨x, hm, rfl⟩
    rw [h, List.mem_range'_1, e, Nat.add_comm] at this
    exact absurd this.2 (Nat.lt_irrefl _)

theorem IdsOK.upd (h : IdsOK ds) {id : Nat} {f : DStmt → DStmt} (hf : ∀ x, (f x).id = x.id) :
    IdsOK (dsUpd ds id f) := by
  unfold IdsOK; rw [map_upd (·.id) hf, length_upd]; exact h

theorem IdsOK.append {ds : List DStmt} (h : IdsOK ds) {x : DStmt} (hx : x.id = ds.length + 1) :
    IdsOK (ds ++ [x]) := by
  unfold IdsOK at *
  rw [List.map_append, h, List.length_append, List.length_singleton, List.range'_concat]
  simp [hx]; omega

structure DsOK (ds : List DStmt) : Prop where
  ids : IdsOK ds
  fin_open : ∀ id x, dsGet ds id = some x → x.finalizer = true → x.closeCalled = false
  /-- C11: `Close` is called at most once -/
  calls : ∀ id x, dsGet ds id = some x → x.closeCalls = if x.closeCalled then 1 else 0
  dclosed : ∀ id x, dsGet ds id = some x → x.driverClosed = true → x.closeCalled = true

theorem DsOK.not_dclosed (hd : DsOK ds) {id : Nat} {x : DStmt} (hx : dsGet ds id = some x)
    (hc : x.closeCalled = false) : x.driverClosed = false := by
  cases h : x.driverClosed with
  | false => rfl
  | true => rw [hd.dclosed id x hx h] at hc; cases hc

end

structure MapsOK (sm : List (Nat × List (Nat × Nat))) (dm : List (Nat × List Nat)) (nS nD : Nat) : Prop where
  sKeys_lt : ∀ p ∈ sm, 0 < p.1 ∧ p.1 < nS
  dKeys_lt : ∀ p ∈ dm, 0 < p.1 ∧ p.1 < nD
  sPos : 0 < nS
  dPos : 0 < nD
  sKeys_nodup : (sm.map (·.1)).Nodup
  dKeys_nodup : (dm.map (·.1)).Nodup
  row_nodup : ∀ p ∈ sm, (p.2.map (·.1)).Nodup
  idx_nodup : ∀ p ∈ dm, p.2.Nodup
  /-- C11: the index `dbStmt` and the cache `stmtDB` agree -/
  index : ∀ s d, s ∈ getIdx dm d ↔ lookup2 sm s d ≠ none

theorem MapsOK.lookup2_of_mem {sm : List (Nat × List (Nat × Nat))} {dm : List (Nat × List Nat)} {nS nD : Nat}
    (h : MapsOK sm dm nS nD) {s d id : Nat} {row : List (Nat × Nat)} (hrow : (s, row) ∈ sm) (hid : (d, id) ∈ row) :
    lookup2 sm s d = some id := by
  rw [lookup2_eq, alook_of_mem_nodup h.sKeys_nodup hrow]
  exact alook_of_mem_nodup (h.row_nodup (s, row) hrow) hid

structure CacheOK (sm : List (Nat × List (Nat × Nat))) (ds : List DStmt) : Prop where
  ok : ∀ s d id, lookup2 sm s d = some id →
    ∃ x, dsGet ds id = some x ∧ x.db = d ∧ x.closeCalled = false ∧ x.finalizer = false
  inj : ∀ s d s' d' id, lookup2 sm s d = some id → lookup2 sm s' d' = some id → s = s' ∧ d = d'

structure LiveOK (liveS liveD : List Nat) (sm : List (Nat × List (Nat × Nat))) (dm : List (Nat × List Nat)) : Prop where
  liveS : ∀ s ∈ liveS, (alook sm s).isSome
  liveD : ∀ d ∈ liveD, (alook dm d).isSome

/-- `prepared`: between `PrepareContext` and the write lock of `driverPrepareStmt` (cache.go:125-130) the statement is
    open, has no finalizer, is not in the cache and is known to this operation only.  `ready`: about to execute, the
    statement is open and is the operation's; it may have been evicted meanwhile (nothing on `finalizer`), and if it
    is cached, then at the operation's own slot.  No uniqueness there: a hit hands one statement to several operations. -/
structure OpsOK (ops : List (Nat × Op)) (sm : List (Nat × List (Nat × Nat))) (dm : List (Nat × List Nat))
    (ds : List DStmt) : Prop where
  nodup : (ops.map (·.1)).Nodup
  keys : ∀ t o, (t, o) ∈ ops → o.pc ≠ .done → (alook sm o.s).isSome ∧ (alook dm o.d).isSome
  prepared : ∀ t o id, (t, o) ∈ ops → o.pc = .prepared id →
    ∃ x, dsGet ds id = some x ∧ x.db = o.d ∧ x.sql = o.sql ∧ x.closeCalled = false ∧ x.finalizer = false ∧
      (∀ s d, lookup2 sm s d ≠ some id) ∧
      (∀ t' o', (t', o') ∈ ops → (o'.pc = .prepared id ∨ o'.pc = .ready id) → t' = t)
  ready : ∀ t o id, (t, o) ∈ ops → o.pc = .ready id →
    ∃ x, dsGet ds id = some x ∧ x.db = o.d ∧ x.sql = o.sql ∧ x.closeCalled = false ∧
      (∀ s d, lookup2 sm s d = some id → s = o.s ∧ d = o.d)

structure ItersOK (iters : List (Nat × Nat)) (ds : List DStmt) : Prop where
  nodup : (iters.map (·.1)).Nodup
  /-- C10: the driver-level close waits for the rows -/
  isOpen : ∀ h id, (h, id) ∈ iters → ∃ x, dsGet ds id = some x ∧ x.driverClosed = false
  waiting : ∀ id x, dsGet ds id = some x → x.closeCalled = true → x.driverClosed = false → ∃ h, (h, id) ∈ iters

/-- C11: a driver statement on which `Close` has not been called is evicted and awaits its finalizer, or is cached,
    or is held by an operation between `prepare` and `insert`: the three summands of `open_le` (Count.lean) -/
def NoLeak (ds : List DStmt) (sm : List (Nat × List (Nat × Nat))) (ops : List (Nat × Op)) : Prop :=
  ∀ id x, dsGet ds id = some x →
    x.closeCalled = true ∨ x.finalizer = true ∨ (∃ s d, lookup2 sm s d = some id) ∨
      (∃ t o, (t, o) ∈ ops ∧ o.pc = .prepared id)

structure LogOK (log : List Ev) (ds : List DStmt) : Prop where
  prep : ∀ id x, dsGet ds id = some x → Ev.prepare id x.db x.sql ∈ log
  /-- C09: an execution is preceded by the preparation of that statement with the same DB and SQL -/
  exec : ∀ (i id d q : Nat), log[i]? = some (Ev.exec id d q) → ∃ j : Nat, j < i ∧ log[j]? = some (Ev.prepare id d q)
  /-- C10: no execution hits a closed statement -/
  noEC : ∀ id, Ev.execClosed id ∉ log
  close : ∀ id, Ev.close id ∈ log → ∃ x, dsGet ds id = some x ∧ x.driverClosed = true
  /-- C11: at most one driver-level close per statement -/
  close1 : ∀ id, log.count (Ev.close id) ≤ 1
  logged : ∀ id x, dsGet ds id = some x → x.driverClosed = true → Ev.close id ∈ log
  made : ∀ id d q, Ev.prepare id d q ∈ log → ∃ x, dsGet ds id = some x ∧ x.db = d ∧ x.sql = q
  /-- C10: nothing is executed after its `close` event -/
  order : ∀ (i j id d q : Nat), log[i]? = some (Ev.close id) → log[j]? = some (Ev.exec id d q) → j < i

theorem LogOK.not_logged {log : List Ev} {ds : List DStmt} (hl : LogOK log ds) {id : Nat} {x : DStmt}
    (hx : dsGet ds id = some x) (hdc : x.driverClosed = false) : Ev.close id ∉ log := fun hm => by
  have : x.driverClosed = true := of_dsGet (hl.close id hm) hx
  rw [hdc] at this; cases this

structure Inv (st : St) : Prop where
  dsOK : DsOK st.ds
  maps : MapsOK st.stmtDB st.dbStmt st.nextS st.nextD
  cache : CacheOK st.stmtDB st.ds
  live : LiveOK st.liveS st.liveD st.stmtDB st.dbStmt
  ops : OpsOK st.ops st.stmtDB st.dbStmt st.ds
  iters : ItersOK st.iters st.ds
  noLeak : NoLeak st.ds st.stmtDB st.ops
  log : LogOK st.log st.ds

theorem Inv.driverClosed_iff_logged {st : St} (hi : Inv st) {x : DStmt} (hx : x ∈ st.ds) :
    x.driverClosed = true ↔ st.log.count (.close x.id) = 1 := by
  have hg := hi.dsOK.ids.get_of_mem hx
  constructor
  · intro hd
    exact Nat.le_antisymm (hi.log.close1 x.id) (List.count_pos_iff.2 (hi.log.logged x.id x hg hd))
  · intro hc
    exact of_dsGet (hi.log.close x.id (List.count_pos_iff.1 (hc ▸ Nat.one_pos))) hg

theorem Inv.driverClosed_of_no_iters {st : St} (hi : Inv st) (hit : st.iters = []) {x : DStmt} (hx : x ∈ st.ds)
    (hcc : x.closeCalled = true) : x.driverClosed = true := by
  cases hdc : x.driverClosed with
  | true => rfl
  | false =>
    obtain ⟨_, hm⟩ := hi.iters.waiting x.id x (hi.dsOK.ids.get_of_mem hx) hcc hdc
    rw [hit] at hm; cases hm

/-- Cache and operations refer to open table entries only: the side condition of `CacheOK.put` and `OpsOK.put_unheld`
    for an id that is not in the table yet (`prepare`) or is closed (`iterClose`). -/
theorem Inv.unreferenced {st : St} (hi : Inv st) {id : Nat} (h : ∀ x, dsGet st.ds id = some x → x.closeCalled = true) :
    (∀ s d, lookup2 st.stmtDB s d ≠ some id) ∧ ∀ t o, (t, o) ∈ st.ops → o.pc ≠ .prepared id ∧ o.pc ≠ .ready id := by
  refine ⟨fun s d hl => ?_, fun t o hm => ⟨fun hpc => ?_, fun hpc => ?_⟩⟩
  · obtain ⟨x, hx, _, hcc, _⟩ := hi.cache.ok s d id hl
    exact nomatch hcc.symm.trans (h x hx)
  · obtain ⟨x, hx, _, _, hcc, _⟩ := hi.ops.prepared t o id hm hpc
    exact nomatch hcc.symm.trans (h x hx)
  · obtain ⟨x, hx, _, _, hcc, _⟩ := hi.ops.ready t o id hm hpc
    exact nomatch hcc.symm.trans (h x hx)

/-! ### replacing one entry of the driver-statement table

Every step changes the table in at most one place: `prepare` adds an entry, `insert` marks the evicted statement,
`closeStmt` and `iterClose` update the closed one.  All of them are a `DsPut`; what each component of the
invariant needs of the new entry is stated once below. -/

def DsPut (ds ds' : List DStmt) (id : Nat) (x' : DStmt) : Prop :=
  ∀ id', dsGet ds' id' = if id' = id then some x' else dsGet ds id'

theorem DsPut.refl {ds : List DStmt} {id : Nat} {x : DStmt} (hx : dsGet ds id = some x) : DsPut ds ds id x := by
  intro id'
  by_cases e : id' = id
  · rw [if_pos e, e, hx]
  · rw [if_neg e]

theorem DsPut.upd {ds : List DStmt} {id : Nat} {x : DStmt} (hx : dsGet ds id = some x) {f : DStmt → DStmt}
    (hf : ∀ x, (f x).id = x.id) : DsPut ds (dsUpd ds id f) id (f x) := by
  intro id'; rw [dsGet_upd hf, hx]; rfl

theorem DsPut.append {ds : List DStmt} (h : IdsOK ds) {x : DStmt} (hx : x.id = ds.length + 1) :
    DsPut ds (ds ++ [x]) (ds.length + 1) x := by
  intro id'
  rw [dsGet_append, hx]
  by_cases e : id' = ds.length + 1
  · rw [if_pos e, if_pos e.symm, e, h.fresh]; rfl
  · rw [if_neg e, if_neg (Ne.symm e), Option.or_none]

section
variable {ds ds' : List DStmt} {id : Nat} {x' : DStmt} (hp : DsPut ds ds' id x')
include hp

theorem DsPut.self : dsGet ds' id = some x' := (hp id).trans (if_pos rfl)

theorem DsPut.other {id' : Nat} (e : id' ≠ id) : dsGet ds' id' = dsGet ds id' := (hp id').trans (if_neg e)

theorem DsPut.cases {id' : Nat} {y : DStmt} (hy : dsGet ds' id' = some y) :
    (id' = id ∧ y = x') ∨ (id' ≠ id ∧ dsGet ds id' = some y) := by
  by_cases e : id' = id
  · rw [hp, if_pos e] at hy; exact Or.inl ⟨e, (Option.some.inj hy).symm⟩
  · rw [hp.other e] at hy; exact Or.inr ⟨e, hy⟩

theorem DsPut.forall {P : Nat → DStmt → Prop} (h : ∀ id' y, dsGet ds id' = some y → P id' y) (hx : P id x') :
    ∀ id' y, dsGet ds' id' = some y → P id' y := by
  intro id' y hy
  rcases hp.cases hy with ⟨rfl, rfl⟩ | ⟨_, hy⟩
  · exact hx
  · exact h id' y hy

theorem DsPut.exists {Q : DStmt → Prop} {id' : Nat} (h : ∃ y, dsGet ds id' = some y ∧ Q y)
    (hx : id' = id → ∀ y, dsGet ds id = some y → Q y → Q x') : ∃ y, dsGet ds' id' = some y ∧ Q y := by
  obtain ⟨y, hy, hq⟩ := h
  by_cases e : id' = id
  · subst e; exact ⟨x', hp.self, hx rfl y hy hq⟩
  · exact ⟨y, (hp.other e).trans hy, hq⟩

end

theorem exec_append {log : List Ev} (h : ∀ (i id d q : Nat), log[i]? = some (Ev.exec id d q) → ∃ j : Nat, j < i ∧ log[j]? = some (Ev.prepare id d q))
    (e : Ev) (he : ∀ id d q, e = Ev.exec id d q → Ev.prepare id d q ∈ log) :
    ∀ (i id d q : Nat), (log ++ [e])[i]? = some (Ev.exec id d q) →
      ∃ j : Nat, j < i ∧ (log ++ [e])[j]? = some (Ev.prepare id d q) := by
  intro i id d q hi
  rw [List.getElem?_append] at hi
  split at hi
  · next hlt =>
    obtain ⟨j, hj, hj'⟩ := h i id d q hi
    exact ⟨j, hj, by rw [List.getElem?_append_left (Nat.lt_trans hj hlt)]; exact hj'⟩
  · next hge =>
    have : e = Ev.exec id d q := (List.mem_singleton.1 (List.mem_of_getElem? hi)).symm
    obtain ⟨j, hlt, hj⟩ := List.mem_iff_getElem.1 (he id d q this)
    exact ⟨j, Nat.lt_of_lt_of_le hlt (Nat.le_of_not_lt hge),
      by rw [List.getElem?_append_left hlt, List.getElem?_eq_getElem hlt, hj]⟩

section
variable {ds ds' : List DStmt} {id : Nat} {x' : DStmt} (hp : DsPut ds ds' id x')
include hp

theorem DsOK.put (hd : DsOK ds) (hids : IdsOK ds') (h1 : x'.finalizer = true → x'.closeCalled = false)
    (h2 : x'.closeCalls = if x'.closeCalled then 1 else 0) (h3 : x'.driverClosed = true → x'.closeCalled = true) :
    DsOK ds' :=
  ⟨hids, hp.forall hd.fin_open h1, hp.forall hd.calls h2, hp.forall hd.dclosed h3⟩

/-- no step replaces an entry that a slot of the cache holds -/
theorem CacheOK.put {sm : List (Nat × List (Nat × Nat))} (hc : CacheOK sm ds) (hn : ∀ s d, lookup2 sm s d ≠ some id) :
    CacheOK sm ds' :=
  ⟨fun s d _ hl => hp.exists (hc.ok s d _ hl) (fun e => absurd (e ▸ hl) (hn s d)), hc.inj⟩

theorem OpsOK.put {ops : List (Nat × Op)} {sm : List (Nat × List (Nat × Nat))} {dm : List (Nat × List Nat)} (ho : OpsOK ops sm dm ds)
    (h : ∀ t o, (t, o) ∈ ops → o.pc ≠ .prepared id ∧
      (o.pc = .ready id → x'.db = o.d ∧ x'.sql = o.sql ∧ x'.closeCalled = false)) : OpsOK ops sm dm ds' :=
  ⟨ho.nodup, ho.keys,
   fun t o _ hm hpc => hp.exists (ho.prepared t o _ hm hpc) (fun e => absurd (e ▸ hpc) (h t o hm).1),
   fun t o _ hm hpc => hp.exists (ho.ready t o _ hm hpc) (fun e _ _ hq =>
     have ⟨a, b, c⟩ := (h t o hm).2 (e ▸ hpc)
     ⟨a, b, c, hq.2.2.2⟩)⟩

theorem OpsOK.put_unheld {ops : List (Nat × Op)} {sm : List (Nat × List (Nat × Nat))} {dm : List (Nat × List Nat)}
    (ho : OpsOK ops sm dm ds) (hn : ∀ t o, (t, o) ∈ ops → o.pc ≠ .prepared id ∧ o.pc ≠ .ready id) : OpsOK ops sm dm ds' :=
  ho.put hp fun t o hm => ⟨(hn t o hm).1, fun h => absurd h (hn t o hm).2⟩

/-- the iterator table may shrink at the same time, as long as it only loses iterators on `id` -/
theorem ItersOK.put {iters iters' : List (Nat × Nat)} (hi : ItersOK iters ds) (hnd : (iters'.map (·.1)).Nodup)
    (hsub : ∀ p ∈ iters', p ∈ iters) (hkeep : ∀ h i, (h, i) ∈ iters → i ≠ id → (h, i) ∈ iters')
    (h1 : ∀ h, (h, id) ∈ iters' → x'.driverClosed = false)
    (h2 : x'.closeCalled = true → x'.driverClosed = false → ∃ h, (h, id) ∈ iters') : ItersOK iters' ds' := by
  refine ⟨hnd, fun h _ hm => hp.exists (hi.isOpen h _ (hsub _ hm)) (fun e _ _ _ => h1 h (e ▸ hm)), ?_⟩
  intro i y hy hcc hdc
  rcases hp.cases hy with ⟨rfl, rfl⟩ | ⟨e, hy⟩
  · exact h2 hcc hdc
  · obtain ⟨h, hm⟩ := hi.waiting i y hy hcc hdc
    exact ⟨h, hkeep h i hm e⟩

theorem LogOK.put {log : List Ev} (hl : LogOK log ds) {x : DStmt} (hx : dsGet ds id = some x) (hdb : x'.db = x.db)
    (hsql : x'.sql = x.sql) (hdc : x'.driverClosed = x.driverClosed) : LogOK log ds' :=
  ⟨hp.forall hl.prep (hdb ▸ hsql ▸ hl.prep id x hx), hl.exec, hl.noEC,
   fun _ hm => hp.exists (hl.close _ hm) (fun e _ _ _ => hdc.trans (of_dsGet (hl.close id (e ▸ hm)) hx)), hl.close1,
   hp.forall hl.logged fun h => hl.logged id x hx (hdc ▸ h),
   fun _ d q hm => hp.exists (hl.made _ d q hm) (fun e _ _ _ => hdb ▸ hsql ▸ of_dsGet (hl.made id d q (e ▸ hm)) hx),
   hl.order⟩

theorem LogOK.put_append {log : List Ev} (hl : LogOK log ds) {e : Ev}
    (hprep : Ev.prepare id x'.db x'.sql ∈ log ++ [e])
    (hev : match e with
      | .prepare i d q => i = id ∧ x'.db = d ∧ x'.sql = q
      | .exec i d q => Ev.prepare i d q ∈ log ∧ Ev.close i ∉ log
      | .close i => i = id ∧ Ev.close id ∉ log
      | .execClosed _ => False)
    (hdc : x'.driverClosed = true ↔ Ev.close id ∈ log ++ [e])
    (hmade : ∀ d q, Ev.prepare id d q ∈ log → x'.db = d ∧ x'.sql = q) : LogOK (log ++ [e]) ds' := by
  have hexec : ∀ i d q, e = .exec i d q → .prepare i d q ∈ log := fun i d q h => by subst h; exact hev.1
  have hec : ∀ i, e ≠ .execClosed i := fun i h => by subst h; exact hev
  have hcl : ∀ i, e = .close i → i = id ∧ Ev.close id ∉ log := fun i h => by subst h; exact hev
  have hpe : ∀ i d q, e = .prepare i d q → i = id ∧ x'.db = d ∧ x'.sql = q := fun i d q h => by subst h; exact hev
  have hne : ∀ i d q, e = .exec i d q → Ev.close i ∉ log := fun i d q h => by subst h; exact hev.2
  refine ⟨hp.forall (fun i y hy => List.mem_append_left _ (hl.prep i y hy)) hprep, exec_append hl.exec e hexec, ?_, ?_,
    ?_, hp.forall (fun i y hy h => List.mem_append_left _ (hl.logged i y hy h)) hdc.1, ?_, ?_⟩
  · intro i hm
    rcases List.mem_append.1 hm with hm | hm
    · exact hl.noEC i hm
    · exact hec i (List.mem_singleton.1 hm).symm
  · intro i hm
    by_cases hi : i = id
    · subst hi; exact ⟨x', hp.self, hdc.2 hm⟩
    · rw [hp.other hi]
      rcases List.mem_append.1 hm with hm | hm
      · exact hl.close i hm
      · exact absurd (hcl i (List.mem_singleton.1 hm).symm).1 hi
  · intro i
    rw [List.count_append, List.count_singleton]
    by_cases he : e = .close i
    · obtain ⟨rfl, hn⟩ := hcl i he
      rw [List.count_eq_zero.2 hn, if_pos (beq_iff_eq.2 he)]; exact Nat.le_refl 1
    · rw [if_neg (mt beq_iff_eq.1 he)]; exact hl.close1 i
  · intro i d q hm
    rcases List.mem_append.1 hm with hm | hm
    · exact hp.exists (hl.made i d q hm) fun e' _ _ _ => hmade d q (e' ▸ hm)
    · obtain ⟨rfl, h⟩ := hpe i d q (List.mem_singleton.1 hm).symm
      exact ⟨x', hp.self, h⟩
  · intro i j c d q h1 h2
    rw [List.getElem?_append] at h1 h2
    split at h2
    · next hj =>
      split at h1
      · exact hl.order i j c d q h1 h2
      · next hi => exact Nat.lt_of_lt_of_le hj (Nat.le_of_not_lt hi)
    · have he := (List.mem_singleton.1 (List.mem_of_getElem? h2)).symm
      split at h1
      · exact absurd (List.mem_of_getElem? h1) (hne c d q he)
      · cases he.symm.trans (List.mem_singleton.1 (List.mem_of_getElem? h1)).symm

theorem LogOK.put_close {log : List Ev} (hl : LogOK log ds) {x : DStmt} (hx : dsGet ds id = some x) (hdb : x'.db = x.db)
    (hsql : x'.sql = x.sql) (hopen : x.driverClosed = false) (hdc : x'.driverClosed = true) :
    LogOK (log ++ [.close id]) ds' :=
  hl.put_append hp (List.mem_append_left _ (hdb ▸ hsql ▸ hl.prep id x hx)) ⟨rfl, hl.not_logged hx hopen⟩
    ⟨fun _ => List.mem_append_right _ (List.mem_singleton_self _), fun _ => hdc⟩
    fun d q hm => hdb ▸ hsql ▸ of_dsGet (hl.made id d q hm) hx

end

theorem NoLeak.mono {ds : List DStmt} {sm sm' : List (Nat × List (Nat × Nat))} {ops ops' : List (Nat × Op)} (hn : NoLeak ds sm ops)
    (h : ∀ i x, dsGet ds i = some x → x.closeCalled = false → x.finalizer = false →
      ((∃ s d, lookup2 sm s d = some i) ∨ ∃ t o, (t, o) ∈ ops ∧ o.pc = .prepared i) →
      ((∃ s d, lookup2 sm' s d = some i) ∨ ∃ t o, (t, o) ∈ ops' ∧ o.pc = .prepared i)) :
    NoLeak ds sm' ops' := by
  intro i x hx
  cases hc : x.closeCalled with
  | true => exact Or.inl rfl
  | false =>
    cases hf : x.finalizer with
    | true => exact Or.inr (Or.inl rfl)
    | false =>
      refine Or.inr (Or.inr (h i x hx hc hf ?_))
      rcases hn i x hx with h | h | h | h
      · rw [hc] at h; cases h
      · rw [hf] at h; cases h
      · exact Or.inl h
      · exact Or.inr h

theorem inv_init : Inv ({} : St) where
  dsOK := ⟨rfl, fun _ _ h => (nomatch h), fun _ _ h => (nomatch h), fun _ _ h => (nomatch h)⟩
  maps := ⟨fun _ h => (nomatch h), fun _ h => (nomatch h), Nat.one_pos, Nat.one_pos, .nil, .nil, fun _ h => (nomatch h), fun _ h => (nomatch h),
    fun _ _ => ⟨fun h => (nomatch h), fun h => (h rfl).elim⟩⟩
  cache := ⟨fun _ _ _ h => (nomatch h), fun _ _ _ _ _ h => (nomatch h)⟩
  live := ⟨fun _ h => (nomatch h), fun _ h => (nomatch h)⟩
  ops := ⟨.nil, fun _ _ h => (nomatch h), fun _ _ _ h => (nomatch h), fun _ _ _ h => (nomatch h)⟩
  iters := ⟨.nil, fun _ _ h => (nomatch h), fun _ _ h => (nomatch h)⟩
  noLeak := fun _ _ h => (nomatch h)
  log := ⟨fun _ _ h => (nomatch h), fun _ _ _ _ h => (nomatch h), fun _ h => (nomatch h), fun _ h => (nomatch h),
    fun _ => Nat.zero_le _, fun _ _ h => (nomatch h), fun _ _ _ h => (nomatch h), fun _ _ _ _ _ h => (nomatch h)⟩
end Sqlair.Cache
