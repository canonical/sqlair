/-
  The micro-steps the finalizers of Statement and DB decompose into:
  `evictClose s d id` (close the statement cached at slot (s, d) and remove the slot from
  both maps), `eraseS s`, `eraseD d` (remove an emptied key).  Each preserves the invariant
  and is a `FinKeep`; the erasures decrease the measure.  ("Evict" is used for these by analogy
  only: what cache.go (l. 30-34, 133-140) calls evicting, `insert` displacing the statement of another shape, is
  `evictDs`/`markFin` in Steps.lean.)
-/
import SqlairProofs.Cache.Simple
import SqlairProofs.Cache.Close

namespace Sqlair.Cache

variable {st st' : St}

def evictClose (s d id : Nat) (st : St) : St :=
  { st.closeStmt id with
    dbStmt := delIdx (st.closeStmt id).dbStmt d s
    stmtDB := del2 (st.closeStmt id).stmtDB s d }

/-- `closeStmt` changes the table and the log only, so the maps are those of `st` with the slot removed -/
theorem evictClose_eq (s d id : Nat) (st : St) :
    evictClose s d id st =
      { st with ds := (closeRes st.ds st.iters st.log id).1, log := (closeRes st.ds st.iters st.log id).2,
                dbStmt := delIdx st.dbStmt d s, stmtDB := del2 st.stmtDB s d } := by
  unfold evictClose
  rw [closeStmt_res]

def eraseS (s : Nat) (st : St) : St := { st with stmtDB := st.stmtDB.filter (·.1 != s) }
def eraseD (d : Nat) (st : St) : St := { st with dbStmt := st.dbStmt.filter (·.1 != d) }

theorem evictClose_keep {s d id : Nat} {x : DStmt} (hx : dsGet st.ds id = some x) (hcc : x.closeCalled = false) :
    FinKeep st (evictClose s d id st) := by
  unfold evictClose
  rw [closeStmt_eq hx hcc]
  refine ⟨rfl, rfl, rfl, rfl, length_upd .., rfl, rfl, closeLog .., Nat.le_of_eq ?_⟩
  show finCount (dsUpd _ _ _) + (del2 st.stmtDB _ _).length + (delIdx st.dbStmt _ _).length = _
  rw [finCount_upd (f := closeD _) _ _ fun _ => rfl, del2_eq, delIdx_eq, length_amodify, length_amodify]
  rfl

theorem length_erase_lt {β : Type} (m : List (Nat × β)) (k : Nat) (h : (alook m k).isSome) :
    (m.filter (·.1 != k)).length < m.length := by
  have hk : k ∈ m.map (·.1) := alook_isSome_iff.1 h
  obtain ⟨p, hp, rfl⟩ := List.mem_map.1 hk
  apply List.length_filter_lt_length_iff_exists.2
  exact ⟨p, hp, by simp⟩

theorem eraseS_keep {s : Nat} (h : (alook st.stmtDB s).isSome) :
    FinKeep st (eraseS s st) ∧ gcMeasure (eraseS s st) < gcMeasure st :=
  have hlt : gcMeasure (eraseS s st) < gcMeasure st :=
    Nat.add_lt_add_right (Nat.add_lt_add_left (length_erase_lt st.stmtDB s h) _) _
  ⟨.of_maps (Nat.le_of_lt hlt), hlt⟩

theorem eraseD_keep {d : Nat} (h : (alook st.dbStmt d).isSome) :
    FinKeep st (eraseD d st) ∧ gcMeasure (eraseD d st) < gcMeasure st :=
  have hlt : gcMeasure (eraseD d st) < gcMeasure st := Nat.add_lt_add_left (length_erase_lt st.dbStmt d h) _
  ⟨.of_maps (Nat.le_of_lt hlt), hlt⟩

variable {sm : List (Nat × List (Nat × Nat))} {dm : List (Nat × List Nat)}

theorem MapsOK.del {nS nD : Nat}
    (hmp : MapsOK sm dm nS nD) (s d : Nat) : MapsOK (del2 sm s d) (delIdx dm d s) nS nD := by
  rw [del2_eq, delIdx_eq]
  refine hmp.modify s d (fun _ h => h.sublist (List.Sublist.map _ List.filter_sublist)) (fun _ h => h.filter _)
    fun s' d' => ?_
  rw [← delIdx_eq, ← del2_eq, mem_getIdx_delIdx, lookup2_del2, hmp.index]
  by_cases e : s' = s ∧ d' = d
  · simp [e]
  · have e' : ¬ (d' = d ∧ s' = s) := fun h => e ⟨h.2, h.1⟩
    simp [e, e']

theorem inv_evictClose {s d id : Nat} (hi : Inv st) (hl : lookup2 st.stmtDB s d = some id)
    (hno : ∀ t o, (t, o) ∈ st.ops → o.pc ≠ .done → ¬ (o.s = s ∧ o.d = d)) : Inv (evictClose s d id st) := by
  obtain ⟨x, hx, hdb, hcc, hfin⟩ := hi.cache.ok s d id hl
  unfold evictClose
  rw [closeStmt_eq hx hcc]
  have hr := closeRel_upd hi.dsOK hx hcc (st.iters.any (·.2 == id)) (f := closeD (st.iters.any (·.2 == id)))
    (fun _ => rfl) (by cases x; cases hfin; rfl)
  have hsub : ∀ s' d' i, lookup2 (del2 st.stmtDB s d) s' d' = some i → lookup2 st.stmtDB s' d' = some i :=
    fun _ _ _ h => (lookup2_del2_some h).2
  have hnc : ∀ s' d', lookup2 (del2 st.stmtDB s d) s' d' ≠ some id := fun _ _ h =>
    (lookup2_del2_some h).1 (hi.cache.inj _ _ _ _ _ (lookup2_del2_some h).2 hl)
  have hnh : ∀ t o, (t, o) ∈ st.ops → o.pc ≠ .prepared id ∧ o.pc ≠ .ready id := by
    refine fun t o hm => ⟨fun hpc => ?_, fun hpc => ?_⟩
    · obtain ⟨_, _, _, _, _, _, h6, _⟩ := hi.ops.prepared t o id hm hpc
      exact h6 s d hl
    · obtain ⟨_, _, _, _, _, h5⟩ := hi.ops.ready t o id hm hpc
      have := h5 s d hl
      exact hno t o hm (by simp [hpc]) ⟨this.1.symm, this.2.symm⟩
  exact {
    dsOK := hr.dsOK hi.dsOK
    maps := hi.maps.del s d
    cache := (hi.cache.of_maps hsub).put hr.put hnc
    live := ⟨fun s' hs' => by rw [del2_eq, isSome_alook_modify]; exact hi.live.liveS s' hs',
             fun d' hd' => by rw [delIdx_eq, isSome_alook_modify]; exact hi.live.liveD d' hd'⟩
    ops := (hi.ops.of_maps (fun _ _ _ _ h => by rw [del2_eq, isSome_alook_modify]; exact h)
      (fun _ _ _ _ h => by rw [delIdx_eq, isSome_alook_modify]; exact h) fun s d i h => Or.inl (hsub s d i h)).put_unheld hr.put hnh
    iters := hr.iters hi.iters rfl
    noLeak := NoLeak.mono (hr.noLeak hi.noLeak) fun i z hz hzc _ h => h.imp_left fun ⟨s', d', h⟩ => by
      refine ⟨s', d', ?_⟩
      rw [lookup2_del2, if_neg]; exact h
      rintro ⟨rfl, rfl⟩
      rw [hl] at h; cases h
      rw [hr.closed hz] at hzc; cases hzc
    log := hr.log hi.dsOK hi.log }

theorem inv_eraseS {s : Nat} (hi : Inv st) (hrow : ∀ d, lookup2 st.stmtDB s d = none)
    (hlive : s ∉ st.liveS) (hno : ∀ t o, (t, o) ∈ st.ops → o.pc ≠ .done → o.s ≠ s) : Inv (eraseS s st) := by
  have hmp := hi.maps
  refine hi.of_stmtDB (sm' := st.stmtDB.filter (·.1 != s)) (fun s' d' => ?_)
    (fun p hp => hmp.sKeys_lt p (List.mem_filter.1 hp).1) hmp.sPos
    (hmp.sKeys_nodup.sublist (List.Sublist.map _ List.filter_sublist))
    (fun p hp => hmp.row_nodup p (List.mem_filter.1 hp).1) (fun s' hs' => ?_) fun t o hm hpc => ?_
  · -- the row that goes was empty
    rw [lookup2_erase]
    split
    · next e => rw [e, hrow]
    · rfl
  · rw [alook_erase, if_neg]; exact hi.live.liveS s' hs'
    rintro rfl; exact hlive hs'
  · rw [alook_erase, if_neg (hno t o hm hpc)]; exact (hi.ops.keys t o hm hpc).1

theorem inv_eraseD {d : Nat} (hi : Inv st) (hidx : getIdx st.dbStmt d = [])
    (hlive : d ∉ st.liveD) (hno : ∀ t o, (t, o) ∈ st.ops → o.pc ≠ .done → o.d ≠ d) : Inv (eraseD d st) := by
  have hmp := hi.maps
  refine hi.of_dbStmt (dm' := st.dbStmt.filter (·.1 != d)) (fun d' => ?_)
    (fun p hp => hmp.dKeys_lt p (List.mem_filter.1 hp).1) hmp.dPos
    (hmp.dKeys_nodup.sublist (List.Sublist.map _ List.filter_sublist))
    (fun p hp => hmp.idx_nodup p (List.mem_filter.1 hp).1) (fun d' hd' => ?_) fun t o hm hpc => ?_
  · rw [getIdx_erase]
    split
    · next e => rw [e, hidx]
    · rfl
  · rw [alook_erase, if_neg]; exact hi.live.liveD d' hd'
    rintro rfl; exact hlive hd'
  · rw [alook_erase, if_neg (hno t o hm hpc)]; exact (hi.ops.keys t o hm hpc).2

end Sqlair.Cache
