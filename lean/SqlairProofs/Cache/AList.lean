/-
  Algebra of the association-list helpers of SqlairModel/Cache.lean.
-/
import SqlairModel.Cache
import SqlairProofs.Basics

namespace Sqlair.Cache

def alook {β : Type} (m : List (Nat × β)) (k : Nat) : Option β := (m.find? (·.1 == k)).map (·.2)

def hasKey {β : Type} (m : List (Nat × β)) (k : Nat) : Prop := ∃ v, alook m k = some v

@[simp] theorem alook_nil {β : Type} (k : Nat) : alook ([] : List (Nat × β)) k = none := rfl

variable {β : Type}

theorem alook_cons (p : Nat × β) (m : List (Nat × β)) (k : Nat) :
    alook (p :: m) k = if p.1 = k then some p.2 else alook m k := by
  unfold alook
  by_cases h : p.1 = k <;> simp [h]

theorem alook_of_find? {m : List (Nat × β)} {k : Nat} {p : Nat × β} (h : m.find? (·.1 == k) = some p) :
    alook m k = some p.2 := by
  unfold alook
  rw [h]; rfl

theorem alook_some_mem {m : List (Nat × β)} {k : Nat} {v : β} (h : alook m k = some v) :
    (k, v) ∈ m := mem_of_assoc h

theorem alook_none_iff {m : List (Nat × β)} {k : Nat} :
    alook m k = none ↔ ∀ p ∈ m, p.1 ≠ k := by
  simp only [alook, Option.map_eq_none_iff, List.find?_eq_none, beq_iff_eq, ne_eq]

theorem alook_isSome_iff {m : List (Nat × β)} {k : Nat} :
    (alook m k).isSome ↔ k ∈ m.map (·.1) := by
  simp only [alook, Option.isSome_map, List.find?_isSome, List.mem_map, beq_iff_eq]

theorem any_key_iff_mem {m : List (Nat × β)} {k : Nat} :
    m.any (·.1 == k) = true ↔ k ∈ m.map (·.1) := by
  simp only [List.any_eq_true, List.mem_map, beq_iff_eq]

theorem any_snd_iff_mem {m : List (Nat × Nat)} {v : Nat} : m.any (·.2 == v) = true ↔ ∃ k, (k, v) ∈ m := by
  rw [List.any_eq_true]
  constructor
  · rintro ⟨p, hp, e⟩
    exact ⟨p.1, by rw [← beq_iff_eq.1 e]; exact hp⟩
  · rintro ⟨k, hk⟩
    exact ⟨(k, v), hk, beq_self_eq_true v⟩

theorem alook_of_mem_nodup {m : List (Nat × β)} {k : Nat} {v : β}
    (hn : (m.map (·.1)).Nodup) (h : (k, v) ∈ m) : alook m k = some v := (assoc_iff_mem hn).2 h

theorem alook_append (m m' : List (Nat × β)) (k : Nat) :
    alook (m ++ m') k = (alook m k).or (alook m' k) := by
  unfold alook
  rw [List.find?_append]
  cases m.find? (·.1 == k) <;> rfl

theorem alook_mapVal {γ : Type} (g : Nat → β → γ) (m : List (Nat × β)) (k : Nat) :
    alook (m.map fun p => (p.1, g p.1 p.2)) k = (alook m k).map (g k) := by
  unfold alook
  rw [find?_map_keys (fun p : Nat × β => (p.1, g p.1 p.2)) (fun _ => rfl)]
  cases hf : m.find? (·.1 == k) with
  | none => rfl
  | some p =>
    show some (g p.1 p.2) = some (g k p.2)
    rw [beq_iff_eq.1 (List.find?_some (p := fun x : Nat × β => x.1 == k) hf)]

/-- the common shape of `set2`, `del2`, `addIdx`, `delIdx`; every entry with the key is modified, not only the first -/
def amodify {β : Type} (m : List (Nat × β)) (s : Nat) (f : β → β) : List (Nat × β) :=
  m.map fun p => if p.1 == s then (p.1, f p.2) else (p.1, p.2)

theorem amodify_eq (m : List (Nat × β)) (s : Nat) (f : β → β) :
    amodify m s f = m.map fun p => (p.1, if p.1 = s then f p.2 else p.2) := by
  apply List.map_congr_left
  intro p _
  by_cases h : p.1 = s <;> simp [h]

theorem alook_modify (m : List (Nat × β)) (s : Nat) (f : β → β) (k : Nat) :
    alook (amodify m s f) k = if k = s then (alook m s).map f else alook m k := by
  rw [amodify_eq, alook_mapVal fun k v => if k = s then f v else v]
  by_cases h : k = s
  · subst h; simp only [↓reduceIte]
  · simp [h]

theorem isSome_alook_modify (m : List (Nat × β)) (s : Nat) (f : β → β) (k : Nat) :
    (alook (amodify m s f) k).isSome = (alook m k).isSome := by
  rw [amodify_eq, alook_mapVal fun k v => if k = s then f v else v, Option.isSome_map]

theorem keys_modify (m : List (Nat × β)) (s : Nat) (f : β → β) :
    (amodify m s f).map (·.1) = m.map (·.1) := by
  rw [amodify_eq, List.map_map]; rfl

theorem length_amodify (m : List (Nat × β)) (s : Nat) (f : β → β) : (amodify m s f).length = m.length := by
  rw [← List.length_map (f := (·.1)), keys_modify, List.length_map]

theorem forall_mem_amodify {m : List (Nat × β)} {s : Nat} {f : β → β} {P : Nat → β → Prop}
    (h : ∀ p ∈ m, P p.1 p.2) (hf : ∀ v, P s v → P s (f v)) : ∀ p ∈ amodify m s f, P p.1 p.2 := by
  intro p hp
  rw [amodify_eq] at hp
  obtain ⟨⟨k, v⟩, hq, rfl⟩ := List.mem_map.1 hp
  by_cases e : k = s
  · subst e; rw [if_pos rfl]; exact hf v (h _ hq)
  · rw [if_neg e]; exact h _ hq

theorem filter_amodify (m : List (Nat × β)) (s : Nat) (f : β → β) :
    (amodify m s f).filter (·.1 != s) = m.filter (·.1 != s) := by
  induction m with
  | nil => rfl
  | cons p m ih =>
    rw [amodify, List.map_cons, ← amodify]
    by_cases e : p.1 = s <;> simp [e, ih]

theorem alook_erase (m : List (Nat × β)) (s : Nat) (k : Nat) :
    alook (m.filter (·.1 != s)) k = if k = s then none else alook m k := by
  unfold alook
  rw [List.find?_filter]
  by_cases h : k = s
  · rw [if_pos h, List.find?_eq_none.2 fun a _ => by simp [h]]; rfl
  · rw [if_neg h]
    congr 2
    funext a
    by_cases e : a.1 = k <;> simp [e, h]

theorem nodup_concat {α : Type} {l : List α} {a : α} (h : l.Nodup) (ha : a ∉ l) : (l ++ [a]).Nodup :=
  List.nodup_append.2 ⟨h, List.pairwise_singleton _ _, fun _ hx _ hy e => ha (List.mem_singleton.1 hy ▸ e ▸ hx)⟩

theorem alook_append_isSome {β : Type} {m : List (Nat × β)} {k : Nat} (m' : List (Nat × β))
    (h : (alook m k).isSome) : (alook (m ++ m') k).isSome := by
  obtain ⟨v, hv⟩ := Option.isSome_iff_exists.1 h
  rw [alook_append, hv]; rfl

/-- insert-or-replace, the shape used by `set2`'s row update and by `setOp` -/
def ainsert {β : Type} (m : List (Nat × β)) (k : Nat) (v : β) : List (Nat × β) :=
  if m.any (·.1 == k) then m.map (fun p => if p.1 == k then (k, v) else p) else m ++ [(k, v)]

theorem replace_eq (m : List (Nat × β)) (k : Nat) (v : β) :
    (m.map fun p => if p.1 == k then (k, v) else p) = amodify m k fun _ => v := by
  apply List.map_congr_left
  intro p _
  by_cases h : p.1 = k <;> simp [h]

theorem alook_ainsert (m : List (Nat × β)) (k : Nat) (v : β) (k' : Nat) :
    alook (ainsert m k v) k' = if k' = k then some v else alook m k' := by
  unfold ainsert
  split
  · next h =>
    obtain ⟨w, hw⟩ := Option.isSome_iff_exists.1 (alook_isSome_iff.2 (any_key_iff_mem.1 h))
    rw [replace_eq, alook_modify, hw]; rfl
  · next h =>
    have hn : alook m k = none := by
      rw [← Option.not_isSome_iff_eq_none, alook_isSome_iff]; exact mt any_key_iff_mem.2 h
    rw [alook_append, alook_cons, alook_nil]
    by_cases e : k' = k
    · rw [if_pos e, if_pos e.symm, e, hn]; rfl
    · rw [if_neg e, if_neg (Ne.symm e), Option.or_none]

theorem mem_ainsert {m : List (Nat × β)} {k : Nat} {v : β} {p : Nat × β} :
    p ∈ ainsert m k v ↔ p = (k, v) ∨ (p ∈ m ∧ p.1 ≠ k) := by
  unfold ainsert
  split
  · next h =>
    obtain ⟨q, hq, hk⟩ := List.any_eq_true.1 h
    rw [List.mem_map]
    constructor
    · rintro ⟨q, hq, rfl⟩
      by_cases e : q.1 = k
      · exact Or.inl (if_pos (beq_iff_eq.2 e))
      · rw [if_neg (mt beq_iff_eq.1 e)]; exact Or.inr ⟨hq, e⟩
    · rintro (rfl | ⟨hp, hne⟩)
      · exact ⟨q, hq, if_pos hk⟩
      · exact ⟨p, hp, if_neg (mt beq_iff_eq.1 hne)⟩
  · next h =>
    rw [List.mem_append, List.mem_singleton]
    constructor
    · rintro (hp | rfl)
      · exact Or.inr ⟨hp, fun e => h (List.any_eq_true.2 ⟨p, hp, beq_iff_eq.2 e⟩)⟩
      · exact Or.inl rfl
    · rintro (rfl | ⟨hp, _⟩)
      · exact Or.inr rfl
      · exact Or.inl hp

theorem keys_ainsert_nodup {m : List (Nat × β)} {k : Nat} {v : β}
    (h : (m.map (·.1)).Nodup) : ((ainsert m k v).map (·.1)).Nodup := by
  unfold ainsert
  split
  · rw [replace_eq, keys_modify]; exact h
  · next hk => exact nodup_append_key v h hk

theorem lookup2_eq (m : List (Nat × List (Nat × Nat))) (s d : Nat) :
    lookup2 m s d = (alook m s).bind (fun row => alook row d) := by
  unfold lookup2 alook
  cases m.find? (·.1 == s) <;> rfl

theorem set2_eq (m : List (Nat × List (Nat × Nat))) (s d v : Nat) :
    set2 m s d v = amodify m s fun row => ainsert row d v := rfl

theorem del2_eq (m : List (Nat × List (Nat × Nat))) (s d : Nat) :
    del2 m s d = amodify m s fun row => row.filter (·.1 != d) := rfl

theorem addIdx_eq (m : List (Nat × List Nat)) (d s : Nat) :
    addIdx m d s = amodify m d fun l => if l.contains s then l else l ++ [s] := rfl

theorem delIdx_eq (m : List (Nat × List Nat)) (d s : Nat) :
    delIdx m d s = amodify m d fun l => l.filter (· != s) := rfl

theorem lookup2_modify (m : List (Nat × List (Nat × Nat))) (s : Nat) {f : List (Nat × Nat) → List (Nat × Nat)}
    {d : Nat} {c : Option Nat} (hf : ∀ row d', alook (f row) d' = if d' = d then c else alook row d') (s' d' : Nat) :
    lookup2 (amodify m s f) s' d' =
      if s' = s ∧ d' = d then (alook m s).bind fun _ => c else lookup2 m s' d' := by
  rw [lookup2_eq, lookup2_eq, alook_modify]
  by_cases h : s' = s
  · subst h
    cases alook m s' <;> simp [hf]
  · simp [h]

theorem lookup2_set2 (m : List (Nat × List (Nat × Nat))) (s d v s' d' : Nat) :
    lookup2 (set2 m s d v) s' d' =
      if s' = s ∧ d' = d then (alook m s).bind (fun _ => some v) else lookup2 m s' d' :=
  lookup2_modify m s (fun row => alook_ainsert row d v) s' d'

theorem lookup2_del2 (m : List (Nat × List (Nat × Nat))) (s d s' d' : Nat) :
    lookup2 (del2 m s d) s' d' = if s' = s ∧ d' = d then none else lookup2 m s' d' := by
  rw [del2_eq, lookup2_modify m s (fun row => alook_erase row d) s' d']
  cases alook m s <;> rfl

theorem lookup2_set2_some {m : List (Nat × List (Nat × Nat))} {s d v s' d' i : Nat}
    (h : lookup2 (set2 m s d v) s' d' = some i) :
    (s' = s ∧ d' = d) ∧ i = v ∨ ¬ (s' = s ∧ d' = d) ∧ lookup2 m s' d' = some i := by
  rw [lookup2_set2] at h
  split at h
  · next e =>
    obtain ⟨_, _, h⟩ := Option.bind_eq_some_iff.1 h
    exact Or.inl ⟨e, (Option.some.inj h).symm⟩
  · next e => exact Or.inr ⟨e, h⟩

theorem lookup2_del2_some {m : List (Nat × List (Nat × Nat))} {s d s' d' i : Nat}
    (h : lookup2 (del2 m s d) s' d' = some i) : ¬ (s' = s ∧ d' = d) ∧ lookup2 m s' d' = some i := by
  rw [lookup2_del2] at h
  split at h
  · cases h
  · next e => exact ⟨e, h⟩

theorem lookup2_append_empty (m : List (Nat × List (Nat × Nat))) (k s d : Nat) :
    lookup2 (m ++ [(k, [])]) s d = lookup2 m s d := by
  rw [lookup2_eq, lookup2_eq, alook_append]
  cases alook m s with
  | some row => rfl
  | none => rw [Option.none_or, alook_cons]; split <;> rfl

theorem lookup2_erase (m : List (Nat × List (Nat × Nat))) (k s d : Nat) :
    lookup2 (m.filter (·.1 != k)) s d = if s = k then none else lookup2 m s d := by
  rw [lookup2_eq, lookup2_eq, alook_erase]
  split <;> rfl

theorem alook_of_lookup2 {m : List (Nat × List (Nat × Nat))} {s d id : Nat}
    (h : lookup2 m s d = some id) : ∃ row, alook m s = some row ∧ alook row d = some id := by
  rw [lookup2_eq] at h
  exact Option.bind_eq_some_iff.1 h

/-- the list that the `finD` case of `step` iterates over -/
def getIdx (m : List (Nat × List Nat)) (d : Nat) : List Nat := (alook m d).getD []

theorem mem_getIdx_addIdx (m : List (Nat × List Nat)) (d s d' s' : Nat) :
    s' ∈ getIdx (addIdx m d s) d' ↔ s' ∈ getIdx m d' ∨ (d' = d ∧ s' = s ∧ (alook m d).isSome) := by
  unfold getIdx
  rw [addIdx_eq, alook_modify]
  by_cases h1 : d' = d
  · subst h1
    cases alook m d' with
    | none => simp
    | some l =>
      by_cases hc : s ∈ l
      · simp only [if_true, Option.map_some, Option.getD_some, List.contains_iff_mem, if_pos hc, Option.isSome_some,
          and_true, true_and]
        exact ⟨Or.inl, fun h => h.elim id (· ▸ hc)⟩
      · simp [hc]
  · simp [h1]

theorem mem_getIdx_delIdx (m : List (Nat × List Nat)) (d s d' s' : Nat) :
    s' ∈ getIdx (delIdx m d s) d' ↔ s' ∈ getIdx m d' ∧ ¬ (d' = d ∧ s' = s) := by
  unfold getIdx
  rw [delIdx_eq, alook_modify]
  by_cases h1 : d' = d
  · subst h1
    cases alook m d' <;> simp
  · simp [h1]

theorem getIdx_append_empty (m : List (Nat × List Nat)) (k d : Nat) :
    getIdx (m ++ [(k, [])]) d = getIdx m d := by
  unfold getIdx
  rw [alook_append]
  cases alook m d with
  | some row => rfl
  | none => rw [Option.none_or, alook_cons]; split <;> rfl

theorem getIdx_erase (m : List (Nat × List Nat)) (k d : Nat) :
    getIdx (m.filter (·.1 != k)) d = if d = k then [] else getIdx m d := by
  unfold getIdx
  rw [alook_erase]
  split <;> rfl

end Sqlair.Cache
