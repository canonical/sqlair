/-
  Counting: open driver statements vs. cache entries, evicted statements and operations
  between `prepare` and `insert`; cache entries vs. the key sets.
-/
import SqlairProofs.Cache.Close

namespace Sqlair.Cache

variable {st st' : St}

def openCount (st : St) : Nat := (st.ds.filter (fun x => !x.closeCalled)).length

def entryCount (st : St) : Nat := (st.stmtDB.map (·.2.length)).sum

def Op.isPrepared (o : Op) : Bool := match o.pc with | .prepared _ => true | _ => false

def preparedCount (st : St) : Nat := (st.ops.filter (fun p => p.2.isPrepared)).length

/-- only used under `isPrepared`; 0 for the others -/
def Op.preparedId (o : Op) : Nat := match o.pc with | .prepared id => id | _ => 0

theorem finCount_eq (ds : List DStmt) : finCount ds = (ds.filter (·.finalizer)).length := by
  unfold finCount
  rw [List.count_eq_countP, List.countP_map, List.countP_eq_length_filter]
  congr 1
  apply List.filter_congr
  intro x _
  simp

theorem open_le (hi : Inv st) : openCount st ≤ entryCount st + finCount st.ds + preparedCount st := by
  -- the ids of the open statements are distinct, and by `NoLeak` each is cached, evicted or just prepared
  let openIds := (st.ds.filter (fun x => !x.closeCalled)).map (·.id)
  let cacheIds := st.stmtDB.flatMap (fun p => p.2.map (·.2))
  let finIds := (st.ds.filter (·.finalizer)).map (·.id)
  let prepIds := (st.ops.filter (fun p => p.2.isPrepared)).map (·.2.preparedId)
  have hnd : openIds.Nodup := by
    have : (st.ds.map (·.id)).Nodup := by rw [hi.dsOK.ids]; exact List.nodup_range'
    exact this.sublist (List.Sublist.map _ List.filter_sublist)
  have hsub : openIds ⊆ cacheIds ++ finIds ++ prepIds := by
    intro i hi'
    obtain ⟨x, hx, rfl⟩ := List.mem_map.1 hi'
    obtain ⟨hxm, hxc⟩ := List.mem_filter.1 hx
    simp only [Bool.not_eq_true'] at hxc
    have hg := hi.dsOK.ids.get_of_mem hxm
    rcases hi.noLeak x.id x hg with h | h | ⟨s, d, h⟩ | ⟨t, o, hm, hpc⟩
    · rw [hxc] at h; cases h
    · apply List.mem_append_left; apply List.mem_append_right
      exact List.mem_map.2 ⟨x, List.mem_filter.2 ⟨hxm, h⟩, rfl⟩
    · apply List.mem_append_left; apply List.mem_append_left
      obtain ⟨row, hrow, hid⟩ := alook_of_lookup2 h
      exact List.mem_flatMap.2 ⟨(s, row), alook_some_mem hrow, List.mem_map.2 ⟨(d, x.id), alook_some_mem hid, rfl⟩⟩
    · apply List.mem_append_right
      refine List.mem_map.2 ⟨(t, o), List.mem_filter.2 ⟨hm, ?_⟩, ?_⟩
      · show o.isPrepared = true
        rw [Op.isPrepared, hpc]
      · show o.preparedId = x.id
        rw [Op.preparedId, hpc]
  have := hnd.length_le_of_subset hsub
  simp only [openIds, cacheIds, finIds, prepIds, List.length_append, List.length_map, List.length_flatMap] at this
  rw [finCount_eq]
  exact this

theorem open_le_of_no_prepared (hi : Inv st) (hno : ∀ p ∈ st.ops, p.2.isPrepared = false) :
    openCount st ≤ entryCount st + finCount st.ds := by
  have h0 : preparedCount st = 0 :=
    List.length_eq_zero_iff.2 (List.filter_eq_nil_iff.2 fun p hp => by rw [hno p hp]; exact Bool.false_ne_true)
  have := open_le hi
  rwa [h0] at this

theorem sum_map_le {α : Type} (f : α → Nat) (b : Nat) : ∀ (l : List α), (∀ a ∈ l, f a ≤ b) → (l.map f).sum ≤ l.length * b := by
  intro l
  induction l with
  | nil => intro _; exact Nat.zero_le _
  | cons a l ih =>
    intro h
    rw [List.map_cons, List.sum_cons, List.length_cons, Nat.add_mul, Nat.one_mul, Nat.add_comm]
    exact Nat.add_le_add (ih fun a ha => h a (List.mem_cons_of_mem _ ha)) (h a List.mem_cons_self)

theorem entries_le (hi : Inv st) : entryCount st ≤ st.stmtDB.length * st.dbStmt.length := by
  unfold entryCount
  apply sum_map_le
  intro p hp
  have hnd := hi.maps.row_nodup p hp
  have hsub : p.2.map (·.1) ⊆ st.dbStmt.map (·.1) := by
    intro d hd
    obtain ⟨q, hq, rfl⟩ := List.mem_map.1 hd
    have hidx := (hi.maps.index p.1 q.1).2 (by rw [hi.maps.lookup2_of_mem (row := p.2) hp (id := q.2) hq]; nofun)
    apply alook_isSome_iff.1
    unfold getIdx at hidx
    cases h : alook st.dbStmt q.1 with
    | none => rw [h] at hidx; simp at hidx
    | some l => rfl
  have := hnd.length_le_of_subset hsub
  simpa using this

end Sqlair.Cache
