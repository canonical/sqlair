/-
  Preservation of the invariant by the steps that do not close anything: newS, newD, dropS,
  dropD, query, lookup, prepare, exec; what an enabled `exec` does in a state that satisfies the
  invariant (`Inv.step_exec`).  Before them the component-level lemmas that these proofs and
  Insert, Evict, Fin share: one entry of the operation table replaced, the two maps changed.
-/
import SqlairProofs.Cache.Steps

namespace Sqlair.Cache

variable {st st' : St}

def Op.holds (o : Op) (id : Nat) : Prop := o.pc = .prepared id ∨ o.pc = .ready id

section
variable {sm sm' : List (Nat × List (Nat × Nat))} {dm dm' : List (Nat × List Nat)} {ds : List DStmt}

theorem OpsOK.of_maps {ops : List (Nat × Op)} (ho : OpsOK ops sm dm ds)
    (hs : ∀ t o, (t, o) ∈ ops → o.pc ≠ .done → (alook sm o.s).isSome → (alook sm' o.s).isSome)
    (hd : ∀ t o, (t, o) ∈ ops → o.pc ≠ .done → (alook dm o.d).isSome → (alook dm' o.d).isSome)
    (hl : ∀ s d i, lookup2 sm' s d = some i → lookup2 sm s d = some i ∨
      ∀ t o, (t, o) ∈ ops → o.pc ≠ .prepared i ∧ (o.pc = .ready i → s = o.s ∧ d = o.d)) :
    OpsOK ops sm' dm' ds := by
  refine ⟨ho.nodup, fun t o hm hpc => ⟨hs t o hm hpc (ho.keys t o hm hpc).1, hd t o hm hpc (ho.keys t o hm hpc).2⟩, ?_, ?_⟩
  · intro t o i hm hpc
    obtain ⟨y, h1, h2, h3, h4, h5, h6, h7⟩ := ho.prepared t o i hm hpc
    exact ⟨y, h1, h2, h3, h4, h5, fun s d h => (hl s d i h).elim (h6 s d) fun hn => (hn t o hm).1 hpc, h7⟩
  · intro t o i hm hpc
    obtain ⟨y, h1, h2, h3, h4, h5⟩ := ho.ready t o i hm hpc
    exact ⟨y, h1, h2, h3, h4, fun s d h => (hl s d i h).elim (h5 s d) fun hn => (hn t o hm).2 hpc⟩

theorem CacheOK.of_maps (hc : CacheOK sm ds) (hl : ∀ s d i, lookup2 sm' s d = some i → lookup2 sm s d = some i) :
    CacheOK sm' ds :=
  ⟨fun s d i h => hc.ok s d i (hl s d i h), fun s d s' d' i h h' => hc.inj s d s' d' i (hl s d i h) (hl s' d' i h')⟩

theorem MapsOK.modify {nS nD : Nat}
    (hmp : MapsOK sm dm nS nD) (s d : Nat) {f : List (Nat × Nat) → List (Nat × Nat)} {g : List Nat → List Nat}
    (hf : ∀ r, (r.map (·.1)).Nodup → ((f r).map (·.1)).Nodup) (hg : ∀ l, l.Nodup → (g l).Nodup)
    (hidx : ∀ s' d', s' ∈ getIdx (amodify dm d g) d' ↔ lookup2 (amodify sm s f) s' d' ≠ none) :
    MapsOK (amodify sm s f) (amodify dm d g) nS nD :=
  ⟨forall_mem_amodify (P := fun k _ => 0 < k ∧ k < nS) hmp.sKeys_lt fun _ h => h,
   forall_mem_amodify (P := fun k _ => 0 < k ∧ k < nD) hmp.dKeys_lt fun _ h => h, hmp.sPos, hmp.dPos,
   keys_modify sm s f ▸ hmp.sKeys_nodup, keys_modify dm d g ▸ hmp.dKeys_nodup,
   forall_mem_amodify (P := fun _ r => (r.map (·.1)).Nodup) hmp.row_nodup fun r => hf r,
   forall_mem_amodify (P := fun _ l => l.Nodup) hmp.idx_nodup fun l => hg l, hidx⟩

/-- `hold`: what the new entry must bring if it holds a statement.  In both cases no other operation has that statement
    `prepared`; one that is `prepared` here is not `ready` elsewhere either. -/
theorem OpsOK.set {ops : List (Nat × Op)} (h : OpsOK ops sm dm ds) (t : Nat) (o' : Op)
    (hk : o'.pc ≠ .done → (alook sm o'.s).isSome ∧ (alook dm o'.d).isSome)
    (hold : match o'.pc with
      | .prepared id =>
        ∃ x, dsGet ds id = some x ∧ x.db = o'.d ∧ x.sql = o'.sql ∧ x.closeCalled = false ∧ x.finalizer = false ∧
          (∀ s d, lookup2 sm s d ≠ some id) ∧
          (∀ t'' o'', (t'', o'') ∈ ops → t'' ≠ t → o''.pc ≠ .prepared id ∧ o''.pc ≠ .ready id)
      | .ready id =>
        ∃ x, dsGet ds id = some x ∧ x.db = o'.d ∧ x.sql = o'.sql ∧ x.closeCalled = false ∧
          (∀ s d, lookup2 sm s d = some id → s = o'.s ∧ d = o'.d) ∧
          (∀ t'' o'', (t'', o'') ∈ ops → t'' ≠ t → o''.pc ≠ .prepared id)
      | _ => True) :
    OpsOK (ainsert ops t o') sm dm ds := by
  constructor
  · exact keys_ainsert_nodup h.nodup
  · intro t1 o1 hm hpc
    rcases mem_ainsert.1 hm with e | ⟨hm, hne⟩
    · cases e; exact hk hpc
    · exact h.keys t1 o1 hm hpc
  · intro t1 o1 id hm hpc
    rcases mem_ainsert.1 hm with e | ⟨hm, hne⟩
    · cases e
      rw [hpc] at hold
      obtain ⟨x, h1, h2, h3, h4, h5, h6, h7⟩ := hold
      refine ⟨x, h1, h2, h3, h4, h5, h6, ?_⟩
      intro t2 o2 hm2 hh
      rcases mem_ainsert.1 hm2 with e | ⟨hm2, hne2⟩
      · cases e; rfl
      · exact (hh.elim (h7 t2 o2 hm2 hne2).1 (h7 t2 o2 hm2 hne2).2).elim
    · obtain ⟨x, h1, h2, h3, h4, h5, h6, h7⟩ := h.prepared t1 o1 id hm hpc
      refine ⟨x, h1, h2, h3, h4, h5, h6, ?_⟩
      intro t2 o2 hm2 hh
      rcases mem_ainsert.1 hm2 with e | ⟨hm2, hne2⟩
      · cases e
        exfalso
        rcases hh with hh | hh <;> rw [hh] at hold
        · obtain ⟨_, _, _, _, _, _, _, h8⟩ := hold
          exact (h8 t1 o1 hm hne).1 hpc
        · obtain ⟨_, _, _, _, _, _, h8⟩ := hold
          exact h8 t1 o1 hm hne hpc
      · exact h7 t2 o2 hm2 hh
  · intro t1 o1 id hm hpc
    rcases mem_ainsert.1 hm with e | ⟨hm, hne⟩
    · cases e
      rw [hpc] at hold
      obtain ⟨x, h1, h2, h3, h4, h5, _⟩ := hold
      exact ⟨x, h1, h2, h3, h4, h5⟩
    · exact h.ready t1 o1 id hm hpc

theorem NoLeak.set {ops : List (Nat × Op)} (h : NoLeak ds sm ops) (t : Nat) (o' : Op)
    (hn : ∀ o id, (t, o) ∈ ops → o.pc = .prepared id → o'.pc = .prepared id) :
    NoLeak ds sm (ainsert ops t o') :=
  h.mono fun id _ _ _ _ => Or.imp_right fun ⟨t1, o1, hm, hpc⟩ => by
    by_cases e : t1 = t
    · subst e
      exact ⟨t1, o', mem_ainsert.2 (Or.inl rfl), hn o1 id hm hpc⟩
    · exact ⟨t1, o1, mem_ainsert.2 (Or.inr ⟨hm, e⟩), hpc⟩

theorem OpsOK.mem_of_alook {ops : List (Nat × Op)} {t : Nat} {o : Op} (h : alook ops t = some o) : (t, o) ∈ ops :=
  alook_some_mem h

theorem Inv.noLeak_set (hi : Inv st) {t : Nat} {o : Op} (ho : alook st.ops t = some o)
    (hpc : ∀ id, o.pc ≠ .prepared id) (o' : Op) : NoLeak st.ds st.stmtDB (ainsert st.ops t o') :=
  hi.noLeak.set t o' fun o2 id hm2 hpc2 => by
    cases ho.symm.trans (alook_of_mem_nodup hi.ops.nodup hm2)
    exact absurd hpc2 (hpc id)

end

theorem Inv.of_stmtDB (hi : Inv st) {sm' : List (Nat × List (Nat × Nat))} {n : Nat} {lS : List Nat} (hlk : ∀ s d, lookup2 sm' s d = lookup2 st.stmtDB s d)
    (hlt : ∀ p ∈ sm', 0 < p.1 ∧ p.1 < n) (hn : 0 < n) (hnd : (sm'.map (·.1)).Nodup) (hrow : ∀ p ∈ sm', (p.2.map (·.1)).Nodup)
    (hlive : ∀ s ∈ lS, (alook sm' s).isSome)
    (hops : ∀ t o, (t, o) ∈ st.ops → o.pc ≠ .done → (alook sm' o.s).isSome) :
    Inv { st with stmtDB := sm', nextS := n, liveS := lS } :=
  { hi with
    maps := ⟨hlt, hi.maps.dKeys_lt, hn, hi.maps.dPos, hnd, hi.maps.dKeys_nodup, hrow, hi.maps.idx_nodup,
      fun s d => hlk s d ▸ hi.maps.index s d⟩
    cache := hi.cache.of_maps fun s d _ h => hlk s d ▸ h
    live := ⟨hlive, hi.live.liveD⟩
    ops := hi.ops.of_maps (fun t o hm hpc _ => hops t o hm hpc) (fun _ _ _ _ h => h) fun s d _ h => Or.inl (hlk s d ▸ h)
    noLeak := hi.noLeak.mono fun _ _ _ _ _ h => h.imp_left fun ⟨s, d, h⟩ => ⟨s, d, (hlk s d).symm ▸ h⟩ }

theorem Inv.of_dbStmt (hi : Inv st) {dm' : List (Nat × List Nat)} {n : Nat} {lD : List Nat} (hidx : ∀ d, getIdx dm' d = getIdx st.dbStmt d)
    (hlt : ∀ p ∈ dm', 0 < p.1 ∧ p.1 < n) (hn : 0 < n) (hnd : (dm'.map (·.1)).Nodup) (hent : ∀ p ∈ dm', p.2.Nodup)
    (hlive : ∀ d ∈ lD, (alook dm' d).isSome)
    (hops : ∀ t o, (t, o) ∈ st.ops → o.pc ≠ .done → (alook dm' o.d).isSome) :
    Inv { st with dbStmt := dm', nextD := n, liveD := lD } :=
  { hi with
    maps := ⟨hi.maps.sKeys_lt, hlt, hi.maps.sPos, hn, hi.maps.sKeys_nodup, hnd, hi.maps.row_nodup, hent,
      fun s d => hidx d ▸ hi.maps.index s d⟩
    live := ⟨hi.live.liveS, hlive⟩
    ops := hi.ops.of_maps (fun _ _ _ _ h => h) (fun t o hm hpc _ => hops t o hm hpc) fun _ _ _ => Or.inl }

theorem inv_dropS {s : Nat} (hi : Inv st) (h : step st (.dropS s) = some st') : Inv st' := by
  obtain ⟨_, rfl⟩ := step_dropS h
  exact { hi with live := ⟨fun s' hs' => hi.live.liveS s' (List.mem_filter.1 hs').1, hi.live.liveD⟩ }

theorem inv_dropD {d : Nat} (hi : Inv st) (h : step st (.dropD d) = some st') : Inv st' := by
  obtain ⟨_, rfl⟩ := step_dropD h
  exact { hi with live := ⟨hi.live.liveS, fun s' hs' => hi.live.liveD s' (List.mem_filter.1 hs').1⟩ }

/-- what `newS` and `newD` do to `stmtDB` and `dbStmt` -/
theorem keys_append_fresh {β : Type} {m : List (Nat × β)} {n : Nat} (v : β) (hlt : ∀ p ∈ m, 0 < p.1 ∧ p.1 < n)
    (hn : 0 < n) (hnd : (m.map (·.1)).Nodup) :
    (∀ p ∈ m ++ [(n, v)], 0 < p.1 ∧ p.1 < n + 1) ∧ ((m ++ [(n, v)]).map (·.1)).Nodup ∧
      (alook (m ++ [(n, v)]) n).isSome := by
  refine ⟨List.forall_mem_append.2 ⟨fun p hp => ⟨(hlt p hp).1, Nat.lt_succ_of_lt (hlt p hp).2⟩, ?_⟩, ?_, ?_⟩
  · exact List.forall_mem_singleton.2 ⟨hn, Nat.lt_succ_self n⟩
  · refine nodup_append_key v hnd fun hm => ?_
    obtain ⟨p, hp, e⟩ := List.any_eq_true.1 hm
    exact Nat.lt_irrefl n (beq_iff_eq.1 e ▸ (hlt p hp).2)
  · rw [alook_isSome_iff, List.map_append]; exact List.mem_append_right _ (List.mem_singleton_self n)

theorem inv_newS (hi : Inv st) (h : step st .newS = some st') : Inv st' := by
  have e := step_newS h; subst e
  obtain ⟨hlt, hnd, hkey⟩ := keys_append_fresh ([] : List (Nat × Nat)) hi.maps.sKeys_lt hi.maps.sPos hi.maps.sKeys_nodup
  refine hi.of_stmtDB (lookup2_append_empty st.stmtDB st.nextS) hlt (Nat.succ_pos _) hnd ?_ (fun s hs => ?_)
    fun t o hm hpc => alook_append_isSome _ (hi.ops.keys t o hm hpc).1
  · exact List.forall_mem_append.2 ⟨hi.maps.row_nodup, List.forall_mem_singleton.2 .nil⟩
  · rcases List.mem_append.1 hs with hs | hs
    · exact alook_append_isSome _ (hi.live.liveS s hs)
    · exact List.mem_singleton.1 hs ▸ hkey

theorem inv_newD (hi : Inv st) (h : step st .newD = some st') : Inv st' := by
  have e := step_newD h; subst e
  obtain ⟨hlt, hnd, hkey⟩ := keys_append_fresh ([] : List Nat) hi.maps.dKeys_lt hi.maps.dPos hi.maps.dKeys_nodup
  refine hi.of_dbStmt (getIdx_append_empty st.dbStmt st.nextD) hlt (Nat.succ_pos _) hnd ?_ (fun d hd => ?_)
    fun t o hm hpc => alook_append_isSome _ (hi.ops.keys t o hm hpc).2
  · exact List.forall_mem_append.2 ⟨hi.maps.idx_nodup, List.forall_mem_singleton.2 .nil⟩
  · rcases List.mem_append.1 hd with hd | hd
    · exact alook_append_isSome _ (hi.live.liveD d hd)
    · exact List.mem_singleton.1 hd ▸ hkey

theorem inv_query {t s d q : Nat} (hi : Inv st) (h : step st (.query t s d q) = some st') : Inv st' := by
  obtain ⟨hs, hd, hno, rfl⟩ := step_query.1 h
  exact { hi with
    noLeak := hi.noLeak.set t _ fun o id hm => absurd rfl (alook_none_iff.1 hno _ hm)
    ops := hi.ops.set t _ (fun _ => ⟨hi.live.liveS s hs, hi.live.liveD d hd⟩) trivial }

theorem inv_lookup {t : Nat} (hi : Inv st) (h : step st (.lookup t) = some st') : Inv st' := by
  obtain ⟨o, pc, ho, hpc, rfl, hc⟩ := step_lookup h
  have hm := alook_some_mem ho
  have hkeys := hi.ops.keys t o hm (by simp [hpc])
  have hnl := hi.noLeak_set ho (by rw [hpc]; nofun)
  rcases hc with ⟨id, x, hl, hx, hsql, rfl⟩ | ⟨_, rfl⟩
  · refine { hi with noLeak := hnl _, ops := hi.ops.set t _ (fun _ => hkeys) ?_ }
    have hc : x.db = o.d ∧ x.closeCalled = false ∧ _ := of_dsGet (hi.cache.ok _ _ _ hl) hx
    refine ⟨x, hx, hc.1, hsql, hc.2.1, fun s d hl' => hi.cache.inj _ _ _ _ _ hl' hl, fun t2 o2 hm2 _ hpc2 => ?_⟩
    obtain ⟨_, _, _, _, _, _, h6, _⟩ := hi.ops.prepared t2 o2 id hm2 hpc2
    exact h6 _ _ hl
  · exact { hi with noLeak := hnl _,
                    ops := hi.ops.set t _ (fun _ => hkeys) trivial }

/-- C10 in the model: by `OpsOK.ready` the statement is open, so the `execClosed` branch of `step` is not taken -/
theorem Inv.step_exec (hi : Inv st) {t : Nat} {iter : Option Nat} (h : step st (.exec t iter) = some st') :
    ∃ o id x, alook st.ops t = some o ∧ o.pc = .ready id ∧ dsGet st.ds id = some x ∧ x.db = o.d ∧ x.sql = o.sql ∧
      x.closeCalled = false ∧ Ev.close id ∉ st.log ∧ (∀ hd, iter = some hd → ∀ p ∈ st.iters, p.1 ≠ hd) ∧
      st' = { st with ops := ainsert st.ops t { o with pc := .done }, log := st.log ++ [.exec id o.d o.sql],
                      iters := iter.elim st.iters fun hd => st.iters ++ [(hd, id)] } := by
  dsimp only [step] at h
  split at h
  · next o ho =>
    split at h
    · next id hpc =>
      split at h
      · next x hx =>
        have hm : (t, o) ∈ st.ops := alook_some_mem ho
        obtain ⟨y, hy, hdb, hsql, hcc, _⟩ := hi.ops.ready t o id hm hpc
        cases hx.symm.trans hy
        refine ⟨o, id, x, ho, hpc, hx, hdb, hsql, hcc, hi.log.not_logged hx (hi.dsOK.not_dclosed hx hcc), ?_⟩
        rw [hcc, if_neg Bool.false_ne_true, hdb, hsql] at h
        cases iter with
        | none => exact ⟨nofun, (Option.some.inj h).symm⟩
        | some hd =>
          obtain ⟨hany, h⟩ := Option.ite_none_left_eq_some.1 h
          refine ⟨fun _ e p hp e' => ?_, (Option.some.inj h).symm⟩
          cases e
          exact hany (List.any_eq_true.2 ⟨p, hp, beq_iff_eq.2 e'⟩)
      · cases h
    · cases h
  · cases h

theorem Inv.step_exec_ready (hi : Inv st) {t id : Nat} {o : Op} (ho : alook st.ops t = some o) (hpc : o.pc = .ready id) :
    step st (.exec t none) = some { st with
        ops := ainsert st.ops t { o with pc := .done },
        log := st.log ++ [.exec id o.d o.sql] } := by
  obtain ⟨x, hx, hdb, hsql, hcc, _⟩ := hi.ops.ready t o id (alook_some_mem ho) hpc
  simp [step, getOp_eq, ho, hpc, getDS_eq, hx, hcc, setOp_eq, St.emit, hdb, hsql]

theorem LogOK.append_exec {log : List Ev} {ds : List DStmt} (h : LogOK log ds) {id : Nat} {x : DStmt}
    (hx : dsGet ds id = some x) (hn : Ev.close id ∉ log) : LogOK (log ++ [Ev.exec id x.db x.sql]) ds := by
  refine h.put_append (DsPut.refl hx) (List.mem_append_left _ (h.prep id x hx)) ⟨h.prep id x hx, hn⟩ ⟨?_, ?_⟩
    fun d q hm => of_dsGet (h.made id d q hm) hx
  · exact fun hd => List.mem_append_left _ (h.logged id x hx hd)
  · intro hm
    rcases List.mem_append.1 hm with hm | hm
    · exact of_dsGet (h.close id hm) hx
    · cases List.mem_singleton.1 hm

theorem inv_exec {t : Nat} {iter : Option Nat} (hi : Inv st)
    (h : step st (.exec t iter) = some st') : Inv st' := by
  obtain ⟨o, id, x, ho, hpc, hx, hdb, hsql, hcc, hncl, hfresh, rfl⟩ := hi.step_exec h
  have hops : OpsOK (ainsert st.ops t { o with pc := .done }) st.stmtDB st.dbStmt st.ds :=
    hi.ops.set t _ (fun hh => absurd rfl hh) trivial
  have hnl := hi.noLeak_set ho (by rw [hpc]; nofun) { o with pc := .done }
  have hlog : LogOK (st.log ++ [.exec id o.d o.sql]) st.ds := hdb ▸ hsql ▸ hi.log.append_exec hx hncl
  cases iter with
  | none => exact { hi with ops := hops, noLeak := hnl, log := hlog }
  | some hd =>
    refine { hi with ops := hops, noLeak := hnl, log := hlog, iters := ?_ }
    refine ⟨?_, ?_, fun id' x' hx' h1 h2 => (hi.iters.waiting id' x' hx' h1 h2).imp fun _ => List.mem_append_left _⟩
    · refine nodup_append_key id hi.iters.nodup fun hm => ?_
      obtain ⟨p, hp, e⟩ := List.any_eq_true.1 hm
      exact hfresh hd rfl p hp (beq_iff_eq.1 e)
    · intro h' id' (hm' : _ ∈ st.iters ++ [(hd, id)])
      rcases List.mem_append.1 hm' with hm' | hm'
      · exact hi.iters.isOpen h' id' hm'
      · cases List.mem_singleton.1 hm'; exact ⟨x, hx, hi.dsOK.not_dclosed hx hcc⟩

theorem inv_prepare {t : Nat} (hi : Inv st) (h : step st (.prepare t) = some st') : Inv st' := by
  obtain ⟨o, ho, hpc, rfl⟩ := step_prepare.1 h
  have hm := alook_some_mem ho
  -- nothing refers to the new id yet: whatever the invariant lets refer to an id is in the table
  have fresh : ∀ {Q : DStmt → Prop}, ¬ ∃ x, dsGet st.ds (st.ds.length + 1) = some x ∧ Q x :=
    fun ⟨_, hx, _⟩ => nomatch hi.dsOK.ids.fresh.symm.trans hx
  obtain ⟨hnc, hnh⟩ := hi.unreferenced fun _ hx => nomatch hi.dsOK.ids.fresh.symm.trans hx
  have hp := DsPut.append hi.dsOK.ids
    (x := ({ id := st.ds.length + 1, db := o.d, sql := o.sql } : DStmt)) rfl
  exact {
    dsOK := hi.dsOK.put hp (hi.dsOK.ids.append rfl) (fun _ => rfl) rfl (fun h => nomatch h)
    maps := hi.maps
    cache := hi.cache.put hp hnc
    live := hi.live
    ops := (hi.ops.put_unheld hp hnh).set t _ (fun _ => hi.ops.keys t o hm (by simp [hpc]))
      ⟨_, hp.self, rfl, rfl, rfl, rfl, hnc, fun t2 o2 hm2 _ => hnh t2 o2 hm2⟩
    iters := hi.iters.put hp hi.iters.nodup (fun _ h => h) (fun _ _ h _ => h) (fun _ _ => rfl) (fun h => nomatch h)
    noLeak := hp.forall (hi.noLeak_set ho (by rw [hpc]; nofun) _)
      (Or.inr (Or.inr (Or.inr ⟨t, _, mem_ainsert.2 (Or.inl rfl), rfl⟩)))
    log := by
      refine hi.log.put_append hp (List.mem_append_right _ (List.mem_singleton_self _)) ⟨rfl, rfl, rfl⟩
        ⟨fun h => (nomatch h), fun hm => ?_⟩ fun d q hm => absurd (hi.log.made _ d q hm) fresh
      rcases List.mem_append.1 hm with hm | hm
      · exact absurd (hi.log.close _ hm) fresh
      · cases List.mem_singleton.1 hm }

end Sqlair.Cache
