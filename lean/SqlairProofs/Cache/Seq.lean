/-
  Running one operation to completion, from a state that satisfies the invariant: the four steps
  `lookup, prepare, insert, exec` of an operation that has not started (`l5s_tail_start`) are either
  a cache hit - one `exec` event of the cached statement - or a miss - one `prepare` and one `exec`
  event of a new statement -, and in both cases DB and SQL of the statement are the operation's
  (`L5sRan`); of an operation that is finished, or of none, they do nothing (`l5s_tail_idle`).
  `L5sRan` is how the history layer (L5Sound, whence the `l5s_` names) sees a `run` or `runq` that
  does something; `sequential_reuse` (Props/Cache) is its hit case.
-/
import SqlairProofs.Cache.Reach

namespace Sqlair.Cache

/-- for the operation table what `DsPut` is for the statement table -/
structure L5sSet (ops ops' : List (Nat × Op)) (t : Nat) (v : Op) : Prop where
  look : ∀ k, alook ops' k = if k = t then some v else alook ops k
  mem : ∀ p ∈ ops', p = (t, v) ∨ (p ∈ ops ∧ p.1 ≠ t)

theorem L5sSet.ainsert (ops : List (Nat × Op)) (t : Nat) (v : Op) : L5sSet ops (ainsert ops t v) t v :=
  ⟨fun k => alook_ainsert ops t v k, fun _ hp => mem_ainsert.1 hp⟩

theorem L5sSet.trans {a b c : List (Nat × Op)} {t : Nat} {v v' : Op} (h1 : L5sSet a b t v) (h2 : L5sSet b c t v') :
    L5sSet a c t v' := by
  constructor
  · intro k
    rw [h2.look k]
    by_cases e : k = t
    · simp [e]
    · rw [if_neg e, if_neg e, h1.look k, if_neg e]
  · intro p hp
    rcases h2.mem p hp with e | ⟨hb, hne⟩
    · exact Or.inl e
    · rcases h1.mem p hb with e | ha
      · rw [e] at hne; exact absurd rfl hne
      · exact Or.inr ha

def l5s_tail (t : Nat) : List Step := [.lookup t, .prepare t, .insert t, .exec t none]

/-- `st'` is `st` after operation `t` (entry `o` of `st.ops`, not started) ran to completion -/
structure L5sRan (st st' : St) (t : Nat) (o : Op) : Prop where
  ops : L5sSet st.ops st'.ops t { o with pc := .done }
  liveS : st'.liveS = st.liveS
  liveD : st'.liveD = st.liveD
  nextS : st'.nextS = st.nextS
  nextD : st'.nextD = st.nextD
  iters : st'.iters = st.iters
  events :
    (l5s_hit st o.s o.d o.sql = true ∧ st'.ds = st.ds ∧ st'.stmtDB = st.stmtDB ∧ st'.dbStmt = st.dbStmt ∧
      ∃ id, lookup2 st.stmtDB o.s o.d = some id ∧ st'.log = st.log ++ [.exec id o.d o.sql]) ∨
    (l5s_hit st o.s o.d o.sql = false ∧ st'.ds.length = st.ds.length + 1 ∧
      st'.log = st.log ++ [.prepare (st.ds.length + 1) o.d o.sql, .exec (st.ds.length + 1) o.d o.sql])

theorem l5s_run4 (st : St) (a b c d : Step) :
    run st [a, b, c, d] =
      (step ((step ((step ((step st a).getD st) b).getD ((step st a).getD st)) c).getD
        ((step ((step st a).getD st) b).getD ((step st a).getD st))) d).getD
        ((step ((step ((step st a).getD st) b).getD ((step st a).getD st)) c).getD
          ((step ((step st a).getD st) b).getD ((step st a).getD st))) := rfl

theorem l5s_tail_enabled {st st' : St} {t : Nat} {x : Step} (hx : x ∈ l5s_tail t) (h : step st x = some st') :
    ∃ o, alook st.ops t = some o ∧ o.pc ≠ .done := by
  simp only [l5s_tail, List.mem_cons, List.not_mem_nil, or_false] at hx
  rcases hx with rfl | rfl | rfl | rfl
  · obtain ⟨o, _, ho, hpc, _⟩ := step_lookup h; exact ⟨o, ho, by rw [hpc]; nofun⟩
  · obtain ⟨o, ho, hpc, _⟩ := step_prepare.1 h; exact ⟨o, ho, by rw [hpc]; nofun⟩
  · obtain ⟨o, id, ho, hpc, _⟩ := step_insert.1 h; exact ⟨o, ho, by rw [hpc]; nofun⟩
  · exact step_exec_op h

theorem l5s_tail_idle {st : St} {t : Nat} (h : ∀ o, alook st.ops t = some o → o.pc = .done) :
    run st (l5s_tail t) = st := by
  have hn : ∀ x ∈ l5s_tail t, step st x = none := fun x hx =>
    Option.eq_none_iff_forall_ne_some.2 fun st' hs =>
      let ⟨o, ho, hpc⟩ := l5s_tail_enabled hx hs
      absurd (h o ho) hpc
  simp only [l5s_tail, List.mem_cons, List.not_mem_nil, or_false, forall_eq_or_imp, forall_eq] at hn
  simp only [l5s_tail, l5s_run4, hn, Option.getD_none]

theorem l5s_eq_some {α : Type} {a : Option α} {b : α} (h : a = some b) : ∃ x, a = some x ∧ x = b := ⟨b, h, rfl⟩

/-- the intermediate states get names (`l5s_eq_some`) so that the steps are stated about variables, not about nested
    record updates -/
theorem l5s_tail_start {st : St} (hi : Inv st) {t : Nat} {o : Op} (ho : alook st.ops t = some o)
    (hpc : o.pc = .start) : L5sRan st (run st (l5s_tail t)) t o := by
  have hlook : ∀ {ops : List (Nat × Op)} {v : Op}, alook (ainsert ops t v) t = some v := by
    intro ops v; rw [alook_ainsert, if_pos rfl]
  obtain ⟨pc, hlk, hc⟩ := step_lookup_start ho hpc
  obtain ⟨st1, h1, e1⟩ := l5s_eq_some hlk
  rcases hc with ⟨id, x, hl, hx, hq, rfl⟩ | ⟨hh, rfl⟩
  · have ho1 : alook st1.ops t = some { o with pc := .ready id } := by rw [e1]; exact hlook
    have h2 : step st1 (.prepare t) = none := Option.eq_none_iff_forall_ne_some.2 fun _ hs => by
      obtain ⟨o', ho', hpc', _⟩ := step_prepare.1 hs
      rw [ho1] at ho'; cases ho'; cases hpc'
    have h3 : step st1 (.insert t) = none := Option.eq_none_iff_forall_ne_some.2 fun _ hs => by
      obtain ⟨o', _, ho', hpc', _⟩ := step_insert.1 hs
      rw [ho1] at ho'; cases ho'; cases hpc'
    have h4 := Inv.step_exec_ready (inv_step hi _ h1) ho1 rfl
    simp only [l5s_tail, l5s_run4, h1, h2, h3, h4, Option.getD_none, Option.getD_some]
    subst e1
    exact ⟨(L5sSet.ainsert _ _ _).trans (L5sSet.ainsert _ _ _), rfl, rfl, rfl, rfl, rfl,
      Or.inl ⟨l5s_hit_iff.2 ⟨id, x, hl, hx, hq⟩, rfl, rfl, rfl, id, hl, rfl⟩⟩
  · have ho1 : alook st1.ops t = some { o with pc := .missed } := by rw [e1]; exact hlook
    obtain ⟨st2, h2, e2⟩ := l5s_eq_some (step_prepare.2 ⟨_, ho1, rfl, rfl⟩)
    have ho2 : alook st2.ops t = some { o with pc := .prepared (st1.ds.length + 1) } := by rw [e2]; exact hlook
    obtain ⟨st3, h3, e3⟩ := l5s_eq_some (step_insert.2 ⟨_, _, ho2, rfl, rfl⟩)
    have ho3 : alook st3.ops t = some { o with pc := .ready (st1.ds.length + 1) } := by rw [e3]; exact hlook
    have h4 := Inv.step_exec_ready (inv_step (inv_step (inv_step hi _ h1) _ h2) _ h3) ho3 rfl
    simp only [l5s_tail, l5s_run4, h1, h2, h3, h4, Option.getD_some]
    have hev : (evictDs st2 o.s o.d).length = st.ds.length + 1 := by
      rw [length_evictDs, e2, e1]; exact List.length_append
    have hset : L5sSet st.ops st3.ops t { o with pc := .ready (st1.ds.length + 1) } := by
      rw [e3, e2, e1]
      exact ((L5sSet.ainsert _ _ _).trans (L5sSet.ainsert _ _ _)).trans (L5sSet.ainsert _ _ _)
    have hfr : st3.liveS = st.liveS ∧ st3.liveD = st.liveD ∧ st3.nextS = st.nextS ∧ st3.nextD = st.nextD ∧
        st3.iters = st.iters ∧ st3.log = st.log ++ [.prepare (st.ds.length + 1) o.d o.sql] := by
      rw [e3, e2, e1]; exact ⟨rfl, rfl, rfl, rfl, rfl, rfl⟩
    refine ⟨hset.trans (L5sSet.ainsert _ _ _), hfr.1, hfr.2.1, hfr.2.2.1, hfr.2.2.2.1, hfr.2.2.2.2.1,
      Or.inr ⟨hh, by rw [← hev, e3], ?_⟩⟩
    show st3.log ++ _ = _
    rw [hfr.2.2.2.2.2, e1, List.append_assoc]
    rfl

end Sqlair.Cache
