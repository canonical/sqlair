/-
  Algebra of the flattened destination store of `SqlairModel/Scan.lean`:
  `setField` / `setKey` / `updDest` / `Pending.apply` — look-up after write, invariants (length,
  form, type id, set of field paths).
-/
import SqlairModel.Scan
import SqlairProofs.Basics

namespace Sqlair

/-- value of the leaf field with index path `idx`: `none` = the struct has no such leaf,
    `some none` = the leaf is unreachable (nil embedded pointer), `some (some txt)` = its text -/
def Dest.fieldVal (d : Dest) (idx : List Nat) : Option (Option String) :=
  (d.fields.find? (·.1 == idx)).map (·.2)

def Dest.keyVal (d : Dest) (k : Bytes) : Option String :=
  (d.keys.find? (·.1 == k)).map (·.2)

inductive Slot where
  | field (idx : List Nat)
  | key (k : Bytes)
deriving DecidableEq, Repr

def Dest.slotVal (d : Dest) : Slot → Option (Option String)
  | .field idx => d.fieldVal idx
  | .key k => (d.keyVal k).map some

theorem Dest.keyVal_of_slotVal {d : Dest} {k : Bytes} {o : Option String} (h : d.slotVal (.key k) = o.map some) :
    d.keyVal k = o :=
  Option.map_injective (fun _ _ => Option.some.inj) h

def valAt (ds : List Dest) (loc : Nat × Slot) : Option (Option String) :=
  ds[loc.1]?.bind (·.slotVal loc.2)

theorem valAt_of_getElem? {ds : List Dest} {di : Nat} {d : Dest} (h : ds[di]? = some d) (s : Slot) :
    valAt ds (di, s) = d.slotVal s := by
  simp only [valAt, h, Option.bind_some]

/-- what a write to `loc` needs to take effect (`valAt_apply_same`): `setField` does nothing on a leaf the struct does
    not have, whereas `setKey` adds an absent key -/
def Writable (ds : List Dest) (loc : Nat × Slot) : Prop :=
  ∃ d, ds[loc.1]? = some d ∧ ∀ idx, loc.2 = .field idx → (d.fieldVal idx).isSome

/-- holds of every store the harness translator produces (`flatFields`, `flatKeys` in harness/cmd/harness/l3.go):
    a struct has each leaf path once, a Go map each key once -/
def DestsDistinct (dests : List Dest) : Prop :=
  ∀ d ∈ dests, (d.fields.map (·.1)).Nodup ∧ (d.keys.map (·.1)).Nodup

@[simp] theorem setField_form (d : Dest) (i : List Nat) (v : String) : (setField d i v).form = d.form := rfl
@[simp] theorem setField_tid (d : Dest) (i : List Nat) (v : String) : (setField d i v).tid = d.tid := rfl
@[simp] theorem setField_keys (d : Dest) (i : List Nat) (v : String) : (setField d i v).keys = d.keys := rfl

theorem setField_fields_fst (d : Dest) (i : List Nat) (v : String) :
    (setField d i v).fields.map (·.1) = d.fields.map (·.1) :=
  map_upd_fst d.fields i (some v)

theorem fieldVal_setField_same (d : Dest) (i : List Nat) (v : String) :
    (setField d i v).fieldVal i = (d.fieldVal i).map (fun _ => some v) := by
  simp only [Dest.fieldVal, setField, find_update, beq_self_eq_true, if_true, Option.map_map, Function.comp_def]

theorem fieldVal_setField_ne (d : Dest) {i j : List Nat} (v : String) (h : j ≠ i) :
    (setField d i v).fieldVal j = d.fieldVal j := by
  simp only [Dest.fieldVal, setField, find_update, beq_false_of_ne h, Bool.false_eq_true, if_false, Option.map_id']

@[simp] theorem keyVal_setField (d : Dest) (i : List Nat) (v : String) (k : Bytes) :
    (setField d i v).keyVal k = d.keyVal k := rfl

@[simp] theorem setKey_form (d : Dest) (k : Bytes) (v : String) : (setKey d k v).form = d.form := rfl
@[simp] theorem setKey_tid (d : Dest) (k : Bytes) (v : String) : (setKey d k v).tid = d.tid := rfl
@[simp] theorem setKey_fields (d : Dest) (k : Bytes) (v : String) : (setKey d k v).fields = d.fields := rfl
@[simp] theorem fieldVal_setKey (d : Dest) (k : Bytes) (v : String) (i : List Nat) :
    (setKey d k v).fieldVal i = d.fieldVal i := rfl

theorem setKey_setField_comm (d : Dest) (k : Bytes) (v : String) (i : List Nat) (w : String) :
    setKey (setField d i w) k v = setField (setKey d k v) i w := rfl

theorem keyVal_setKey_same (d : Dest) (k : Bytes) (v : String) :
    (setKey d k v).keyVal k = some v := by
  unfold Dest.keyVal setKey
  dsimp only
  rw [← List.isSome_find?]
  cases hf : d.keys.find? (·.1 == k) with
  | none =>
    rw [if_neg (by simp), List.find?_append, hf, Option.none_or, List.find?_cons, beq_self_eq_true]; rfl
  | some p => rw [if_pos (by simp), find_update, hf, beq_self_eq_true]; rfl

theorem keyVal_setKey_ne (d : Dest) {k j : Bytes} (v : String) (h : j ≠ k) :
    (setKey d k v).keyVal j = d.keyVal j := by
  unfold Dest.keyVal setKey
  dsimp only
  split
  · rw [find_update, beq_false_of_ne h]
    simp only [Bool.false_eq_true, if_false, Option.map_id']
  · rw [List.find?_append, List.find?_cons, beq_false_of_ne (Ne.symm h), List.find?_nil, Option.or_none]

theorem updDest_length (ds : List Dest) (i : Nat) (f : Dest → Dest) : (updDest ds i f).length = ds.length := by
  simp [updDest]

theorem updDest_getElem? (ds : List Dest) (i : Nat) (f : Dest → Dest) (j : Nat) :
    (updDest ds i f)[j]? = ds[j]?.map (fun d => if j = i then f d else d) := by
  unfold updDest
  rw [List.getElem?_map]
  by_cases hj : j < ds.length
  · have : ((List.range ds.length).zip ds)[j]? = some (j, ds[j]) := by
      rw [List.getElem?_zip_eq_some]; simp [hj]
    rw [this, List.getElem?_eq_getElem hj]; simp
  · have : ((List.range ds.length).zip ds)[j]? = none := by
      apply List.getElem?_eq_none
      rw [List.length_zip, List.length_range, Nat.min_self]; exact Nat.le_of_not_lt hj
    rw [this, List.getElem?_eq_none (Nat.le_of_not_lt hj)]; rfl

def Target.loc : Target → Option (Nat × Slot)
  | .skip => none
  | .field di idx _ _ => some (di, .field idx)
  | .key di k _ => some (di, .key k)

/-! In the proofs a `Pending` stands for any write of a scan: the direct ones of `scanRow` (`dwrite`, Scan/Row.lean) as
well as the deferred ones of a `ScanProxy`. -/

def Pending.loc : Pending → Nat × Slot
  | .field di idx _ => (di, .field idx)
  | .key di k _ => (di, .key k)

def Pending.val : Pending → String
  | .field _ _ v => v
  | .key _ _ v => v

def Pending.isField : Pending → Bool
  | .field .. => true
  | .key .. => false

def Pending.upd : Pending → Dest → Dest
  | .field _ idx v => fun d => setField d idx v
  | .key _ k v => fun d => setKey d k v

theorem Pending.apply_eq (ds : List Dest) (w : Pending) : w.apply ds = updDest ds w.loc.1 w.upd := by
  cases w <;> rfl

theorem Pending.apply_length (ds : List Dest) (w : Pending) : (w.apply ds).length = ds.length := by
  rw [Pending.apply_eq, updDest_length]

theorem Pending.apply_getElem? (ds : List Dest) (w : Pending) (j : Nat) :
    (w.apply ds)[j]? = ds[j]?.map (fun d => if j = w.loc.1 then w.upd d else d) := by
  rw [Pending.apply_eq, updDest_getElem?]

theorem Pending.apply_getElem?_eq_some {ds : List Dest} {w : Pending} {j : Nat} {d : Dest} (h : (w.apply ds)[j]? = some d) :
    ∃ d0, ds[j]? = some d0 ∧ d = if j = w.loc.1 then w.upd d0 else d0 := by
  rw [Pending.apply_getElem?] at h
  obtain ⟨d0, h0, rfl⟩ := Option.map_eq_some_iff.mp h
  exact ⟨d0, h0, rfl⟩

@[simp] theorem Pending.upd_form (w : Pending) (d : Dest) : (w.upd d).form = d.form := by cases w <;> rfl
@[simp] theorem Pending.upd_tid (w : Pending) (d : Dest) : (w.upd d).tid = d.tid := by cases w <;> rfl
theorem Pending.upd_fields_fst (w : Pending) (d : Dest) : (w.upd d).fields.map (·.1) = d.fields.map (·.1) := by
  cases w with
  | field _ i v => exact setField_fields_fst d i v
  | key _ k v => rfl

theorem Pending.slotVal_upd_ne (w : Pending) (d : Dest) {s : Slot} (h : s ≠ w.loc.2) :
    (w.upd d).slotVal s = d.slotVal s := by
  cases w with
  | field di i v =>
    cases s with
    | field j =>
      have : j ≠ i := fun e => h (by simp [Pending.loc, e])
      exact fieldVal_setField_ne d v this
    | key k => rfl
  | key di k v =>
    cases s with
    | field j => rfl
    | key j =>
      have : j ≠ k := fun e => h (by simp [Pending.loc, e])
      simp only [Pending.upd, Dest.slotVal, keyVal_setKey_ne d v this]

theorem valAt_apply_ne (ds : List Dest) (w : Pending) {loc : Nat × Slot} (h : loc ≠ w.loc) :
    valAt (w.apply ds) loc = valAt ds loc := by
  unfold valAt
  rw [Pending.apply_getElem?]
  cases hd : ds[loc.1]? with
  | none => rfl
  | some d =>
    simp only [Option.map_some, Option.bind_some]
    by_cases h1 : loc.1 = w.loc.1
    · rw [if_pos h1]
      apply Pending.slotVal_upd_ne
      intro h2; exact h (Prod.ext h1 h2)
    · rw [if_neg h1]

theorem valAt_apply_same (ds : List Dest) (w : Pending) (h : Writable ds w.loc) :
    valAt (w.apply ds) w.loc = some (some w.val) := by
  obtain ⟨d, hd, hv⟩ := h
  rw [valAt_of_getElem? (d := w.upd d) (by rw [Pending.apply_getElem?, hd, Option.map_some, if_pos rfl])]
  cases w with
  | field di i v =>
    obtain ⟨x, hx⟩ := Option.isSome_iff_exists.mp (hv i rfl)
    show (setField d i v).fieldVal i = _
    rw [fieldVal_setField_same, hx]; rfl
  | key di k v =>
    show ((setKey d k v).keyVal k).map some = _
    rw [keyVal_setKey_same]; rfl

def applyWrites (ds : List Dest) (ws : List Pending) : List Dest := ws.foldl Pending.apply ds

@[simp] theorem applyWrites_nil (ds : List Dest) : applyWrites ds [] = ds := rfl
@[simp] theorem applyWrites_cons (ds : List Dest) (w : Pending) (ws : List Pending) :
    applyWrites ds (w :: ws) = applyWrites (w.apply ds) ws := rfl
theorem applyWrites_append (ds : List Dest) (ws ws' : List Pending) :
    applyWrites ds (ws ++ ws') = applyWrites (applyWrites ds ws) ws' := by
  simp [applyWrites, List.foldl_append]

theorem applyWrites_length (ds : List Dest) (ws : List Pending) : (applyWrites ds ws).length = ds.length := by
  induction ws generalizing ds with
  | nil => rfl
  | cons w ws ih => rw [applyWrites_cons, ih, Pending.apply_length]

theorem valAt_applyWrites_of_not_mem (ds : List Dest) (ws : List Pending) (loc : Nat × Slot)
    (h : ∀ w ∈ ws, w.loc ≠ loc) : valAt (applyWrites ds ws) loc = valAt ds loc := by
  induction ws generalizing ds with
  | nil => rfl
  | cons w ws ih =>
    rw [applyWrites_cons, ih _ (fun w' hw' => h w' (List.mem_cons_of_mem _ hw')),
      valAt_apply_ne _ _ (fun e => h w List.mem_cons_self e.symm)]

theorem applyWrites_getElem? (ds : List Dest) (ws : List Pending) (j : Nat) (d : Dest) (h : ds[j]? = some d) :
    ∃ d', (applyWrites ds ws)[j]? = some d' ∧ d'.form = d.form ∧ d'.tid = d.tid ∧
      d'.fields.map (·.1) = d.fields.map (·.1) := by
  induction ws generalizing ds d with
  | nil => exact ⟨d, h, rfl, rfl, rfl⟩
  | cons w ws ih =>
    rw [applyWrites_cons]
    have h1 : (w.apply ds)[j]? = some (if j = w.loc.1 then w.upd d else d) := by
      rw [Pending.apply_getElem?, h]; rfl
    obtain ⟨d', hd', hf, ht, hp⟩ := ih _ _ h1
    refine ⟨d', hd', ?_, ?_, ?_⟩
    · rw [hf]; split <;> simp
    · rw [ht]; split <;> simp
    · rw [hp]; split
      · exact Pending.upd_fields_fst w d
      · rfl

theorem fieldVal_isSome (d : Dest) (idx : List Nat) :
    (d.fieldVal idx).isSome = (d.fields.map (·.1)).any (· == idx) := by
  rw [Dest.fieldVal, Option.isSome_map, List.isSome_find?, List.any_map]; rfl

theorem Writable.applyWrites {ds : List Dest} {loc : Nat × Slot} (h : Writable ds loc) (ws : List Pending) :
    Writable (applyWrites ds ws) loc := by
  obtain ⟨d, hd, hv⟩ := h
  obtain ⟨d', hd', _, _, hp⟩ := applyWrites_getElem? ds ws _ d hd
  exact ⟨d', hd', fun idx e => by rw [fieldVal_isSome, hp, ← fieldVal_isSome]; exact hv idx e⟩

theorem valAt_applyWrites_last (ds : List Dest) (ws1 ws2 : List Pending) (w : Pending)
    (hw : Writable ds w.loc) (h2 : ∀ w' ∈ ws2, w'.loc ≠ w.loc) :
    valAt (applyWrites ds (ws1 ++ w :: ws2)) w.loc = some (some w.val) := by
  rw [applyWrites_append, applyWrites_cons, valAt_applyWrites_of_not_mem _ _ _ h2]
  exact valAt_apply_same _ _ (hw.applyWrites ws1)

theorem setKey_keys_nodup (d : Dest) (k : Bytes) (v : String) (h : (d.keys.map (·.1)).Nodup) :
    ((setKey d k v).keys.map (·.1)).Nodup := by
  simp only [setKey]
  split
  · rw [map_upd_fst]; exact h
  · rename_i hany
    exact nodup_append_key v h hany

theorem applyWrites_keys_nodup (ws : List Pending) (ds : List Dest)
    (h : ∀ d ∈ ds, (d.keys.map (·.1)).Nodup) : ∀ d ∈ applyWrites ds ws, (d.keys.map (·.1)).Nodup := by
  induction ws generalizing ds with
  | nil => exact h
  | cons w ws ih =>
    refine ih _ fun d hd => ?_
    obtain ⟨i, hi⟩ := List.mem_iff_getElem?.mp hd
    obtain ⟨d0, hd0, rfl⟩ := Pending.apply_getElem?_eq_some hi
    have hd0n := h d0 (List.mem_of_getElem? hd0)
    split
    · cases w with
      | field => exact hd0n
      | key di k v => exact setKey_keys_nodup d0 k v hd0n
    · exact hd0n

end Sqlair
