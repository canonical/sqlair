/-
  `ScanArgs` stage by stage, without accumulators: `validateOutputs` builds the type-to-destination map
  (`ValidMap`), `locateTarget` turns an output into a scan target (`Loc.slot?`, `Loc.target`), `scanTargets` is
  `colTarget` column by column, and after these (`EarlierChecksPass`) `scanArgs` is two coverage tests
  (`scanArgs_of_targets`).
-/
import SqlairProofs.Scan.Dest

namespace Sqlair

variable {tt : TypeTable} {outputs : List Loc} {dests : List Dest} {m : List (Nat × Nat)}

/-- the `typeToValue` map of `ValidateOutputs` (typeinfo/validate.go) as `validateOutputs` builds it: type of a
    destination, its argument number -/
def idxMap (ds : List Dest) (i : Nat) : List (Nat × Nat) := (ds.zipIdx i).map fun p => (p.1.tid, p.2)

theorem idxMap_cons (d : Dest) (ds : List Dest) (i : Nat) : idxMap (d :: ds) i = (d.tid, i) :: idxMap ds (i + 1) := by
  simp [idxMap, List.zipIdx_cons]

/-- the forms `ValidateOutputs` accepts -/
def DestForm.okForm : DestForm → Bool
  | .ptrStruct | .mapVal | .ptrMap => true
  | _ => false

theorem validateOutputs_cons_ok {d : Dest} (h : d.form.okForm = true) (rest : List Dest) (m : List (Nat × Nat))
    (i : Nat) :
    validateOutputs (d :: rest) m i =
      if m.any (·.1 == d.tid) then .error "type-provided-twice"
      else validateOutputs rest (m ++ [(d.tid, i)]) (i + 1) := by
  rw [validateOutputs]
  cases hf : d.form <;> simp only [hf, DestForm.okForm, reduceCtorEq] at h ⊢

def validateErrors : List String :=
  ["nil-argument", "nil-pointer", "nil-map", "need-map-or-pointer", "need-map-or-pointer-to-struct",
   "pointer-to-nil-map", "type-provided-twice"]

theorem validateOutputs_cons_bad {d : Dest} (h : d.form.okForm = false) (rest : List Dest) (m : List (Nat × Nat))
    (i : Nat) : ∃ e ∈ validateErrors, validateOutputs (d :: rest) m i = .error e := by
  rw [validateOutputs]
  cases hf : d.form <;> simp only [hf, DestForm.okForm, reduceCtorEq] at h ⊢ <;>
    exact ⟨_, by mem_lit, rfl⟩

theorem validateOutputs_ok {ds : List Dest} {m m' : List (Nat × Nat)} {i : Nat}
    (h : validateOutputs ds m i = .ok m') (hn : (m.map (·.1)).Nodup) :
    m' = m ++ idxMap ds i ∧ (m'.map (·.1)).Nodup ∧ ∀ d ∈ ds, d.form.okForm = true := by
  induction ds generalizing m i with
  | nil =>
    simp only [validateOutputs, Except.ok.injEq] at h
    subst h
    exact ⟨(List.append_nil _).symm, hn, nofun⟩
  | cons d rest ih =>
    cases hform : d.form.okForm with
    | false =>
      obtain ⟨e, _, he⟩ := validateOutputs_cons_bad hform rest m i
      rw [he] at h; cases h
    | true =>
      rw [validateOutputs_cons_ok hform] at h
      split at h
      · cases h
      · rename_i hany
        obtain ⟨e1, e2, e3⟩ := ih h (nodup_append_key i hn hany)
        refine ⟨by rw [e1, idxMap_cons, List.append_assoc]; rfl, e2, ?_⟩
        intro d' hd'
        rcases List.mem_cons.mp hd' with rfl | hd'
        · exact hform
        · exact e3 d' hd'

structure ValidMap (dests : List Dest) (m : List (Nat × Nat)) : Prop where
  eq : m = idxMap dests 0
  nodup : (m.map (·.1)).Nodup
  forms : ∀ d ∈ dests, d.form.okForm = true

theorem validMap_of_ok (h : validateOutputs dests [] 0 = .ok m) :
    ValidMap dests m := by
  obtain ⟨e1, e2, e3⟩ := validateOutputs_ok h (by simp)
  exact ⟨by simpa using e1, e2, e3⟩

theorem mem_idxMap {ds : List Dest} {p : Nat × Nat} :
    p ∈ idxMap ds 0 ↔ ∃ d, ds[p.2]? = some d ∧ d.tid = p.1 := by
  unfold idxMap
  rw [List.mem_map]
  constructor
  · rintro ⟨⟨d, j⟩, hm, rfl⟩
    rw [List.mem_zipIdx_iff_getElem?] at hm
    exact ⟨d, by simpa using hm, rfl⟩
  · rintro ⟨d, hd, ht⟩
    refine ⟨(d, p.2), ?_, by simp [ht]⟩
    rw [List.mem_zipIdx_iff_getElem?]
    simpa using hd

theorem ValidMap.find_some (hm : ValidMap dests m) {tid : Nat}
    {p : Nat × Nat} (h : m.find? (·.1 == tid) = some p) :
    ∃ d, dests[p.2]? = some d ∧ d.tid = tid := by
  have h1 := List.mem_of_find?_eq_some h
  have h2 : p.1 = tid := by simpa using List.find?_some h
  rw [hm.eq, mem_idxMap] at h1
  obtain ⟨d, hd, ht⟩ := h1
  exact ⟨d, hd, ht.trans h2⟩

theorem ValidMap.find_of_dest (hm : ValidMap dests m) {di : Nat}
    {d : Dest} (h : dests[di]? = some d) : m.find? (·.1 == d.tid) = some (d.tid, di) :=
  find?_of_mem_nodup hm.nodup (p := (d.tid, di)) (by rw [hm.eq, mem_idxMap]; exact ⟨d, h, rfl⟩)

theorem ValidMap.find_none {dests : List Dest} {m : List (Nat × Nat)} (hm : ValidMap dests m) {tid : Nat}
    (h : m.find? (·.1 == tid) = none) : ∀ d ∈ dests, d.tid ≠ tid := by
  intro d hd e
  obtain ⟨di, hlt, hdi⟩ := List.mem_iff_getElem.mp hd
  have := hm.find_of_dest (di := di) (d := d) (by rw [List.getElem?_eq_getElem hlt, hdi])
  rw [e, h] at this
  cases this

theorem ValidMap.forall_iff (hm : ValidMap dests m) (P : Nat → Prop) :
    (∀ p ∈ m, P p.1) ↔ ∀ d ∈ dests, P d.tid := by
  constructor
  · intro h d hd
    obtain ⟨di, hdi⟩ := List.mem_iff_getElem?.mp hd
    exact h (d.tid, di) (by rw [hm.eq, mem_idxMap]; exact ⟨d, hdi, rfl⟩)
  · intro h p hp
    rw [hm.eq, mem_idxMap] at hp
    obtain ⟨d, hd, ht⟩ := hp
    exact ht ▸ h d (List.mem_of_getElem? hd)

theorem ValidMap.tid_inj (hm : ValidMap dests m) {i j : Nat}
    {d e : Dest} (hi : dests[i]? = some d) (hj : dests[j]? = some e) (ht : d.tid = e.tid) : i = j := by
  have h1 := hm.find_of_dest hi
  have h2 := hm.find_of_dest hj
  rw [ht, h2] at h1
  simp only [Option.some.injEq, Prod.mk.injEq] at h1
  exact h1.2.symm

def Loc.slot? : Loc → Option Slot
  | .field _ _ f => some (.field f.index)
  | .mapKey _ _ key => some (.key key)
  | .slice .. => none

def Loc.target (tt : TypeTable) (l : Loc) (di : Nat) : Target :=
  match l with
  | .field tid _ f => .field di f.index (fieldTypeOf tt tid f.index true) (fieldCat tt (fieldTypeOf tt tid f.index true))
  | .mapKey tid _ key => .key di key (tt.get tid).elem
  | .slice .. => .skip

theorem Loc.target_loc (tt : TypeTable) (l : Loc) (di : Nat) : (l.target tt di).loc = l.slot?.map (fun s => (di, s)) := by
  cases l <;> rfl

/-- the errors of the column loop of `ScanArgs`: the first is its own, the others are `locateTarget`'s -/
def locateErrors : List String :=
  ["internal-column-not-in-outputs", "slice-output", "value-missing", "nil-embedded-pointer"]

theorem locateTarget_cases (tt : TypeTable) (dests : List Dest) (m : List (Nat × Nat)) (l : Loc) :
    (∃ e ∈ locateErrors, locateTarget tt dests m l = .error e) ∨
    ∃ p s, m.find? (·.1 == l.tid) = some p ∧ l.slot? = some s ∧
      (∀ idx, s = .field idx → ∃ x, (dests.getD p.2 default).fieldVal idx = some (some x)) ∧
      locateTarget tt dests m l = .ok (l.target tt p.2) := by
  unfold locateTarget
  cases l with
  | slice tid n => exact .inl ⟨_, by mem_lit, rfl⟩
  | mapKey tid n key =>
    dsimp only [Loc.tid]
    cases m.find? (·.1 == tid) with
    | none => exact .inl ⟨_, by mem_lit, rfl⟩
    | some p => exact .inr ⟨p, .key key, rfl, rfl, nofun, rfl⟩
  | field tid n f =>
    dsimp only [Loc.tid]
    cases m.find? (·.1 == tid) with
    | none => exact .inl ⟨_, by mem_lit, rfl⟩
    | some p =>
      dsimp only
      cases hfind : (dests.getD p.2 default).fields.find? (·.1 == f.index) with
      | none => exact .inl ⟨_, by mem_lit, rfl⟩
      | some q =>
        obtain ⟨i, _ | x⟩ := q
        · exact .inl ⟨_, by mem_lit, rfl⟩
        · exact .inr ⟨p, .field f.index, rfl, rfl, fun _ e => ⟨x, by cases e; rw [Dest.fieldVal, hfind]; rfl⟩, rfl⟩

theorem locateTarget_error_mem {l : Loc} {e : String}
    (h : locateTarget tt dests m l = .error e) : e ∈ locateErrors := by
  rcases locateTarget_cases tt dests m l with ⟨e', hmem, he⟩ | ⟨_, _, _, _, _, he⟩ <;> rw [he] at h <;> cases h
  exact hmem

theorem locateTarget_ok (hm : ValidMap dests m)
    {l : Loc} {t : Target} (h : locateTarget tt dests m l = .ok t) :
    ∃ di d s, dests[di]? = some d ∧ d.tid = l.tid ∧ l.slot? = some s ∧ t = l.target tt di ∧
      Writable dests (di, s) := by
  rcases locateTarget_cases tt dests m l with ⟨_, _, he⟩ | ⟨p, s, hf, hs, hw, he⟩ <;> rw [he] at h <;> cases h
  obtain ⟨d, hd, ht⟩ := hm.find_some hf
  have hgd : dests.getD p.2 default = d := by rw [List.getD_eq_getElem?_getD, hd]; rfl
  exact ⟨p.2, d, s, hd, ht, hs, rfl, d, hd, fun idx e => by obtain ⟨x, hx⟩ := hgd ▸ hw idx e; rw [hx]; rfl⟩

theorem locateTarget_isOk_of {tt : TypeTable} {dests : List Dest} {m : List (Nat × Nat)} (hm : ValidMap dests m)
    {l : Loc} {di : Nat} {d : Dest} {s : Slot} (hd : dests[di]? = some d) (ht : d.tid = l.tid) (hs : l.slot? = some s)
    (hw : ∀ idx, s = .field idx → ∃ x, d.fieldVal idx = some (some x)) :
    locateTarget tt dests m l = .ok (l.target tt di) := by
  have hf := hm.find_of_dest hd
  unfold locateTarget
  cases l with
  | slice tid n => cases hs
  | mapKey tid n key =>
    cases ht
    dsimp only
    rw [hf]; rfl
  | field tid n f =>
    cases ht; cases hs
    obtain ⟨x, hx⟩ := hw f.index rfl
    have hgd : dests.getD di default = d := by rw [List.getD_eq_getElem?_getD, hd]; rfl
    dsimp only
    rw [hf]
    dsimp only
    rw [hgd]
    -- `Dest.fieldVal` is the `find?` the model does here, mapped to the value
    obtain ⟨⟨a, b⟩, hfind, hb⟩ := Option.map_eq_some_iff.mp hx
    rw [hfind]
    cases hb
    rfl

def colTarget (tt : TypeTable) (outputs : List Loc) (dests : List Dest) (m : List (Nat × Nat)) (c : Bytes) :
    Except String Target :=
  match markerIndex c with
  | none => .ok .skip
  | some idx =>
    match outputs[idx]? with
    | none => .error "internal-column-not-in-outputs"
    | some l => locateTarget tt dests m l

theorem colTarget_of_marker {c : Bytes} {k : Nat} {l : Loc} (hc : markerIndex c = some k) (hk : outputs[k]? = some l) :
    colTarget tt outputs dests m c = locateTarget tt dests m l := by
  unfold colTarget
  rw [hc]
  dsimp only
  rw [hk]

theorem colTarget_ok {c : Bytes} {t : Target} (h : colTarget tt outputs dests m c = .ok t) :
    (markerIndex c = none ∧ t = .skip) ∨
    ∃ k l, markerIndex c = some k ∧ outputs[k]? = some l ∧ locateTarget tt dests m l = .ok t := by
  unfold colTarget at h
  cases hmi : markerIndex c with
  | none => rw [hmi] at h; cases h; exact .inl ⟨rfl, rfl⟩
  | some k =>
    rw [hmi] at h
    dsimp only at h
    cases hk : outputs[k]? with
    | none => rw [hk] at h; cases h
    | some l => rw [hk] at h; exact .inr ⟨k, l, rfl, hk, h⟩

theorem colTarget_ok_iff {c : Bytes} :
    (∃ t, colTarget tt outputs dests m c = .ok t) ↔
      ∀ k, markerIndex c = some k → ∃ l t, outputs[k]? = some l ∧ locateTarget tt dests m l = .ok t := by
  unfold colTarget
  cases markerIndex c with
  | none => exact ⟨fun _ _ h => (nomatch h), fun _ => ⟨_, rfl⟩⟩
  | some k =>
    simp only [Option.some.injEq, forall_eq']
    cases outputs[k]? with
    | none => exact ⟨fun ⟨_, h⟩ => (nomatch h), fun ⟨_, _, h, _⟩ => (nomatch h)⟩
    | some l => exact ⟨fun ⟨t, h⟩ => ⟨l, t, rfl, h⟩, fun ⟨_, t, h, ht⟩ => ⟨t, Option.some.inj h ▸ ht⟩⟩

/-- what `ScanArgs` (query.go) checks before it looks for missing columns: `ValidateOutputs` (which builds the
    type-to-destination map `m`), the number of columns, and in the column loop that every alias column belongs to
    an output for which `LocateScanTarget` succeeds -/
def EarlierChecksPass (tt : TypeTable) (outputs : List Loc) (cols : List Bytes) (dests : List Dest)
    (m : List (Nat × Nat)) : Prop :=
  validateOutputs dests [] 0 = .ok m ∧ outputs.length ≤ cols.length ∧
  ∀ c ∈ cols, ∀ k, markerIndex c = some k → ∃ l t, outputs[k]? = some l ∧ locateTarget tt dests m l = .ok t

theorem EarlierChecksPass.target_ok {cols : List Bytes} (h : EarlierChecksPass tt outputs cols dests m) {c : Bytes}
    (hc : c ∈ cols) : ∃ t, colTarget tt outputs dests m c = .ok t :=
  colTarget_ok_iff.mpr (h.2.2 c hc)

/-- `colTarget` made total, so that the result of `scanArgs` can be written `cols.map colTargetD`; the default is not
    reached there -/
def colTargetD (tt : TypeTable) (outputs : List Loc) (dests : List Dest) (m : List (Nat × Nat)) (c : Bytes) : Target :=
  match colTarget tt outputs dests m c with
  | .ok t => t
  | .error _ => .skip

def colOutput (outputs : List Loc) (c : Bytes) : Option Loc := (markerIndex c).bind (outputs[·]?)

theorem colOutput_tid_iff {c : Bytes} {t : Nat} :
    (∃ l, colOutput outputs c = some l ∧ l.tid = t) ↔
      ∃ k l, markerIndex c = some k ∧ outputs[k]? = some l ∧ l.tid = t := by
  simp only [colOutput, Option.bind_eq_some_iff]
  exact ⟨fun ⟨l, ⟨k, a, b⟩, e⟩ => ⟨k, l, a, b, e⟩, fun ⟨k, l, a, b, e⟩ => ⟨l, ⟨k, a, b⟩, e⟩⟩

theorem scanTargets_cons (tt : TypeTable) (outputs : List Loc) (dests : List Dest) (m : List (Nat × Nat))
    (c : Bytes) (rest : List Bytes) (ts : List Target) (ir us : List Nat) :
    scanTargets tt outputs dests m (c :: rest) ts ir us =
      match colTarget tt outputs dests m c with
      | .error e => .error e
      | .ok t => scanTargets tt outputs dests m rest (ts ++ [t]) ((markerIndex c).toList ++ ir)
          (((colOutput outputs c).map Loc.tid).toList ++ us) := by
  unfold colTarget colOutput
  rw [scanTargets]
  cases markerIndex c with
  | none => rfl
  | some idx =>
    dsimp only [Option.bind_some]
    cases outputs[idx]? with
    | none => rfl
    | some l => cases locateTarget tt dests m l <;> rfl

theorem scanTargets_ok_iff (tt : TypeTable) (outputs : List Loc) (dests : List Dest) (m : List (Nat × Nat))
    (cols : List Bytes) (ts : List Target) (ir us : List Nat) (r : List Target × List Nat × List Nat) :
    scanTargets tt outputs dests m cols ts ir us = .ok r ↔
      (∀ c ∈ cols, ∃ t, colTarget tt outputs dests m c = .ok t) ∧
      r = (ts ++ cols.map (colTargetD tt outputs dests m), (cols.filterMap markerIndex).reverse ++ ir,
           (cols.filterMap (fun c => (colOutput outputs c).map Loc.tid)).reverse ++ us) := by
  induction cols generalizing ts ir us with
  | nil => simp [scanTargets, eq_comm]
  | cons c rest ih =>
    rw [scanTargets_cons]
    cases hct : colTarget tt outputs dests m c with
    | error e => simp [hct]
    | ok t =>
      have htg : colTargetD tt outputs dests m c = t := by simp only [colTargetD, hct]
      rw [ih, List.forall_mem_cons, List.map_cons, htg, scan_filterMap_reverse_cons, scan_filterMap_reverse_cons,
        List.append_assoc]
      simp only [hct, Except.ok.injEq, exists_eq', true_and, List.singleton_append]

open Classical in
/-- The two coverage tests (the loops over `columnInResult` and `typeToValue` that end `ScanArgs`) are stated as
    propositions and decided classically; a test that passes selects its branch by `if_neg (not_not_intro h)`. -/
theorem scanArgs_of_targets {cols : List Bytes} (h : EarlierChecksPass tt outputs cols dests m) :
    scanArgs tt outputs cols dests =
      if ¬ ∀ k, k < outputs.length → ∃ c ∈ cols, markerIndex c = some k then .error "column-missing"
      else if ¬ ∀ d ∈ dests, ∃ c ∈ cols, ∃ k l, markerIndex c = some k ∧ outputs[k]? = some l ∧ l.tid = d.tid then
        .error "destination-not-used"
      else .ok (cols.map (colTargetD tt outputs dests m)) := by
  rw [scanArgs, h.1]
  dsimp only
  rw [if_neg (Nat.not_lt.mpr h.2.1),
    (scanTargets_ok_iff tt outputs dests m cols [] [] [] _).mpr ⟨fun _ hc => h.target_ok hc, rfl⟩]
  simp only [List.nil_append, List.append_nil, Bool.not_eq_true', ← Bool.not_eq_true, List.all_eq_true, List.mem_range,
    List.contains_eq_mem, List.mem_reverse, List.mem_filterMap, Option.map_eq_some_iff, decide_eq_true_eq,
    colOutput_tid_iff,
    (validMap_of_ok h.1).forall_iff fun t => ∃ c ∈ cols, ∃ k l, markerIndex c = some k ∧ outputs[k]? = some l ∧ l.tid = t]

end Sqlair
