/-
  Characterisation of `scanRow` (model of `sql.Rows.Scan`): on success the store is the fold of the
  direct writes, and the deferred (proxy) writes are returned in column order.  Of a failing scan only the error is
  characterised (`scanRow_cons`, `scanRow_error_mem`): what the earlier direct writes and the failing target
  (`unspecified`) leave in the destinations is left out on purpose.
-/
import SqlairProofs.Scan.Dest

namespace Sqlair

/-- `none` = conversion failure.  A skipped column receives the dummy `""`, so that "every column converts" can be
    said of all columns alike. -/
def Target.text (E : ScanEnv) : Target → DV → Option String
  | .skip, _ => some ""
  | .key _ _ elem, v => E.conv v elem
  | .field _ _ fty .proxy, none => some (E.zeroText fty)
  | .field _ _ fty .proxy, some x => E.conv (some x) fty
  | .field _ _ _ (.directPtr _), none => some E.nilText
  | .field _ _ _ (.directPtr elem), some x => E.conv (some x) elem
  | .field _ _ fty .directScanner, v => E.conv v fty

/-- The pointer and Scanner fields, whose address `LocateScanTarget` hands to `Rows.Scan` itself: they are written
    during the scan.  Every other member is scanned into a `ScanProxy` and written by `OnSuccess` afterwards. -/
def Target.isDirect : Target → Bool
  | .field _ _ _ .proxy => false
  | .field .. => true
  | _ => false

def Target.write : Target → String → Option Pending
  | .skip, _ => none
  | .field di idx _ _, s => some (.field di idx s)
  | .key di k _, s => some (.key di k s)

def awrite (E : ScanEnv) (tv : Target × DV) : Option Pending := (tv.1.text E tv.2).bind tv.1.write
def dwrite (E : ScanEnv) (tv : Target × DV) : Option Pending := if tv.1.isDirect then awrite E tv else none
def pwrite (E : ScanEnv) (tv : Target × DV) : Option Pending := if tv.1.isDirect then none else awrite E tv

theorem Target.write_loc {t : Target} {s : String} {w : Pending} (h : t.write s = some w) :
    t.loc = some w.loc ∧ w.val = s := by
  cases t <;> simp only [Target.write, Option.some.injEq, reduceCtorEq] at h <;> subst h <;> exact ⟨rfl, rfl⟩

theorem awrite_loc {E : ScanEnv} {tv : Target × DV} {w : Pending} (h : awrite E tv = some w) :
    tv.1.loc = some w.loc ∧ tv.1.text E tv.2 = some w.val := by
  unfold awrite at h
  cases ht : tv.1.text E tv.2 with
  | none => rw [ht] at h; cases h
  | some s =>
    rw [ht] at h
    obtain ⟨h1, h2⟩ := Target.write_loc h
    exact ⟨h1, by rw [h2]⟩

theorem dwrite_some {E : ScanEnv} {tv : Target × DV} {w : Pending} (h : dwrite E tv = some w) :
    tv.1.isDirect = true ∧ awrite E tv = some w := by
  unfold dwrite at h
  split at h
  · exact ⟨by assumption, h⟩
  · cases h

theorem pwrite_some {E : ScanEnv} {tv : Target × DV} {w : Pending} (h : pwrite E tv = some w) :
    tv.1.isDirect = false ∧ awrite E tv = some w := by
  unfold pwrite at h
  split at h
  · cases h
  · rename_i hn; exact ⟨Bool.eq_false_iff.mpr hn, h⟩

theorem dwrite_of_direct {E : ScanEnv} {tv : Target × DV} (h : tv.1.isDirect = true) :
    dwrite E tv = awrite E tv ∧ pwrite E tv = none := ⟨if_pos h, if_pos h⟩

theorem pwrite_of_not_direct {E : ScanEnv} {tv : Target × DV} (h : tv.1.isDirect = false) :
    dwrite E tv = none ∧ pwrite E tv = awrite E tv := by
  unfold dwrite pwrite
  rw [h]
  exact ⟨rfl, rfl⟩

theorem dwrite_isField {E : ScanEnv} {tv : Target × DV} {w : Pending} (h : dwrite E tv = some w) :
    w.isField = true := by
  obtain ⟨hd, ha⟩ := dwrite_some h
  obtain ⟨t, v⟩ := tv
  unfold awrite at ha
  cases t with
  | skip => cases hd
  | key => cases hd
  | field di idx fty cat =>
    cases htx : (Target.field di idx fty cat).text E v with
    | none => simp only [htx, Option.bind_none, reduceCtorEq] at ha
    | some s =>
      simp only [htx, Option.bind_some, Target.write, Option.some.injEq] at ha
      subst ha; rfl

attribute [local simp] scanRow dwrite pwrite awrite Target.isDirect Target.text Target.write applyWrites Pending.apply in
theorem scanRow_cons (E : ScanEnv) (t : Target) (ts : List Target) (v : DV) (vs : List DV) (ds : List Dest)
    (ps : List Pending) :
    (t.text E v = none → (scanRow E (t :: ts) (v :: vs) ds ps).2 = .error "conversion") ∧
    ∀ s, t.text E v = some s → scanRow E (t :: ts) (v :: vs) ds ps =
      scanRow E ts vs (applyWrites ds (dwrite E (t, v)).toList) (ps ++ (pwrite E (t, v)).toList) := by
  -- in each case of the model the hypothesis on the conversion selects the branch (`+contextual`)
  cases t with
  | skip => simp
  | key di k elem => simp +contextual
  | field di idx fty cat =>
    cases cat with
    | proxy =>
      cases v with
      | none => simp
      | some x => simp +contextual
    | directPtr elem =>
      cases v with
      | none => simp
      | some x => simp +contextual
    | directScanner => simp +contextual

theorem scanRow_ok_iff (E : ScanEnv) (ts : List Target) (vs : List DV) (ds : List Dest) (ps : List Pending)
    (ds' : List Dest) (ps' : List Pending) :
    scanRow E ts vs ds ps = (ds', .ok ps') ↔
      ts.length ≤ vs.length ∧ (∀ tv ∈ ts.zip vs, (tv.1.text E tv.2).isSome = true) ∧
      ds' = applyWrites ds ((ts.zip vs).filterMap (dwrite E)) ∧
      ps' = ps ++ (ts.zip vs).filterMap (pwrite E) := by
  induction ts generalizing vs ds ps with
  | nil => simp only [scanRow, Prod.mk.injEq, Except.ok.injEq, List.length_nil, Nat.zero_le, List.zip_nil_left,
      List.not_mem_nil, false_imp_iff, implies_true, List.filterMap_nil, applyWrites_nil, List.append_nil, true_and,
      eq_comm]
  | cons t ts ih =>
    cases vs with
    | nil =>
      constructor
      · intro h
        simp only [scanRow, Prod.mk.injEq, reduceCtorEq, and_false] at h
      · rintro ⟨h, _⟩
        exact absurd h (Nat.not_succ_le_zero _)
    | cons v vs =>
      cases htx : t.text E v with
      | none =>
        have := (scanRow_cons E t ts v vs ds ps).1 htx
        constructor
        · intro h; rw [h] at this; cases this
        · rintro ⟨_, hall, _⟩
          have := hall (t, v) (by simp)
          simp [htx] at this
      | some s =>
        rw [(scanRow_cons E t ts v vs ds ps).2 s htx, ih, List.zip_cons_cons, scan_filterMap_cons_toList,
          scan_filterMap_cons_toList, applyWrites_append, List.append_assoc]
        simp only [List.length_cons, Nat.add_le_add_iff_right, List.forall_mem_cons, htx, Option.isSome_some, true_and]

theorem scanRow_error_mem (E : ScanEnv) (ts : List Target) (vs : List DV) (ds : List Dest) (ps : List Pending)
    {e : String} (h : (scanRow E ts vs ds ps).2 = .error e) : e = "row-too-short" ∨ e = "conversion" := by
  induction ts generalizing vs ds ps with
  | nil => simp [scanRow] at h
  | cons t ts ih =>
    cases vs with
    | nil =>
      simp only [scanRow, Except.error.injEq] at h
      exact Or.inl h.symm
    | cons v vs =>
      cases htx : t.text E v with
      | none =>
        rw [(scanRow_cons E t ts v vs ds ps).1 htx] at h
        simp only [Except.error.injEq] at h
        exact Or.inr h.symm
      | some s =>
        rw [(scanRow_cons E t ts v vs ds ps).2 s htx] at h
        exact ih _ _ _ h

end Sqlair
