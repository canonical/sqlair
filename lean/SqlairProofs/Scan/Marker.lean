/-
  `markerIndex` and the generated aliases `_sqlair_<n>`: `markerIndex col = some n` exactly when `col` is the alias of
  `n` and `n < 2^63`, the indices a Go `int` can hold (`markerIndex_iff`); and the scan functions on the list of marker
  indices in place of the column names.
-/
import SqlairModel.Scan
import SqlairProofs.Basics

namespace Sqlair

/-- `markerName` of querybuilder.go: the alias generated for output column number `n` -/
def markerName (n : Nat) : Bytes := ("_sqlair_" ++ toString n).toUTF8.data

theorem markerName_eq (n : Nat) : markerName n = markerPrefix ++ (toString n).toUTF8.data := by
  unfold markerName markerPrefix String.toUTF8
  rw [String.toByteArray_append, ByteArray.data_append]

theorem natOfDigits_repr (n : Nat) : natOfDigits (toString n).toUTF8.data.toList = n := by
  rw [repr_bytes]
  unfold natOfDigits
  rw [natOfDigits_map _ (fun c hc => (digit_val hc).2)]
  exact Nat.ofDigitChars_ten_toDigits

theorem markerName_inj {j k : Nat} (h : markerName j = markerName k) : j = k := by
  rw [markerName_eq, markerName_eq, Array.append_right_inj] at h
  rw [← natOfDigits_repr j, h, natOfDigits_repr]

theorem markerIndex_iff {col : Bytes} {n : Nat} :
    markerIndex col = some n ↔ col = markerName n ∧ n < 2 ^ 63 := by
  simp only [markerIndex, Option.ite_none_right_eq_some, Option.some.injEq, Bool.and_eq_true, beq_iff_eq,
    decide_eq_true_eq, show markerPrefix.size = 8 from rfl]
  constructor
  · rintro ⟨⟨hsz, hpre⟩, -, ⟨hrepr, h63⟩, rfl⟩
    -- `col` is its first eight bytes, which are the prefix, followed by the rest, which is the decimal of `n`
    refine ⟨?_, h63⟩
    rw [markerName_eq, hrepr, ← hpre, Array.extract_append_extract, Nat.max_eq_right (Nat.le_of_lt hsz),
      Nat.zero_min, Array.extract_size]
  · rintro ⟨rfl, h⟩
    have hsz : (markerName n).size = 8 + (toString n).toUTF8.data.size := by rw [markerName_eq]; exact Array.size_append
    have e1 : (markerName n).extract 0 8 = markerPrefix := by
      rw [markerName_eq]; exact (Array.extract_append_left ..).trans Array.extract_size
    have e2 : (markerName n).extract 8 (markerName n).size = (toString n).toUTF8.data := by
      rw [hsz, markerName_eq]; exact (Array.extract_append_right ..).trans Array.extract_size
    rw [e2, natOfDigits_repr]
    exact ⟨⟨hsz ▸ Nat.lt_add_of_pos_right (repr_size_pos n), e1⟩, repr_all_digits n, ⟨rfl, h⟩, rfl⟩

/-! `scanArgs` reads a column name through `markerIndex` alone: `scanTargetsIdx`, `scanArgsIdx`, `scanGetIdx` are the same
functions on the list of marker indices, so that a concrete scan is evaluated with each name looked at once
(`rw [scanGet_eq_idx]`, then the indices, then the kernel).  Their bodies repeat those of `scanTargets`, `scanArgs` and
`scanGet` (SqlairModel/Scan.lean) and must stay the same text: after a change there, `scanTargets_eq_idx` /
`scanArgs_eq_idx` / `scanGet_eq_idx` are what fails. -/

def scanTargetsIdx (tt : TypeTable) (outputs : List Loc) (dests : List Dest) (m : List (Nat × Nat)) :
    List (Option Nat) → List Target → List Nat → List Nat → Except String (List Target × List Nat × List Nat)
  | [], ts, inResult, used => .ok (ts, inResult, used)
  | none :: rest, ts, inResult, used => scanTargetsIdx tt outputs dests m rest (ts ++ [.skip]) inResult used
  | some idx :: rest, ts, inResult, used =>
    match outputs[idx]? with
    | none => .error "internal-column-not-in-outputs"
    | some l =>
      match locateTarget tt dests m l with
      | .error e => .error e
      | .ok t => scanTargetsIdx tt outputs dests m rest (ts ++ [t]) (idx :: inResult) (l.tid :: used)

theorem scanTargets_eq_idx (tt : TypeTable) (outputs : List Loc) (dests : List Dest) (m : List (Nat × Nat))
    (cols : List Bytes) (ts : List Target) (ir us : List Nat) :
    scanTargets tt outputs dests m cols ts ir us =
      scanTargetsIdx tt outputs dests m (cols.map markerIndex) ts ir us := by
  induction cols generalizing ts ir us with
  | nil => rfl
  | cons c rest ih =>
    rw [scanTargets, List.map_cons]
    cases markerIndex c with
    | none => exact ih ..
    | some idx =>
      rw [scanTargetsIdx]
      dsimp only
      cases outputs[idx]? with
      | none => rfl
      | some l =>
        dsimp only
        cases locateTarget tt dests m l with
        | error e => rfl
        | ok t => exact ih ..

def scanArgsIdx (tt : TypeTable) (outputs : List Loc) (idxs : List (Option Nat)) (dests : List Dest) :
    Except String (List Target) :=
  match validateOutputs dests [] 0 with
  | .error e => .error e
  | .ok m =>
    if idxs.length < outputs.length then .error "too-few-columns" else
    match scanTargetsIdx tt outputs dests m idxs [] [] [] with
    | .error e => .error e
    | .ok (ts, inResult, used) =>
      if !(List.range outputs.length).all inResult.contains then .error "column-missing"
      else if !m.all (fun p => used.contains p.1) then .error "destination-not-used"
      else .ok ts

theorem scanArgs_eq_idx (tt : TypeTable) (outputs : List Loc) (cols : List Bytes) (dests : List Dest) :
    scanArgs tt outputs cols dests = scanArgsIdx tt outputs (cols.map markerIndex) dests := by
  simp only [scanArgs, scanArgsIdx, scanTargets_eq_idx, List.length_map]
  rfl

def scanGetIdx (E : ScanEnv) (tt : TypeTable) (outputs : List Loc) (idxs : List (Option Nat)) (row : List DV)
    (dests : List Dest) : List Dest × Option String :=
  match scanArgsIdx tt outputs idxs dests with
  | .error e => (dests, some e)
  | .ok ts =>
    match scanRow E ts row dests [] with
    | (dests, .error e) => (dests, some e)
    | (dests, .ok ps) => (ps.foldl Pending.apply dests, none)

theorem scanGet_eq_idx (E : ScanEnv) (tt : TypeTable) (outputs : List Loc) (cols : List Bytes) (row : List DV)
    (dests : List Dest) :
    scanGet E tt outputs cols row dests = scanGetIdx E tt outputs (cols.map markerIndex) row dests := by
  rw [scanGet, scanArgs_eq_idx]; rfl

end Sqlair
