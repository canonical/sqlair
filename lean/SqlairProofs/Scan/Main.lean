/-
  `scanGet` as a whole.  A successful `Get` is a fold of writes (`scanGet_ok_iff`); each write goes to the member
  designated by an output whose alias is a column (`Designates`, `colTargetD_loc`), what it writes is `expectedText`, and
  the last write to a member wins (`valAt_writesOf_last`).  `scanGet_member` says what every member holds afterwards,
  `scanGet_located` that every alias column designates one; the value properties of Props/Scan.lean are read off these
  two.  Neither needs `WFOut`, the hypothesis of the value properties: distinct outputs enter only through
  `Designates.same_output`.  A failing `Get` is `scanGet_error_iff`.
-/
import SqlairProofs.Scan.Row
import SqlairProofs.Scan.Errors

namespace Sqlair

variable {E : ScanEnv} {tt : TypeTable} {outputs : List Loc} {dests : List Dest} {m : List (Nat × Nat)}

/-- the text that ends up in the member designated by output `l` when the driver value of its column is `v` (`none` =
    the conversion fails): `Target.text` of the output's target (`Loc.target_text`), said of the output so that the scan
    properties need no `Target` -/
def expectedText (E : ScanEnv) (tt : TypeTable) (l : Loc) (v : DV) : Option String :=
  match l with
  | .field tid _ f =>
    let fty := fieldTypeOf tt tid f.index true
    match fieldCat tt fty with
    | .proxy => match v with
      | none => some (E.zeroText fty)
      | some x => E.conv (some x) fty
    | .directPtr elem => match v with
      | none => some E.nilText
      | some x => E.conv (some x) elem
    | .directScanner => E.conv v fty            -- the Scanner sees the raw value, NULL included
  | .mapKey tid _ _ => E.conv v (tt.get tid).elem
  | .slice .. => none

theorem expectedText_field_null (E : ScanEnv) (tt : TypeTable) (tid : Nat) (n : Bytes) (f : SField) :
    expectedText E tt (.field tid n f) none =
      match fieldCat tt (fieldTypeOf tt tid f.index true) with
      | .proxy => some (E.zeroText (fieldTypeOf tt tid f.index true))
      | .directPtr _ => some E.nilText
      | .directScanner => E.conv none (fieldTypeOf tt tid f.index true) := by
  simp only [expectedText]

theorem expectedText_field_val (E : ScanEnv) (tt : TypeTable) (tid : Nat) (n : Bytes) (f : SField) (x : String) :
    expectedText E tt (.field tid n f) (some x) =
      E.conv (some x) (match fieldCat tt (fieldTypeOf tt tid f.index true) with
        | .directPtr elem => elem
        | _ => fieldTypeOf tt tid f.index true) := by
  simp only [expectedText]
  cases fieldCat tt (fieldTypeOf tt tid f.index true) <;> rfl

theorem expectedText_mapKey (E : ScanEnv) (tt : TypeTable) (tid : Nat) (n key : Bytes) (v : DV) :
    expectedText E tt (.mapKey tid n key) v = E.conv v (tt.get tid).elem := rfl

theorem expectedText_slice (E : ScanEnv) (tt : TypeTable) (tid : Nat) (n : Bytes) (v : DV) :
    expectedText E tt (.slice tid n) v = none := rfl

theorem Loc.target_text (E : ScanEnv) (tt : TypeTable) (l : Loc) (di : Nat) (v : DV) {s : Slot} (hs : l.slot? = some s) :
    (l.target tt di).text E v = expectedText E tt l v := by
  cases l with
  | slice => cases hs
  | mapKey tid n k => rfl
  | field tid n f =>
    cases v with
    | none => rw [expectedText_field_null, Loc.target]; cases fieldCat tt (fieldTypeOf tt tid f.index true) <;> rfl
    | some x => rw [expectedText_field_val, Loc.target]; cases fieldCat tt (fieldTypeOf tt tid f.index true) <;> rfl

/-- `expectedText_field_null` read under a predicate `P` of the text: the form in which `null_semantics` and the C17
    round trip conclude -/
theorem expectedText_field_null_elim {E : ScanEnv} {tt : TypeTable} {tid : Nat} {n : Bytes} {f : SField} {txt : String}
    {P : String → Prop} (h : expectedText E tt (.field tid n f) none = some txt) (hp : P txt) :
    match fieldCat tt (fieldTypeOf tt tid f.index true) with
    | .proxy => P (E.zeroText (fieldTypeOf tt tid f.index true))
    | .directPtr _ => P E.nilText
    | .directScanner => ∃ txt, E.conv none (fieldTypeOf tt tid f.index true) = some txt ∧ P txt := by
  rw [expectedText_field_null] at h
  cases hcat : fieldCat tt (fieldTypeOf tt tid f.index true) with
  | proxy => simp only [hcat] at h ⊢; cases h; exact hp
  | directPtr e => simp only [hcat] at h ⊢; cases h; exact hp
  | directScanner => simp only [hcat] at h ⊢; exact ⟨txt, h, hp⟩

def targetVals (tt : TypeTable) (outputs : List Loc) (dests : List Dest) (m : List (Nat × Nat))
    (cv : List (Bytes × DV)) : List (Target × DV) := cv.map (Prod.map (colTargetD tt outputs dests m) id)

/-- The writes of a successful scan in the order Go performs them: the direct ones during `Rows.Scan`, then those of
    the proxies in `OnSuccess`. -/
def writesOf (E : ScanEnv) (l : List (Target × DV)) : List Pending :=
  l.filterMap (dwrite E) ++ l.filterMap (pwrite E)

theorem scanGet_ok_iff (E : ScanEnv) (tt : TypeTable) (outputs : List Loc) (cols : List Bytes) (row : List DV)
    (dests dests' : List Dest) :
    scanGet E tt outputs cols row dests = (dests', none) ↔
      ∃ m, ScanChecks tt outputs cols dests m ∧ cols.length ≤ row.length ∧
        (∀ tv ∈ targetVals tt outputs dests m (cols.zip row), (tv.1.text E tv.2).isSome = true) ∧
        dests' = applyWrites dests (writesOf E (targetVals tt outputs dests m (cols.zip row))) := by
  unfold scanGet writesOf targetVals
  constructor
  · intro h
    cases hsa : scanArgs tt outputs cols dests with
    | error e => rw [hsa] at h; cases h
    | ok ts =>
      obtain ⟨m, hck, rfl⟩ := (scanArgs_ok_iff ..).mp hsa
      rw [hsa] at h
      dsimp only at h
      split at h
      · cases h
      · rename_i ds' ps hsr
        obtain ⟨g1, g2, rfl, rfl⟩ := (scanRow_ok_iff ..).mp hsr
        rw [List.zip_map_left] at g2 h
        cases h
        exact ⟨m, hck, by simpa using g1, g2, (applyWrites_append ..).symm⟩
  · rintro ⟨m, hck, hlen, htx, rfl⟩
    rw [(scanArgs_ok_iff ..).mpr ⟨m, hck, rfl⟩]
    dsimp only
    rw [(scanRow_ok_iff E _ row dests [] _ _).mpr ⟨by simpa using hlen, by rw [List.zip_map_left]; exact htx, rfl, rfl⟩,
      List.zip_map_left, applyWrites_append]
    rfl

theorem scanGet_error_iff (E : ScanEnv) (tt : TypeTable) (outputs : List Loc) (cols : List Bytes) (row : List DV)
    (dests dests' : List Dest) (e : String) :
    scanGet E tt outputs cols row dests = (dests', some e) ↔
      (scanArgs tt outputs cols dests = .error e ∧ dests' = dests) ∨
      ∃ ts, scanArgs tt outputs cols dests = .ok ts ∧ scanRow E ts row dests [] = (dests', .error e) := by
  unfold scanGet
  cases scanArgs tt outputs cols dests with
  | error e' => simpa [eq_comm] using and_comm
  | ok ts =>
    cases hr : scanRow E ts row dests [] with
    | mk d1 r => cases r <;> simp [hr, eq_comm]

theorem scanGet_frame {cols : List Bytes} {row : List DV} {dests' : List Dest}
    (hget : scanGet E tt outputs cols row dests = (dests', none)) :
    dests'.length = dests.length ∧ ∀ (di : Nat) (d : Dest), dests[di]? = some d →
      ∃ d', dests'[di]? = some d' ∧ d'.form = d.form ∧ d'.tid = d.tid ∧ d'.fields.map (·.1) = d.fields.map (·.1) := by
  obtain ⟨m, _, _, _, rfl⟩ := (scanGet_ok_iff ..).mp hget
  exact ⟨applyWrites_length .., fun di d hd => applyWrites_getElem? dests _ di d hd⟩

theorem scanGet_row_length {cols : List Bytes} {row : List DV} {dests' : List Dest}
    (hget : scanGet E tt outputs cols row dests = (dests', none)) : cols.length ≤ row.length := by
  obtain ⟨m, _, h, _⟩ := (scanGet_ok_iff ..).mp hget
  exact h

def Designates (outputs : List Loc) (dests : List Dest) (c : Bytes) (loc : Nat × Slot) (l : Loc) : Prop :=
  ∃ k d, markerIndex c = some k ∧ outputs[k]? = some l ∧ dests[loc.1]? = some d ∧ d.tid = l.tid ∧ l.slot? = some loc.2

theorem colTargetD_loc
    (hm : ValidMap dests m) {c : Bytes} {loc : Nat × Slot} (h : (colTargetD tt outputs dests m c).loc = some loc) :
    ∃ l, Designates outputs dests c loc l ∧ colTargetD tt outputs dests m c = l.target tt loc.1 ∧
      Writable dests loc := by
  unfold colTargetD at h ⊢
  cases hct : colTarget tt outputs dests m c with
  | error e => rw [hct] at h; cases h
  | ok t =>
    rw [hct] at h
    simp only at h ⊢
    rcases colTarget_ok hct with ⟨_, rfl⟩ | ⟨k, l, hmi, hout, hlt⟩
    · cases h
    · obtain ⟨di, d, s, hd, ht, hs, htl, hw⟩ := locateTarget_ok hm hlt
      have hloc : loc = (di, s) := by
        rw [htl, Loc.target_loc, hs] at h
        simpa using h.symm
      subst hloc
      exact ⟨l, ⟨k, d, hmi, hout, hd, ht, hs⟩, htl, hw⟩

theorem mem_writesOf {l : List (Target × DV)} {w : Pending} (h : w ∈ writesOf E l) :
    ∃ tv ∈ l, awrite E tv = some w := by
  unfold writesOf at h
  rcases List.mem_append.mp h with h | h
  · obtain ⟨tv, htv, hd⟩ := List.mem_filterMap.mp h
    exact ⟨tv, htv, (dwrite_some hd).2⟩
  · obtain ⟨tv, htv, hd⟩ := List.mem_filterMap.mp h
    exact ⟨tv, htv, (pwrite_some hd).2⟩

theorem mem_targetVals
    {cv : List (Bytes × DV)} {tv : Target × DV} (h : tv ∈ targetVals tt outputs dests m cv) :
    ∃ c, (c, tv.2) ∈ cv ∧ tv.1 = colTargetD tt outputs dests m c := by
  unfold targetVals at h
  obtain ⟨⟨c, v⟩, hcv, rfl⟩ := List.mem_map.mp h
  exact ⟨c, hcv, rfl⟩

theorem targetVals_getElem?
    {cols : List Bytes} {row : List DV} {i : Nat} {tv : Target × DV}
    (h : (targetVals tt outputs dests m (cols.zip row))[i]? = some tv) :
    ∃ c, cols[i]? = some c ∧ row[i]? = some tv.2 ∧ tv.1 = colTargetD tt outputs dests m c := by
  unfold targetVals at h
  rw [List.getElem?_map] at h
  obtain ⟨cv, hz, rfl⟩ := Option.map_eq_some_iff.mp h
  obtain ⟨h1, h2⟩ := List.getElem?_zip_eq_some.mp hz
  exact ⟨cv.1, h1, h2, rfl⟩

/-- `hsame`: `writesOf` moves proxies behind direct writes, and keeps the order within each kind. -/
theorem valAt_writesOf_last (E : ScanEnv) (ds : List Dest) {l : List (Target × DV)} {j : Nat} {t : Target} {v : DV}
    (hj : l[j]? = some (t, v)) {w : Pending} (haw : awrite E (t, v) = some w) (hW : Writable ds w.loc)
    (hlast : ∀ (j' : Nat) tv, j < j' → l[j']? = some tv → tv.1.loc ≠ some w.loc)
    (hsame : ∀ tv ∈ l, tv.1.loc = some w.loc → tv.1.isDirect = t.isDirect) :
    valAt (applyWrites ds (writesOf E l)) w.loc = some (some w.val) := by
  rw [list_split_at hj] at hsame ⊢
  unfold writesOf
  simp only [List.filterMap_append, List.filterMap_cons]
  have hloc : ∀ {f : Target × DV → Option Pending}, (∀ {tv w'}, f tv = some w' → awrite E tv = some w') →
      ∀ w' ∈ (l.drop (j + 1)).filterMap f, w'.loc ≠ w.loc := by
    intro f hf w' hw' e
    obtain ⟨tv, htv, hd⟩ := List.mem_filterMap.mp hw'
    obtain ⟨j', hlt, hj'⟩ := mem_drop_succ htv
    exact hlast j' tv hlt hj' (by rw [(awrite_loc (hf hd)).1, e])
  have hd2 := hloc fun h => (dwrite_some h).2
  have hp2 := hloc fun h => (pwrite_some h).2
  cases hdir : t.isDirect with
  | true =>
    rw [(dwrite_of_direct (tv := (t, v)) hdir).1, (dwrite_of_direct (tv := (t, v)) hdir).2, haw]
    simp only [List.append_assoc, List.cons_append]
    apply valAt_applyWrites_last _ _ _ _ hW
    intro w' hw'
    simp only [List.mem_append] at hw'
    rcases hw' with hw' | hw' | hw'
    · exact hd2 w' hw'
    · intro e
      obtain ⟨tv, htv, hd⟩ := List.mem_filterMap.mp hw'
      have h3 := pwrite_some hd
      have := hsame tv (List.mem_append_left _ htv) (by rw [(awrite_loc h3.2).1, e])
      rw [h3.1, hdir] at this; cases this
    · exact hp2 w' hw'
  | false =>
    rw [(pwrite_of_not_direct (tv := (t, v)) hdir).1, (pwrite_of_not_direct (tv := (t, v)) hdir).2, haw]
    simp only [← List.append_assoc]
    exact valAt_applyWrites_last _ _ _ _ hW hp2

theorem Loc.target_write (tt : TypeTable) {l : Loc} {s : Slot} (di : Nat) (txt : String) (hs : l.slot? = some s) :
    ∃ w, (l.target tt di).write txt = some w ∧ w.loc = (di, s) ∧ w.val = txt := by
  cases l with
  | slice => cases hs
  | mapKey tid n k =>
    simp only [Loc.slot?, Option.some.injEq] at hs; subst hs
    exact ⟨_, rfl, rfl, rfl⟩
  | field tid n f =>
    simp only [Loc.slot?, Option.some.injEq] at hs; subst hs
    exact ⟨_, rfl, rfl, rfl⟩

theorem Loc.same_slot_cases {l l' : Loc} {s : Slot} (ht : l.tid = l'.tid) (hs : l.slot? = some s)
    (hs' : l'.slot? = some s) :
    (∃ t n n' f f', l = .field t n f ∧ l' = .field t n' f' ∧ f.index = f'.index) ∨
    ∃ t n n' k, l = .mapKey t n k ∧ l' = .mapKey t n' k := by
  cases l <;> cases l' <;> simp only [Loc.slot?, Option.some.injEq, reduceCtorEq] at hs hs'
  · subst hs; simp only [Slot.field.injEq] at hs'
    cases ht
    exact .inl ⟨_, _, _, _, _, rfl, rfl, hs'.symm⟩
  · subst hs; cases hs'
  · subst hs; cases hs'
  · subst hs; simp only [Slot.key.injEq] at hs'
    cases ht; subst hs'
    exact .inr ⟨_, _, _, _, rfl, rfl⟩

theorem Loc.target_congr (tt : TypeTable) {l l' : Loc} {s : Slot} (di : Nat) (ht : l.tid = l'.tid)
    (hs : l.slot? = some s) (hs' : l'.slot? = some s) : l.target tt di = l'.target tt di := by
  rcases Loc.same_slot_cases ht hs hs' with ⟨t, n, n', f, f', rfl, rfl, e⟩ | ⟨t, n, n', k, rfl, rfl⟩
  · simp only [Loc.target, e]
  · rfl

theorem colTargetD_of_designates (hm : ValidMap dests m) {c : Bytes} (hc : ∃ t, colTarget tt outputs dests m c = .ok t)
    {di : Nat} {s : Slot} {l : Loc} (h : Designates outputs dests c (di, s) l) :
    (colTargetD tt outputs dests m c).loc = some (di, s) := by
  obtain ⟨k, d, hmi, hk, hd, ht, hs⟩ := h
  obtain ⟨t, hct⟩ := hc
  obtain ⟨di', d', s', hd', ht', hs', rfl, _⟩ := locateTarget_ok hm (colTarget_of_marker hmi hk ▸ hct)
  obtain rfl : di' = di := hm.tid_inj hd' hd (ht'.trans ht.symm)
  rw [colTargetD, hct, Loc.target_loc, hs]; rfl

/-- No hypothesis on the outputs or the destinations is needed for "the last column designating a member wins": all
    columns that hit one member have the same target (`Loc.target_congr`), hence are all direct or all proxies, and the
    direct-then-proxy order of `writesOf` cannot reorder them. -/
theorem scanGet_member {cols : List Bytes} {row : List DV} {dests' : List Dest}
    (hget : scanGet E tt outputs cols row dests = (dests', none)) (loc : Nat × Slot) :
    (valAt dests' loc = valAt dests loc ∧ ∀ c ∈ cols, ∀ l, ¬ Designates outputs dests c loc l) ∨
    ∃ j c v l txt, cols[j]? = some c ∧ row[j]? = some v ∧ Designates outputs dests c loc l ∧
      (∀ (j' : Nat) c' l', j < j' → cols[j']? = some c' → ¬ Designates outputs dests c' loc l') ∧
      expectedText E tt l v = some txt ∧ valAt dests' loc = some (some txt) := by
  obtain ⟨di, s⟩ := loc
  obtain ⟨m, hck, hrow, htx, hfin⟩ := (scanGet_ok_iff ..).mp hget
  have hm := validMap_of_ok hck.earlier.1
  have hdes : ∀ c ∈ cols, ∀ l, Designates outputs dests c (di, s) l →
      (colTargetD tt outputs dests m c).loc = some (di, s) :=
    fun c hc l h => colTargetD_of_designates hm (hck.earlier.target_ok hc) h
  by_cases hex : ∃ c ∈ cols, (colTargetD tt outputs dests m c).loc = some (di, s)
  · right
    obtain ⟨j, c, hj, hc, hlast⟩ := exists_last (fun c => (colTargetD tt outputs dests m c).loc = some (di, s)) cols hex
    obtain ⟨l, ⟨k, d, a1, a2, a3, a4, a5⟩, htg, hw⟩ := colTargetD_loc hm hc
    have hjr : j < row.length := Nat.lt_of_lt_of_le (List.getElem?_eq_some_iff.mp hj).1 hrow
    have hl0 : (targetVals tt outputs dests m (cols.zip row))[j]? = some (l.target tt di, row[j]) := by
      rw [targetVals, List.getElem?_map, (List.getElem?_zip_eq_some (z := (c, row[j]))).mpr ⟨hj, List.getElem?_eq_getElem hjr⟩,
        Option.map_some, Prod.map_apply, htg]
      rfl
    obtain ⟨txt, htxt⟩ := Option.isSome_iff_exists.mp (htx _ (List.mem_of_getElem? hl0))
    simp only at htxt
    obtain ⟨w, hwr, hwl, hwv⟩ := Loc.target_write tt di txt a5
    have haw : awrite E (l.target tt di, row[j]) = some w := by simp only [awrite, htxt, Option.bind_some, hwr]
    have hkey : ∀ c', (colTargetD tt outputs dests m c').loc = some (di, s) →
        colTargetD tt outputs dests m c' = l.target tt di := by
      intro c' hloc
      obtain ⟨l', ⟨k', d', _, _, b3, b4, b5⟩, b6, _⟩ := colTargetD_loc hm hloc
      obtain rfl : d = d' := Option.some.inj (a3.symm.trans b3)
      rw [b6]; exact Loc.target_congr tt di (b4.symm.trans a4) b5 a5
    refine ⟨j, c, row[j], l, txt, hj, List.getElem?_eq_getElem hjr, ⟨k, d, a1, a2, a3, a4, a5⟩,
      fun j' c' l' hlt hc' h => hlast j' c' hlt hc' (hdes c' (List.mem_of_getElem? hc') l' h), ?_, ?_⟩
    · rw [← Loc.target_text E tt l di _ a5]; exact htxt
    rw [hfin, ← hwl, ← hwv]
    apply valAt_writesOf_last E dests hl0 haw (hwl ▸ hw)
    · intro j' tv hlt hj' hloc
      obtain ⟨c', hc', _, htc'⟩ := targetVals_getElem? hj'
      rw [htc', hwl] at hloc
      exact hlast j' c' hlt hc' hloc
    · intro tv htv hloc
      obtain ⟨c', _, htc'⟩ := mem_targetVals htv
      rw [htc', hwl] at hloc
      rw [htc', hkey c' hloc]
  · left
    refine ⟨?_, fun c hc l h => hex ⟨c, hc, hdes c hc l h⟩⟩
    rw [hfin]
    apply valAt_applyWrites_of_not_mem
    intro w hw e
    obtain ⟨tv, htv, haw⟩ := mem_writesOf hw
    obtain ⟨c, hc, hct⟩ := mem_targetVals htv
    exact hex ⟨c, (List.of_mem_zip hc).1, by rw [← hct, (awrite_loc haw).1, e]⟩

theorem scanGet_located {cols : List Bytes} {row : List DV} {dests' : List Dest}
    (hget : scanGet E tt outputs cols row dests = (dests', none)) {c : Bytes} (hc : c ∈ cols) {k : Nat}
    (hmi : markerIndex c = some k) : ∃ l di s, Designates outputs dests c (di, s) l := by
  obtain ⟨m, hck, _⟩ := (scanGet_ok_iff ..).mp hget
  obtain ⟨l, t, hout, hlt⟩ := hck.earlier.2.2 c hc k hmi
  obtain ⟨di, d, s, hd, ht, hs, _⟩ := locateTarget_ok (validMap_of_ok hck.earlier.1) hlt
  exact ⟨l, di, s, k, d, hmi, hout, hd, ht, hs⟩

theorem scanGet_tid_inj {cols : List Bytes} {row : List DV} {dests' : List Dest}
    (hget : scanGet E tt outputs cols row dests = (dests', none)) {i j : Nat} {d e : Dest}
    (hi : dests[i]? = some d) (hj : dests[j]? = some e) (ht : d.tid = e.tid) : i = j := by
  obtain ⟨m, hck, _⟩ := (scanGet_ok_iff ..).mp hget
  exact (validMap_of_ok hck.earlier.1).tid_inj hi hj ht

theorem untouched_slotVal {cols : List Bytes} {row : List DV}
    {dests dests' : List Dest} (hget : scanGet E tt outputs cols row dests = (dests', none))
    {di : Nat} {d d' : Dest} (hd : dests[di]? = some d) (hd' : dests'[di]? = some d') (s : Slot)
    (hno : ∀ c ∈ cols, ∀ k l, markerIndex c = some k → outputs[k]? = some l → d.tid = l.tid → l.slot? ≠ some s) :
    d'.slotVal s = d.slotVal s := by
  rw [← valAt_of_getElem? hd', ← valAt_of_getElem? hd]
  rcases scanGet_member hget (di, s) with ⟨h, _⟩ | ⟨j, c, v, l, txt, hj, _, ⟨k, d0, h1, h2, h3, h4, h5⟩, _⟩
  · exact h
  · obtain rfl : d = d0 := Option.some.inj (hd.symm.trans h3)
    exact absurd h5 (hno c (List.mem_of_getElem? hj) k l h1 h2 h4)

def Loc.sameMember : Loc → Loc → Bool
  | .field t _ f, .field t' _ f' => t == t' && f.index == f'.index
  | .mapKey t _ k, .mapKey t' _ k' => t == t' && k == k'
  | _, _ => false

theorem Loc.sameMember_symm (a b : Loc) : a.sameMember b = b.sameMember a := by
  cases a <;> cases b <;> simp only [Loc.sameMember]
  · rw [Bool.beq_comm (a := _) (b := _), Bool.beq_comm (a := SField.index _)]
  · rw [Bool.beq_comm (a := _) (b := _)]
    congr 1
    exact Bool.beq_comm

theorem Loc.sameMember_of {l l' : Loc} {s : Slot} (ht : l.tid = l'.tid) (hs : l.slot? = some s)
    (hs' : l'.slot? = some s) : l.sameMember l' = true := by
  rcases Loc.same_slot_cases ht hs hs' with ⟨t, n, n', f, f', rfl, rfl, e⟩ | ⟨t, n, n', k, rfl, rfl⟩
  · simp [Loc.sameMember, e]
  · simp [Loc.sameMember]

/-- A hypothesis of the value theorems: it is what the `outputUsed` check of Prepare (`markOutput`,
    SqlairModel/Bind.lean) is there for, but no theorem derives it from `bindTypes`. -/
def OutputsDistinct (outputs : List Loc) : Prop := outputs.Pairwise (fun a b => a.sameMember b = false)

theorem OutputsDistinct.index_inj (h : OutputsDistinct outputs)
    {k k' : Nat} {l l' : Loc} (hk : outputs[k]? = some l) (hk' : outputs[k']? = some l')
    (hs : l.sameMember l' = true) : k = k' := by
  rw [OutputsDistinct, List.pairwise_iff_getElem] at h
  obtain ⟨h1, e1⟩ := List.getElem?_eq_some_iff.mp hk
  obtain ⟨h2, e2⟩ := List.getElem?_eq_some_iff.mp hk'
  rcases Nat.lt_trichotomy k k' with hlt | heq | hgt
  · have := h k k' h1 h2 hlt
    rw [e1, e2, hs] at this; cases this
  · exact heq
  · have := h k' k h2 h1 hgt
    rw [e1, e2, Loc.sameMember_symm, hs] at this; cases this

def WFOut (outputs : List Loc) (dests : List Dest) : Prop := OutputsDistinct outputs ∧ DestsDistinct dests

instance (outputs : List Loc) (dests : List Dest) : Decidable (WFOut outputs dests) := by
  unfold WFOut OutputsDistinct DestsDistinct; infer_instance

theorem Designates.same_output (hdist : OutputsDistinct outputs) {c c' : Bytes}
    {loc : Nat × Slot} {l l' : Loc} (h : Designates outputs dests c loc l) (h' : Designates outputs dests c' loc l') :
    l = l' ∧ markerIndex c = markerIndex c' := by
  obtain ⟨k, d, a1, a2, a3, a4, a5⟩ := h
  obtain ⟨k', d', b1, b2, b3, b4, b5⟩ := h'
  obtain rfl : d = d' := Option.some.inj (a3.symm.trans b3)
  obtain rfl := hdist.index_inj a2 b2 (Loc.sameMember_of (a4.symm.trans b4) a5 b5)
  exact ⟨Option.some.inj (a2.symm.trans b2), a1.trans b1.symm⟩

end Sqlair
