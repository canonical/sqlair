/-
  The errors of `scanArgs`: the classes of its three early stages (`earlyErrors`; `validateErrors` and `locateErrors`
  stand with their stages in Scan/Args.lean), and `scanArgs` as a whole (`scanArgs_cases`, `scanArgs_ok_iff`).  The
  classes are plain `e ∈ list` statements read off the case lemmas of the stages; the `ErrIn` walk of Basics is not
  needed for functions this shallow.
-/
import SqlairProofs.Scan.Args

namespace Sqlair

variable {tt : TypeTable} {outputs : List Loc} {dests : List Dest} {m : List (Nat × Nat)}

theorem validateOutputs_error_mem {ds : List Dest} {i : Nat} {e : String}
    (h : validateOutputs ds m i = .error e) : e ∈ validateErrors := by
  induction ds generalizing m i with
  | nil => cases h
  | cons d rest ih =>
    cases hok : d.form.okForm with
    | true =>
      rw [validateOutputs_cons_ok hok] at h
      split at h
      · cases h; mem_lit
      · exact ih h
    | false =>
      obtain ⟨e', he', heq⟩ := validateOutputs_cons_bad hok rest m i
      rw [heq] at h; cases h; exact he'

theorem colTarget_error_mem {tt : TypeTable} {outputs : List Loc} {dests : List Dest} {m : List (Nat × Nat)}
    {c : Bytes} {e : String} (h : colTarget tt outputs dests m c = .error e) : e ∈ locateErrors := by
  unfold colTarget at h
  split at h
  · cases h
  · split at h
    · cases h; mem_lit
    · exact locateTarget_error_mem h

theorem scanTargets_error_mem {cols : List Bytes} {ts : List Target} {ir us : List Nat} {e : String}
    (h : scanTargets tt outputs dests m cols ts ir us = .error e) : e ∈ locateErrors := by
  induction cols generalizing ts ir us with
  | nil => cases h
  | cons c rest ih =>
    rw [scanTargets_cons] at h
    cases hct : colTarget tt outputs dests m c with
    | error e' => rw [hct] at h; cases h; exact colTarget_error_mem hct
    | ok t => rw [hct] at h; exact ih h

def earlyErrors : List String := validateErrors ++ "too-few-columns" :: locateErrors

theorem coverage_errors_not_early : "column-missing" ∉ earlyErrors ∧ "destination-not-used" ∉ earlyErrors := by
  -- `simp` and not `decide`, which is slow to check on lists of strings
  simp [earlyErrors, validateErrors, locateErrors]

theorem scanArgs_cases (tt : TypeTable) (outputs : List Loc) (cols : List Bytes) (dests : List Dest) :
    (∃ e ∈ earlyErrors, scanArgs tt outputs cols dests = .error e) ∨
    ∃ m, EarlierChecksPass tt outputs cols dests m ∧
      ((scanArgs tt outputs cols dests = .error "column-missing" ∧
          ∃ k, k < outputs.length ∧ ∀ c ∈ cols, markerIndex c ≠ some k) ∨
       (∀ k, k < outputs.length → ∃ c ∈ cols, markerIndex c = some k) ∧
        ((scanArgs tt outputs cols dests = .error "destination-not-used" ∧
            ∃ d ∈ dests, ∀ c ∈ cols, ∀ k l, markerIndex c = some k → outputs[k]? = some l → l.tid ≠ d.tid) ∨
         (scanArgs tt outputs cols dests = .ok (cols.map (colTargetD tt outputs dests m)) ∧
            ∀ d ∈ dests, ∃ c ∈ cols, ∃ k l, markerIndex c = some k ∧ outputs[k]? = some l ∧ l.tid = d.tid))) := by
  cases hv : validateOutputs dests [] 0 with
  | error e => exact .inl ⟨e, List.mem_append_left _ (validateOutputs_error_mem hv), by rw [scanArgs, hv]⟩
  | ok m =>
    by_cases hlen : cols.length < outputs.length
    · exact .inl ⟨_, List.mem_append_right _ (.head _), by rw [scanArgs, hv]; exact if_pos hlen⟩
    · cases hst : scanTargets tt outputs dests m cols [] [] [] with
      | error e =>
        exact .inl ⟨e, List.mem_append_right _ (.tail _ (scanTargets_error_mem hst)),
          by rw [scanArgs, hv]; dsimp only; rw [if_neg hlen, hst]⟩
      | ok r =>
        have hall := ((scanTargets_ok_iff tt outputs dests m cols [] [] [] r).mp hst).1
        have hearlier : EarlierChecksPass tt outputs cols dests m :=
          ⟨hv, Nat.le_of_not_lt hlen, fun c hc => colTarget_ok_iff.mp (hall c hc)⟩
        refine .inr ⟨m, hearlier, ?_⟩
        rw [scanArgs_of_targets hearlier]
        by_cases hcov : ∀ k, k < outputs.length → ∃ c ∈ cols, markerIndex c = some k
        · refine .inr ⟨hcov, ?_⟩
          rw [if_neg (not_not_intro hcov)]
          by_cases hused : ∀ d ∈ dests, ∃ c ∈ cols, ∃ k l, markerIndex c = some k ∧ outputs[k]? = some l ∧ l.tid = d.tid
          · exact .inr ⟨if_neg (not_not_intro hused), hused⟩
          · exact .inl ⟨if_pos hused, by
              simpa only [Classical.not_forall, not_exists, not_and, Classical.not_imp, exists_prop, ne_eq] using hused⟩
        · exact .inl ⟨if_pos hcov, by
            simpa only [Classical.not_forall, not_exists, not_and, Classical.not_imp, exists_prop, ne_eq] using hcov⟩

structure ScanChecks (tt : TypeTable) (outputs : List Loc) (cols : List Bytes) (dests : List Dest)
    (m : List (Nat × Nat)) : Prop where
  earlier : EarlierChecksPass tt outputs cols dests m
  covered : ∀ k, k < outputs.length → ∃ c ∈ cols, markerIndex c = some k
  used : ∀ d ∈ dests, ∃ c ∈ cols, ∃ k l, markerIndex c = some k ∧ outputs[k]? = some l ∧ l.tid = d.tid

theorem scanArgs_ok_iff (tt : TypeTable) (outputs : List Loc) (cols : List Bytes) (dests : List Dest)
    (ts : List Target) :
    scanArgs tt outputs cols dests = .ok ts ↔
      ∃ m, ScanChecks tt outputs cols dests m ∧ ts = cols.map (colTargetD tt outputs dests m) := by
  constructor
  · intro h
    rcases scanArgs_cases tt outputs cols dests with
      ⟨e, _, he⟩ | ⟨m, hearlier, ⟨he, _⟩ | ⟨hcov, ⟨he, _⟩ | ⟨he, hused⟩⟩⟩ <;> rw [he] at h <;> cases h
    exact ⟨m, ⟨hearlier, hcov, hused⟩, rfl⟩
  · rintro ⟨m, hck, rfl⟩
    rw [scanArgs_of_targets hck.earlier, if_neg (not_not_intro hck.covered), if_neg (not_not_intro hck.used)]

end Sqlair
