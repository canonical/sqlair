/-
  The final store of a scan does not depend on the order of the columns (`scan_perm_core`): the permuted scan succeeds
  (`scanGet_perm_ok`); both scans are described member by member by `scanGet_member`, and when no alias occurs twice a
  member is designated by the same (column, value) pair in both, so both leave the same value in it; a store is
  determined, up to the order of its map keys, by its frame and its member values (`StoreEquiv.of_valAt`).
-/
import SqlairProofs.Scan.Main

namespace Sqlair

variable {E : ScanEnv} {tt : TypeTable} {outputs : List Loc} {dests : List Dest}

/-- A Go map is unordered, the list `keys` that models it is not: destinations are compared up to the order of
    their keys.  The predicate of the harness compares more loosely (`destEq`, SqlairModel/Spec/L3.lean: a Boolean,
    fields and keys as sets, `unspecified` matching anything); no lemma relates the two. -/
def DestEquiv (d e : Dest) : Prop :=
  d.form = e.form ∧ d.tid = e.tid ∧ d.fields = e.fields ∧ d.keys.Perm e.keys

def StoreEquiv (ds es : List Dest) : Prop :=
  ds.length = es.length ∧ ∀ (i : Nat) (d e : Dest), ds[i]? = some d → es[i]? = some e → DestEquiv d e

theorem StoreEquiv.of_valAt {ds es : List Dest} (hlen : ds.length = es.length)
    (hframe : ∀ (i : Nat) (d e : Dest), ds[i]? = some d → es[i]? = some e →
      d.form = e.form ∧ d.tid = e.tid ∧ d.fields.map (·.1) = e.fields.map (·.1))
    (hds : DestsDistinct ds) (hes : ∀ e ∈ es, (e.keys.map (·.1)).Nodup)
    (hval : ∀ loc, valAt ds loc = valAt es loc) : StoreEquiv ds es := by
  refine ⟨hlen, fun i d e hd he => ?_⟩
  obtain ⟨h1, h2, h3⟩ := hframe i d e hd he
  obtain ⟨n1, n2⟩ := hds d (List.mem_of_getElem? hd)
  have n3 := hes e (List.mem_of_getElem? he)
  have hf : ∀ idx, d.fieldVal idx = e.fieldVal idx := fun idx => by
    have := hval (i, .field idx); rwa [valAt_of_getElem? hd, valAt_of_getElem? he] at this
  have hk : ∀ k, d.keyVal k = e.keyVal k := fun k => by
    have := hval (i, .key k); rw [valAt_of_getElem? hd, valAt_of_getElem? he] at this
    exact d.keyVal_of_slotVal this
  have hne : ∀ {l : List (Bytes × String)}, (l.map (·.1)).Nodup → l.Nodup := fun {l} h =>
    List.Pairwise.of_map (R := (· ≠ ·)) (S := (· ≠ ·)) (fun p : Bytes × String => p.1)
      (fun a b h e => h (congrArg _ e)) h
  exact ⟨h1, h2, assoc_eq_of_mem h3 n1 fun p => assoc_mem_of_lookup n1 hf,
    (List.perm_ext_iff_of_nodup (hne n2) (hne n3)).mpr fun p =>
      ⟨assoc_mem_of_lookup n2 hk, assoc_mem_of_lookup n3 fun k => (hk k).symm⟩⟩

theorem scanGet_distinct {cols : List Bytes} {row : List DV} {dests' : List Dest}
    (hget : scanGet E tt outputs cols row dests = (dests', none))
    (hd : DestsDistinct dests) : DestsDistinct dests' := by
  intro d' hd'
  obtain ⟨hl, hf⟩ := scanGet_frame hget
  obtain ⟨m, _, _, _, hfin⟩ := (scanGet_ok_iff ..).mp hget
  refine ⟨?_, applyWrites_keys_nodup _ dests (fun d h => (hd d h).2) d' (hfin ▸ hd')⟩
  obtain ⟨i, hi⟩ := List.mem_iff_getElem?.mp hd'
  have hlt : i < dests.length := hl ▸ (List.getElem?_eq_some_iff.mp hi).1
  obtain ⟨e, he, _, _, h3⟩ := hf i dests[i] (List.getElem?_eq_getElem hlt)
  cases hi.symm.trans he
  rw [h3]; exact (hd _ (List.getElem_mem hlt)).1

theorem scanGet_perm_ok {cols cols' : List Bytes} {row row' : List DV} {dests' : List Dest}
    (hget : scanGet E tt outputs cols row dests = (dests', none))
    (hperm : (cols.zip row).Perm (cols'.zip row')) (hlen' : cols'.length ≤ row'.length) :
    cols.Perm cols' ∧ ∃ dests'', scanGet E tt outputs cols' row' dests = (dests'', none) := by
  obtain ⟨m, ⟨⟨hv, hlen, hcols⟩, hall, hused⟩, hrow, htx, _⟩ := (scanGet_ok_iff ..).mp hget
  have hpc : cols.Perm cols' := by
    rw [← List.map_fst_zip hrow, ← List.map_fst_zip hlen']; exact hperm.map _
  have hpt : (targetVals tt outputs dests m (cols.zip row)).Perm (targetVals tt outputs dests m (cols'.zip row')) :=
    hperm.map _
  -- every check of `ScanArgs` speaks of the columns as a set, apart from their number
  refine ⟨hpc, _, (scanGet_ok_iff ..).mpr
    ⟨m, ⟨⟨hv, by rw [← hpc.length_eq]; exact hlen, fun c hc => hcols c (hpc.mem_iff.mpr hc)⟩, ?_, ?_⟩, hlen', ?_, rfl⟩⟩
  · intro k hk
    obtain ⟨c, hc, hmi⟩ := hall k hk
    exact ⟨c, hpc.mem_iff.mp hc, hmi⟩
  · intro d hd
    obtain ⟨c, hc, hl⟩ := hused d hd
    exact ⟨c, hpc.mem_iff.mp hc, hl⟩
  · intro tv htv; exact htx tv (hpt.mem_iff.mpr htv)

theorem scan_perm_core {cols cols' : List Bytes} {row row' : List DV} {dests' : List Dest}
    (hget : scanGet E tt outputs cols row dests = (dests', none))
    (hwf : WFOut outputs dests)
    (hnodup : (cols.filterMap markerIndex).Nodup)
    (hperm : (cols.zip row).Perm (cols'.zip row'))
    (hlen' : cols'.length ≤ row'.length) :
    ∃ dests'', scanGet E tt outputs cols' row' dests = (dests'', none) ∧ StoreEquiv dests' dests'' ∧
      ∀ loc, valAt dests' loc = valAt dests'' loc := by
  obtain ⟨hpc, dests'', hget'⟩ := scanGet_perm_ok hget hperm hlen'
  refine ⟨dests'', hget', ?_⟩
  obtain ⟨l1, f1⟩ := scanGet_frame hget
  obtain ⟨l2, f2⟩ := scanGet_frame hget'
  -- two (column, value) pairs carrying the same alias are the same pair
  have huniq : ∀ x ∈ cols.zip row, ∀ y ∈ cols.zip row,
      x = y ∨ ∀ k, markerIndex x.1 = some k → markerIndex y.1 ≠ some k := by
    rw [← List.map_fst_zip (scanGet_row_length hget)] at hnodup
    unfold List.Nodup at hnodup
    rw [List.pairwise_filterMap, List.pairwise_map] at hnodup
    exact fun x hx y hy => List.Pairwise.forall_of_forall_of_flip
      (R := fun x y : Bytes × DV => x = y ∨ ∀ k, markerIndex x.1 = some k → markerIndex y.1 ≠ some k)
      (fun x _ => Or.inl rfl) (hnodup.imp fun h => Or.inr fun k a b => h k a k b rfl)
      (hnodup.imp fun h => Or.inr fun k a b => h k b k a rfl) hx hy
  have hval : ∀ loc, valAt dests' loc = valAt dests'' loc := by
    intro loc
    rcases scanGet_member hget loc with ⟨h1, hn1⟩ | ⟨j, c, v, l, txt, hj, hvj, hdes, _, hex, hval⟩ <;>
      rcases scanGet_member hget' loc with ⟨h2, hn2⟩ | ⟨j', c', v', l', txt', hj', hvj', hdes', _, hex', hval'⟩
    · exact h1.trans h2.symm
    · exact absurd hdes' (hn1 c' (hpc.mem_iff.mpr (List.mem_of_getElem? hj')) l')
    · exact absurd hdes (hn2 c (hpc.mem_iff.mp (List.mem_of_getElem? hj)) l)
    · obtain ⟨rfl, hmi⟩ := hdes.same_output hwf.1 hdes'
      obtain ⟨k, _, hk, _⟩ := id hdes
      have hx : (c, v) ∈ cols.zip row := List.mem_of_getElem? (List.getElem?_zip_eq_some.mpr ⟨hj, hvj⟩)
      have hy : (c', v') ∈ cols.zip row :=
        hperm.mem_iff.mpr (List.mem_of_getElem? (List.getElem?_zip_eq_some.mpr ⟨hj', hvj'⟩))
      rcases huniq _ hx _ hy with e | hne
      · cases e
        rw [hval, hval', Option.some.inj (hex.symm.trans hex')]
      · exact absurd (hmi ▸ hk) (hne k hk)
  refine ⟨?_, hval⟩
  apply StoreEquiv.of_valAt (l1.trans l2.symm) ?_ (scanGet_distinct hget hwf.2)
    (fun e h => (scanGet_distinct hget' hwf.2 e h).2) hval
  · intro i d' d'' hd' hd''
    have hi : i < dests.length := l1 ▸ (List.getElem?_eq_some_iff.mp hd').1
    obtain ⟨e', he', a1, a2, a3⟩ := f1 i dests[i] (List.getElem?_eq_getElem hi)
    obtain ⟨e'', he'', b1, b2, b3⟩ := f2 i dests[i] (List.getElem?_eq_getElem hi)
    cases hd'.symm.trans he'; cases hd''.symm.trans he''
    exact ⟨a1.trans b1.symm, a2.trans b2.symm, a3.trans b3.symm⟩

end Sqlair
