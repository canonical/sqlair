/-
  Exact spans, item level (parentheses, literals in lists, identifiers, column and type accessors,
  lists), in the shape the header of `Exact/Defs.lean` gives.  Where a parser's "not this" answer
  depends on a bounded look-ahead only, that answer carries over as well.
-/
import SqlairProofs.Exact.Scan
import SqlairProofs.Exact.Single

namespace Sqlair

section
variable {E : Env} {a b : Nat} {s s' t : Sc} (C : ExaCtx E a b) (hs : ExaSync E a b s s')
include C hs

/-- The checkpoint `cp'` of the extracted run is arbitrary: a checkpoint shows only in error and
    not-this answers, and the lemma speaks of a success. -/
theorem exa_parenLoop {f f' count : Nat} {cp : Sc} (cp' : Sc) (gcp : Good E cp)
    (hcp : cp.pos ≤ s.pos) (hF : ExaFuel E a b s s' f f')
    (he : parenLoop E cp f count s = (t, .ok ())) (hb : t.pos ≤ b) :
    ∃ t', parenLoop (exaEnv E a b) cp' f' count s' = (t', .ok ()) ∧ ExaSync E a b t t' := by
  induction f generalizing s s' f' count with
  | zero => exact absurd hF.left (Nat.not_lt_zero _)
  | succ f ih =>
    obtain ⟨f', rfl⟩ := hF.succ
    have later : ∀ {s1 : Sc} (count' : Nat), Good E s1 → s.pos < s1.pos →
        parenLoop E cp f count' s1 = (t, .ok ()) → s1.pos ≤ b := by
      intro s1 count' g1 hlt1 he1
      have hl := parenLoop_lok C.dok gcp f count' g1 (Nat.le_trans hcp (Nat.le_of_lt hlt1))
        (Parser.fuel_step_good hF.left hlt1 g1)
      rw [he1] at hl
      exact Nat.le_trans (hl.okmono () rfl) hb
    have step : ∀ {s1 s1' : Sc} (count' : Nat), ExaSync E a b s1 s1' → s.pos < s1.pos →
        parenLoop E cp f count' s1 = (t, .ok ()) →
        ∃ t', parenLoop (exaEnv E a b) cp' f' count' s1' = (t', .ok ()) ∧ ExaSync E a b t t' :=
      fun _ hs1 hlt1 he1 => ih hs1 (Nat.le_trans hcp (Nat.le_of_lt hlt1)) (hF.step hs hs1 hlt1) he1
    have he0 := he
    unfold parenLoop at he ⊢
    obtain ⟨hc, he⟩ | ⟨hc, he⟩ := of_ite_eq he
    · have hlen : s.pos < E.len := Nat.lt_of_le_of_ne hs.good.pos_le hc.2
      have hcm := skipComment_bok C.dok hs.good
      have h40 := skipChar_bok C.dok 40 hs.good
      have h41 := skipChar_bok C.dok 41 hs.good
      have hadv := advanceChar_lt C.dok hs.good hlen
      rcases hsl : skipStringLiteral E s with ⟨t1, res1⟩
      rw [hsl] at he
      -- the run on `E` enters the loop body, so it ends strictly later: `s` is inside the range
      have hlt : s.pos < b :=
        Nat.lt_of_lt_of_le (parenLoop_ok_lt C.dok gcp hs.good hcp hF.left hc he0) hb
      rw [if_pos ⟨hc.1, Nat.ne_of_lt (hs.lt C hlt).2.1⟩]
      cases res1 with
      | err e => cases he
      | ok u =>
        simp only [] at he
        obtain ⟨g1, hlt1⟩ := (skipStringLiteral_xok C.dok hs.good).elim_ok hsl
        obtain ⟨t1', hsl', hs1⟩ := exa_skipStringLiteral C hs hsl Res.ok_ne_err
          (later count g1 hlt1 he)
        rw [hsl']
        exact step count hs1 hlt1 he
      | no =>
        simp only [] at he
        rw [(skipStringLiteral_xok C.dok hs.good).elim_no hsl] at hsl
        obtain ⟨t1', hsl', _⟩ := exa_skipStringLiteral C hs hsl Res.no_ne_err hs.le
        rw [hsl']
        simp only []
        obtain ⟨h1, he⟩ | ⟨h1, he⟩ := of_ite_eq he
        · have hB := exa_skipComment C hs (later count hcm.good (hcm.prog h1) he)
          rw [if_pos (hB.1.trans h1)]
          exact step count hB.2 (hcm.prog h1) he
        rw [exa_skipComment_false C hs h1]
        simp only [Bool.false_eq_true, if_false]
        obtain ⟨h2, he⟩ | ⟨h2, he⟩ := of_ite_eq he
        · obtain ⟨h2', hs2⟩ := exa_skipChar_true C hs 40 h2 (later _ h40.good (h40.prog h2) he)
          rw [if_pos h2']
          exact step _ hs2 (h40.prog h2) he
        rw [exa_skipChar_false C hs 40 h2]
        simp only [Bool.false_eq_true, if_false]
        obtain ⟨h3, he⟩ | ⟨h3, he⟩ := of_ite_eq he
        · obtain ⟨h3', hs3⟩ := exa_skipChar_true C hs 41 h3 (later _ h41.good (h41.prog h3) he)
          rw [if_pos h3']
          exact step _ hs3 (h41.prog h3) he
        rw [exa_skipChar_false C hs 41 h3]
        simp only [Bool.false_eq_true, if_false]
        exact step _ (exa_advanceChar C hs hlt) hadv he
    · obtain ⟨hc0, he⟩ | ⟨hc0, he⟩ := of_ite_eq he
      · cases he
      · cases he
        rw [if_neg (fun hx => hc0 hx.1), if_neg hc0]
        exact ⟨_, rfl, hs⟩

theorem exa_skipEnclosedParentheses
    {res : Res Unit} (he : skipEnclosedParentheses E s = (t, res)) (hne : ∀ e, res ≠ .err e)
    (hb : t.pos ≤ b) :
    ∃ t', skipEnclosedParentheses (exaEnv E a b) s' = (t', res) ∧ ExaSync E a b t t' := by
  unfold skipEnclosedParentheses at he ⊢
  simp only [] at he ⊢
  have h40 := skipChar_bok C.dok 40 hs.good
  obtain ⟨h1, he⟩ | ⟨h1, he⟩ := of_ite_eq he
  · have hl := parenLoop_lok C.dok hs.good (E.len + 1) 1 h40.good h40.mono (Parser.fuel_init _ _)
    rw [he] at hl
    cases res with
    | err e => exact (hne e rfl).elim
    | no => exact (hl.ne_no rfl).elim
    | ok u =>
      obtain ⟨h1', hs1⟩ := exa_skipChar_true C hs 40 h1 (Nat.le_trans (hl.okmono u rfl) hb)
      rw [if_pos h1']
      exact exa_parenLoop C hs1 s' hs.good h40.mono ExaFuel.init he hb
  · cases he
    rw [exa_skipChar_false C hs 40 h1]
    exact ⟨s', rfl, hs⟩

/-- a literal in a list ends *at* its delimiter, which therefore has to be inside the range -/
theorem exa_litLoop {f f' : Nat} (hF : ExaFuel E a b s s' f f') (he : litLoop E f s = (t, .ok ()))
    (hb : t.pos < b) : ∃ t', litLoop (exaEnv E a b) f' s' = (t', .ok ()) ∧ ExaSync E a b t t' := by
  induction f generalizing s s' f' with
  | zero => exact absurd hF.left (Nat.not_lt_zero _)
  | succ f ih =>
    obtain ⟨f', rfl⟩ := hF.succ
    have hlt : s.pos < b := by
      have hr := litLoop_rok C.dok (f + 1) hs.good hF.left
      rw [he] at hr; exact Nat.lt_of_le_of_lt hr.mono hb
    obtain ⟨hlen, hlen', hch, _⟩ := hs.lt C hlt
    have step : ∀ {s1 s1' : Sc}, ExaSync E a b s1 s1' → s.pos < s1.pos →
        litLoop E f s1 = (t, .ok ()) →
        ∃ t', litLoop (exaEnv E a b) f' s1' = (t', .ok ()) ∧ ExaSync E a b t t' :=
      fun hs1 hlt1 he1 => ih hs1 (hF.step hs hs1 hlt1) he1
    have later : ∀ {s1 : Sc}, Good E s1 → s.pos < s1.pos →
        litLoop E f s1 = (t, .ok ()) → s1.pos ≤ b := by
      intro s1 g1 hlt1 he1
      have hr := litLoop_rok C.dok f g1 (Parser.fuel_step_good hF.left hlt1 g1)
      rw [he1] at hr; exact Nat.le_trans hr.mono (Nat.le_of_lt hb)
    unfold litLoop at he ⊢
    rw [if_pos hlen] at he
    rw [if_pos hlen']
    rcases hsl : skipStringLiteral E s with ⟨t1, res1⟩
    rw [hsl] at he
    cases res1 with
    | err e => cases he
    | ok u =>
      simp only [] at he
      obtain ⟨g1, hlt1⟩ := (skipStringLiteral_xok C.dok hs.good).elim_ok hsl
      obtain ⟨t1', hsl', hs1⟩ := exa_skipStringLiteral C hs hsl Res.ok_ne_err
        (later g1 hlt1 he)
      rw [hsl']
      exact step hs1 hlt1 he
    | no =>
      simp only [] at he
      rw [(skipStringLiteral_xok C.dok hs.good).elim_no hsl] at hsl
      obtain ⟨_, hsl', _⟩ := exa_skipStringLiteral C hs hsl Res.no_ne_err hs.le
      rw [hsl']
      simp only []
      rcases hpar : skipEnclosedParentheses E s with ⟨t2, res2⟩
      rw [hpar] at he
      cases res2 with
      | err e => cases he
      | ok u =>
        simp only [] at he
        obtain ⟨g2, hlt2⟩ := (skipEnclosedParentheses_xok C.dok hs.good).elim_ok hpar
        obtain ⟨t2', hpar', hs2⟩ := exa_skipEnclosedParentheses C hs hpar Res.ok_ne_err
          (later g2 hlt2 he)
        rw [hpar']
        exact step hs2 hlt2 he
      | no =>
        simp only [] at he
        rw [(skipEnclosedParentheses_xok C.dok hs.good).elim_no hpar] at hpar
        obtain ⟨_, hpar', _⟩ := exa_skipEnclosedParentheses C hs hpar Res.no_ne_err hs.le
        rw [hpar']
        simp only []
        have hcm := skipComment_bok C.dok hs.good
        obtain ⟨h1, he⟩ | ⟨h1, he⟩ := of_ite_eq he
        · have hB := exa_skipComment C hs (later hcm.good (hcm.prog h1) he)
          rw [if_pos (hB.1.trans h1)]
          exact step hB.2 (hcm.prog h1) he
        rw [exa_skipComment_false C hs h1]
        simp only [Bool.false_eq_true, if_false]
        rw [hch]
        obtain ⟨h2, he⟩ | ⟨h2, he⟩ := of_ite_eq he
        · cases he
          rw [if_pos h2]
          exact ⟨_, rfl, hs⟩
        · rw [if_neg h2]
          exact step (exa_advanceChar C hs hlt) (advanceChar_lt C.dok hs.good hlen) he

theorem exa_skipLiteralInList
    (he : skipLiteralInList E s = (t, .ok ())) (hb : t.pos < b) :
    ∃ t', skipLiteralInList (exaEnv E a b) s' = (t', .ok ()) ∧ ExaSync E a b t t' :=
  exa_litLoop C hs ExaFuel.init he hb

theorem exa_parseIdentifier {res : Res Bytes}
    (he : parseIdentifier E s = (t, res)) (hne : ∀ e, res ≠ .err e) (hb : t.pos ≤ b) :
    ∃ t', parseIdentifier (exaEnv E a b) s' = (t', res) ∧ ExaSync E a b t t' := by
  unfold parseIdentifier at he ⊢
  rcases hsl : skipStringLiteral E s with ⟨t1, res1⟩
  rw [hsl] at he
  cases res1 with
  | err e => cases he; exact (hne e rfl).elim
  | ok u =>
    cases he
    obtain ⟨t1', hsl', hs1⟩ := exa_skipStringLiteral C hs hsl Res.ok_ne_err hb
    rw [hsl']
    simp only []
    rw [hs.extract hs1]
    exact ⟨_, rfl, hs1⟩
  | no =>
    simp only [] at he
    have ht1 : t1 = s := (skipStringLiteral_xok C.dok hs.good).elim_no hsl
    rw [ht1] at hsl
    obtain ⟨_, hsl', _⟩ := exa_skipStringLiteral C hs hsl Res.no_ne_err hs.le
    rw [hsl']
    simp only []
    obtain ⟨u, hu, _⟩ := nameLoop_spec C.dok (E.len + 1) hs.good (Parser.fuel_init _ _)
    obtain ⟨u', hu', h1, _⟩ := exa_nameLoop C hs ExaFuel.init hu
    rw [hu] at he
    rw [hu']
    simp only [Option.getD_some] at he ⊢
    obtain ⟨hgt, he⟩ | ⟨hgt, he⟩ := of_ite_eq he
    · cases he
      have hsu := h1 hb
      rw [if_pos (hs.lt_of_lt hsu hgt), hs.extract hsu]
      exact ⟨_, rfl, hsu⟩
    · cases he
      have hsu := h1 hb
      rw [if_neg (Nat.not_lt.mpr (hsu.le_of_le hs (Nat.le_of_not_lt hgt)))]
      exact ⟨_, rfl, hsu⟩

theorem exa_parseIdentifierAsterisk
    {res : Res Bytes} (he : parseIdentifierAsterisk E s = (t, res)) (hne : ∀ e, res ≠ .err e)
    (hb : t.pos ≤ b) :
    ∃ t', parseIdentifierAsterisk (exaEnv E a b) s' = (t', res) ∧ ExaSync E a b t t' := by
  unfold parseIdentifierAsterisk at he ⊢
  simp only [] at he ⊢
  obtain ⟨h1, he⟩ | ⟨h1, he⟩ := of_ite_eq he
  · cases he
    obtain ⟨h1', hs1⟩ := exa_skipChar_true C hs 42 h1 hb
    rw [if_pos h1']
    exact ⟨_, rfl, hs1⟩
  · rw [exa_skipChar_false C hs 42 h1]
    simp only [Bool.false_eq_true, if_false]
    exact exa_parseIdentifier C hs he hne hb

theorem exa_parseColumnAccessor {col : Col}
    (he : parseColumnAccessor E s = (t, .ok col)) (hb : t.pos ≤ b) :
    ∃ t', parseColumnAccessor (exaEnv E a b) s' = (t', .ok col) ∧ ExaSync E a b t t' := by
  unfold parseColumnAccessor at he ⊢
  simp only [] at he ⊢
  obtain ⟨h1, he⟩ | ⟨h1, he⟩ := of_ite_eq he
  · cases he
    obtain ⟨h1', hs1⟩ := exa_skipChar_true C hs 42 h1 hb
    rw [if_pos h1']
    exact ⟨_, rfl, hs1⟩
  rw [exa_skipChar_false C hs 42 h1]
  simp only [Bool.false_eq_true, if_false]
  rcases hid : parseIdentifier E s with ⟨s1, res1⟩
  rw [hid] at he
  cases res1 with
  | err e => cases he
  | no => cases he
  | ok id =>
    simp only [] at he
    obtain ⟨g1, hle1, _⟩ := (parseIdentifier_rok C.dok hs.good).elim hid
    have h46 := skipChar_bok C.dok 46 g1
    have ident : s1.pos ≤ b → ∃ s1', parseIdentifier (exaEnv E a b) s' = (s1', .ok id) ∧
        ExaSync E a b s1 s1' := exa_parseIdentifier C hs hid Res.ok_ne_err
    obtain ⟨h2, he⟩ | ⟨h2, he⟩ := of_ite_eq he
    · rcases hia : parseIdentifierAsterisk E (skipChar E 46 s1).1 with ⟨s2, res2⟩
      rw [hia] at he
      cases res2 with
      | err e => cases he
      | no => cases he
      | ok idCol =>
        cases he
        have hle2 := Nat.le_trans ((parseIdentifierAsterisk_rok C.dok h46.good).elim hia).2.1 hb
        obtain ⟨s1', hid', hs1⟩ := ident (Nat.le_trans h46.mono hle2)
        obtain ⟨h2', hs2⟩ := exa_skipChar_true C hs1 46 h2 hle2
        obtain ⟨s2', hia', hs3⟩ := exa_parseIdentifierAsterisk C hs2 hia Res.ok_ne_err hb
        rw [hid']
        simp only []
        rw [if_pos h2', hia']
        exact ⟨_, rfl, hs3⟩
    · rcases hpar : skipEnclosedParentheses E s1 with ⟨s2, res2⟩
      rw [hpar] at he
      cases res2 with
      | err e => cases he
      | ok u =>
        cases he
        obtain ⟨s1', hid', hs1⟩ := ident
          (Nat.le_trans (Nat.le_of_lt ((skipEnclosedParentheses_xok C.dok g1).elim_ok hpar).2) hb)
        obtain ⟨s2', hpar', hs2⟩ := exa_skipEnclosedParentheses C hs1 hpar Res.ok_ne_err hb
        rw [hid']
        simp only []
        rw [exa_skipChar_false C hs1 46 h2]
        simp only [Bool.false_eq_true, if_false]
        rw [hpar']
        simp only []
        rw [hs.extract hs2]
        exact ⟨_, rfl, hs2⟩
      | no =>
        cases he
        rw [(skipEnclosedParentheses_xok C.dok g1).elim_no hpar] at hpar
        obtain ⟨s1', hid', hs1⟩ := ident hb
        obtain ⟨_, hpar', _⟩ := exa_skipEnclosedParentheses C hs1 hpar Res.no_ne_err hb
        rw [hid']
        simp only []
        rw [exa_skipChar_false C hs1 46 h2]
        simp only [Bool.false_eq_true, if_false]
        rw [hpar']
        exact ⟨_, rfl, hs1⟩

theorem exa_parseSliceAccessor {id : Bytes}
    (he : parseSliceAccessor E s = (t, .ok id)) (hb : t.pos ≤ b) :
    ∃ t', parseSliceAccessor (exaEnv E a b) s' = (t', .ok id) ∧ ExaSync E a b t t' := by
  unfold parseSliceAccessor at he ⊢
  obtain ⟨hp1, _, _⟩ := parseTypeName_post C.dok hs.good
  obtain ⟨hT1, _⟩ := exa_parseTypeName C hs
  rcases hptn : parseTypeName E s with ⟨s1, o⟩
  rw [hptn] at he hp1 hT1
  cases o with
  | none => cases he
  | some id0 =>
    simp only [] at he hp1 hT1
    have h91 := skipChar_bok C.dok 91 hp1.good
    have hb2 := skipBlanks_post C.dok h91.good
    have h58 := skipChar_bok C.dok 58 hb2.good
    have hb3 := skipBlanks_post C.dok h58.good
    obtain ⟨_, he⟩ | ⟨c1, he⟩ := of_ite_not he
    · cases he
    obtain ⟨_, he⟩ | ⟨c2, he⟩ := of_ite_not he
    · cases he
    obtain ⟨_, he⟩ | ⟨c3, he⟩ := of_ite_not he
    · cases he
    cases he
    have b3 := Nat.le_trans (skipChar_bok C.dok 93 hb3.good).mono hb
    have b2 := Nat.le_trans h58.mono (Nat.le_trans hb3.mono b3)
    obtain ⟨s1', hptn', hsy1⟩ := hT1 (Nat.le_trans h91.mono (Nat.le_trans hb2.mono b2))
    rw [hptn']
    simp only []
    obtain ⟨c1', y2⟩ := exa_skipChar_blanks C hsy1 91 c1 b2
    obtain ⟨c2', y4⟩ := exa_skipChar_blanks C y2 58 c2 b3
    obtain ⟨c3', y5⟩ := exa_skipChar_true C y4 93 c3 hb
    simp only [c1', c2', c3', Bool.not_true, Bool.false_eq_true, if_false]
    exact ⟨_, rfl, y5⟩

/-- No bound on `t` is needed: a name that ends inside the range is read alike by both runs; if
    it runs past `b`, the extracted text ends inside the name, and at the end of the input there
    is no `[` either. -/
theorem exa_parseSliceAccessor_no
    (he : parseSliceAccessor E s = (t, .no)) :
    ∃ t', parseSliceAccessor (exaEnv E a b) s' = (t', .no) ∧ ExaSync E a b t t' := by
  obtain ⟨hr, hno⟩ := parseSliceAccessor_rok C.dok hs.good
  obtain ⟨hr', hno'⟩ := parseSliceAccessor_rok C.dok' hs.good'
  have key : (parseSliceAccessor (exaEnv E a b) s').2 = .no := by
    unfold parseSliceAccessor at he ⊢
    obtain ⟨hp1, _, hnone⟩ := parseTypeName_post C.dok hs.good
    obtain ⟨hT1, hT2⟩ := exa_parseTypeName C hs
    rcases hptn : parseTypeName E s with ⟨s1, o⟩
    rw [hptn] at he hp1 hT1 hT2 hnone
    simp only [] at hT1 hT2 hnone hp1
    rcases hptn' : parseTypeName (exaEnv E a b) s' with ⟨s1', o'⟩
    rw [hptn'] at hT1 hT2
    simp only [] at hT1 hT2
    cases o' with
    | none => rfl
    | some id' =>
      simp only []
      cases o with
      | none =>
        -- no name on `E`: the name loop stayed at `s`, inside the range, so the runs agree
        obtain ⟨_, h, _⟩ := hT1 (by rw [hnone rfl]; exact hs.le)
        cases h
      | some id0 =>
        simp only [] at he
        -- with `[` behind the name the answer on `E` would be a slice or an error
        have c1 : ¬ (skipChar E 91 s1).2 = true := by
          intro c1
          simp only [c1, Bool.not_true, Bool.false_eq_true, if_false] at he
          split at he
          · cases he
          · split at he <;> cases he
        have c1' : (skipChar (exaEnv E a b) 91 s1').2 = false := by
          by_cases hle : s1.pos ≤ b
          · obtain ⟨_, h, y⟩ := hT1 hle
            cases h
            rw [exa_skipChar_false C y 91 c1]
          · -- the name runs past `b`: the extracted run is at the end of its input
            rw [skipChar_of_not fun hx => hT2 (Nat.lt_of_not_le hle) hx.1]
        simp only [c1', Bool.not_false, if_true]
  rw [he] at hr hno
  have hpos := hno rfl
  refine ⟨(parseSliceAccessor (exaEnv E a b) s').1, Prod.ext rfl key, ?_⟩
  exact hs.of_pos_eq hr.good hr'.good hpos (hno' key)

theorem exa_parseTypeAndMember {res : Res Acc}
    (he : parseTypeAndMember E s = (t, res)) (hne : ∀ e, res ≠ .err e) (hb : t.pos ≤ b) :
    ∃ t', parseTypeAndMember (exaEnv E a b) s' = (t', res) ∧ ExaSync E a b t t' := by
  unfold parseTypeAndMember at he ⊢
  simp only [] at he ⊢
  obtain ⟨hp1, _, hnone⟩ := parseTypeName_post C.dok hs.good
  obtain ⟨hT1, _⟩ := exa_parseTypeName C hs
  rcases hptn : parseTypeName E s with ⟨s1, o⟩
  rw [hptn] at he hp1 hT1 hnone
  simp only [] at hT1 hnone hp1
  cases o with
  | none =>
    cases he
    obtain ⟨_, hptn', _⟩ := hT1 (by rw [hnone rfl]; exact hs.le)
    rw [hptn']
    exact ⟨_, rfl, hs⟩
  | some id0 =>
    simp only [] at he
    have h46 := skipChar_bok C.dok 46 hp1.good
    obtain ⟨_, he⟩ | ⟨c1, he⟩ := of_ite_not he
    · cases he
      exact (hne _ rfl).elim
    rcases hia : parseIdentifierAsterisk E (skipChar E 46 s1).1 with ⟨s2, res2⟩
    rw [hia] at he
    cases res2 with
    | err e => cases he; exact (hne _ rfl).elim
    | no => cases he; exact (hne _ rfl).elim
    | ok idField =>
      cases he
      have b1 := Nat.le_trans ((parseIdentifierAsterisk_rok C.dok h46.good).elim hia).2.1 hb
      obtain ⟨s1', hptn', hsy1⟩ := hT1 (Nat.le_trans h46.mono b1)
      rw [hptn']
      simp only []
      obtain ⟨c1', y1⟩ := exa_skipChar_true C hsy1 46 c1 b1
      obtain ⟨s2', hia', y2⟩ := exa_parseIdentifierAsterisk C y1 hia Res.ok_ne_err hb
      simp only [c1', Bool.not_true, Bool.false_eq_true, if_false, hia']
      exact ⟨_, rfl, y2⟩

theorem exa_parseTargetType {res : Res Acc}
    (he : parseTargetType E s = (t, res)) (hne : ∀ e, res ≠ .err e) (hb : t.pos ≤ b) :
    ∃ t', parseTargetType (exaEnv E a b) s' = (t', res) ∧ ExaSync E a b t t' := by
  have hx := parseTargetType_xok C.dok hs.good
  rw [he] at hx
  unfold parseTargetType at he ⊢
  simp only [] at he ⊢
  have h38 := skipChar_bok C.dok 38 hs.good
  obtain ⟨c1, he⟩ | ⟨c1, he⟩ := of_ite_eq he
  · by_cases hlt : s.pos < b
    · obtain ⟨c1', y1⟩ := exa_skipChar_lt C hs 38 hlt
      rw [if_pos (c1'.trans c1)]
      rcases hsa : parseSliceAccessor E (skipChar E 38 s).1 with ⟨s1, res1⟩
      rw [hsa] at he
      cases res1 with
      | ok st => cases he; exact (hne _ rfl).elim
      | err e => cases he; exact (hne _ rfl).elim
      | no =>
        simp only [] at he
        obtain ⟨s1', hsa', y2⟩ := exa_parseSliceAccessor_no C y1 hsa
        rw [hsa']
        simp only []
        have hpos1 : s1.pos = (skipChar E 38 s).1.pos := by
          have := (parseSliceAccessor_rok C.dok h38.good).2
          rw [hsa] at this; exact this rfl
        rcases htm : parseTypeAndMember E s1 with ⟨s2, res2⟩
        rw [htm] at he
        cases res2 with
        | no =>
          cases he
          have hs2 : s2.pos ≤ b := by rw [parseTypeAndMember_no htm, hpos1]; exact y1.le
          obtain ⟨s2', htm', _⟩ := exa_parseTypeAndMember C y2 htm Res.no_ne_err hs2
          rw [htm']
          exact ⟨_, rfl, hs⟩
        | err e => cases he; exact (hne _ rfl).elim
        | ok acc =>
          cases he
          obtain ⟨s2', htm', y3⟩ := exa_parseTypeAndMember C y2 htm Res.ok_ne_err hb
          rw [htm']
          exact ⟨_, rfl, y3⟩
    · -- at the end of the range the answer on `E` can only be "not this"
      rw [exa_skipChar_eof C hs 38 hlt]
      simp only [Bool.false_eq_true, if_false]
      cases res with
      | err e => exact (hne e rfl).elim
      | ok acc => exact absurd (Nat.lt_of_lt_of_le (hx.prog acc rfl) hb) hlt
      | no => rw [show t = s from hx.no rfl]; exact ⟨_, rfl, hs⟩
  · cases he
    rw [exa_skipChar_false C hs 38 c1]
    exact ⟨_, rfl, hs⟩

theorem exa_parseInputMemberAccessor
    {res : Res Acc} (he : parseInputMemberAccessor E s = (t, res)) (hne : ∀ e, res ≠ .err e)
    (hb : t.pos ≤ b) :
    ∃ t', parseInputMemberAccessor (exaEnv E a b) s' = (t', res) ∧ ExaSync E a b t t' := by
  unfold parseInputMemberAccessor at he ⊢
  simp only [] at he ⊢
  have h36 := skipChar_bok C.dok 36 hs.good
  obtain ⟨c1, he⟩ | ⟨c1, he⟩ := of_ite_eq he
  · have h1b : (skipChar E 36 s).1.pos ≤ b :=
      Nat.le_trans ((parseTypeAndMember_rok C.dok h36.good
        (skipChar_sameLine (c := 36) (by decide) C.dok hs.good c1).2).elim he).2.1 hb
    obtain ⟨c1', y1⟩ := exa_skipChar_true C hs 36 c1 h1b
    rw [if_pos c1']
    exact exa_parseTypeAndMember C y1 he hne hb
  · cases he
    rw [exa_skipChar_false C hs 36 c1]
    exact ⟨_, rfl, hs⟩

theorem exa_listLoop {α : Type} {fn fn' : Sc → Sc × Res α}
    (hrok : ∀ s, Good E s → ROK E s (fn s))
    (hfn : ∀ {s s' t : Sc} {x : α}, ExaSync E a b s s' → fn s = (t, .ok x) → t.pos ≤ b →
      ∃ t', fn' s' = (t', .ok x) ∧ ExaSync E a b t t')
    {f f' : Nat} {cp : Sc} (cp' : Sc) {first : Bool} {acc xs : List α} (gcp : Good E cp)
    (hcp : cp.pos ≤ s.pos) (hF : ExaFuel E a b s s' f f')
    (he : listLoop E fn cp f first acc s = (t, .ok xs)) (hb : t.pos ≤ b) :
    ∃ t', listLoop (exaEnv E a b) fn' cp' f' first acc s' = (t', .ok xs) ∧ ExaSync E a b t t' := by
  induction f generalizing s s' f' first acc with
  | zero => exact absurd hF.left (Nat.not_lt_zero _)
  | succ f ih =>
    obtain ⟨f', rfl⟩ := hF.succ
    unfold listLoop at he ⊢
    simp only [] at he ⊢
    have hb1 := skipBlanks_post C.dok hs.good
    rcases hfx : fn (skipBlanks E s) with ⟨s2, res2⟩
    rw [hfx] at he
    obtain ⟨g2, m2, _⟩ := (hrok _ hb1.good).elim hfx
    cases res2 with
    | err e => cases he
    | no => simp only [] at he; split at he <;> cases he
    | ok x =>
      simp only [] at he
      have hb3 := skipBlanks_post C.dok g2
      have h41 := skipChar_bok C.dok 41 hb3.good
      have h44 := skipChar_bok C.dok 44 hb3.good
      have m13 : s.pos ≤ (skipBlanks E s2).pos := Nat.le_trans hb1.mono (Nat.le_trans m2 hb3.mono)
      have item : (skipBlanks E s2).pos ≤ b → ∃ s2', fn' (skipBlanks (exaEnv E a b) s') = (s2', .ok x) ∧
          ExaSync E a b (skipBlanks E s2) (skipBlanks (exaEnv E a b) s2') := fun hdel => by
        have y1 := exa_skipBlanks C hs (Nat.le_trans m2 (Nat.le_trans hb3.mono hdel))
        obtain ⟨s2', hfx', y2⟩ := hfn y1 hfx (Nat.le_trans hb3.mono hdel)
        exact ⟨s2', hfx', exa_skipBlanks C y2 hdel⟩
      obtain ⟨c1, he⟩ | ⟨c1, he⟩ := of_ite_eq he
      · cases he
        obtain ⟨s2', hfx', y3⟩ := item (Nat.le_trans h41.mono hb)
        obtain ⟨c1', y4⟩ := exa_skipChar_true C y3 41 c1 hb
        rw [hfx']
        simp only []
        rw [if_pos c1']
        exact ⟨_, rfl, y4⟩
      · obtain ⟨c2, he⟩ | ⟨c2, he⟩ := of_ite_eq he
        · have hlt : s.pos < (skipChar E 44 (skipBlanks E s2)).1.pos :=
            Nat.lt_of_le_of_lt m13 (h44.prog c2)
          have hl := listLoop_lok C.dok hrok gcp f false (acc ++ [x]) h44.good
            (Nat.le_trans hcp (Nat.le_of_lt hlt)) (Parser.fuel_step_good hF.left hlt h44.good)
          rw [he] at hl
          have b4 := Nat.le_trans (hl.okmono xs rfl) hb
          obtain ⟨s2', hfx', y3⟩ := item (Nat.le_trans h44.mono b4)
          obtain ⟨c2', y4⟩ := exa_skipChar_true C y3 44 c2 b4
          rw [hfx']
          simp only []
          rw [exa_skipChar_false C y3 41 c1]
          simp only [Bool.false_eq_true, if_false]
          rw [if_pos c2']
          exact ih y4 (Nat.le_trans hcp (Nat.le_of_lt hlt)) (hF.step hs y4 hlt) he
        · cases he

theorem exa_parseList {α : Type} {fn fn' : Sc → Sc × Res α}
    (hrok : ∀ s, Good E s → ROK E s (fn s))
    (hfn : ∀ {s s' t : Sc} {x : α}, ExaSync E a b s s' → fn s = (t, .ok x) → t.pos ≤ b →
      ∃ t', fn' s' = (t', .ok x) ∧ ExaSync E a b t t')
    {xs : List α} (he : parseList E fn s = (t, .ok xs)) (hb : t.pos ≤ b) :
    ∃ t', parseList (exaEnv E a b) fn' s' = (t', .ok xs) ∧ ExaSync E a b t t' := by
  obtain ⟨c1, he⟩ := parseList_ok he
  have h40 := skipChar_bok C.dok 40 hs.good
  have hl := listLoop_lok C.dok hrok hs.good (E.len + 1) true [] h40.good h40.mono (Parser.fuel_init _ _)
  rw [he] at hl
  obtain ⟨c1', y1⟩ := exa_skipChar_true C hs 40 c1 (Nat.le_trans (hl.okmono xs rfl) hb)
  rw [parseList_of_paren c1']
  exact exa_listLoop C y1 hrok hfn s' hs.good h40.mono ExaFuel.init he hb

theorem exa_parseColumns (hc : ExaClass E)
    {cols : List Col} {p : Bool} (he : parseColumns E s = (t, some (cols, p))) (hb : t.pos ≤ b) :
    ∃ t', parseColumns (exaEnv E a b) s' = (t', some (cols, p)) ∧ ExaSync E a b t t' := by
  cases p with
  | true =>
    obtain ⟨_, hpl⟩ := parseColumns_paren he
    obtain ⟨t', hpl', y⟩ := exa_parseList (fn' := parseColumnAccessor (exaEnv E a b)) C hs
      (fun s g => parseColumnAccessor_rok C.dok g)
      (fun hs he hb => exa_parseColumnAccessor C hs he hb) hpl hb
    refine ⟨t', ?_, y⟩
    -- the list on the extracted text starts with `(`, where no single column starts
    unfold parseColumns
    rw [parseColumnAccessor_at_lparen (hc.exaEnv a b) (parseList_ok_char hpl')]
    simp only []
    rw [hpl']
  | false =>
    unfold parseColumns at he ⊢
    rcases hca : parseColumnAccessor E s with ⟨s1, res1⟩
    rw [hca] at he
    cases res1 with
    | ok c =>
      cases he
      obtain ⟨t', hca', y⟩ := exa_parseColumnAccessor C hs hca hb
      rw [hca']
      exact ⟨_, rfl, y⟩
    | err e => simp only [] at he; split at he <;> cases he
    | no => simp only [] at he; split at he <;> cases he

theorem exa_parseTargetTypes
    {ts : List Acc} {p : Bool} (he : parseTargetTypes E s = (t, .ok (ts, p))) (hb : t.pos ≤ b) :
    ∃ t', parseTargetTypes (exaEnv E a b) s' = (t', .ok (ts, p)) ∧ ExaSync E a b t t' := by
  unfold parseTargetTypes at he ⊢
  have hx := parseTargetType_xok C.dok hs.good
  rcases htt : parseTargetType E s with ⟨s1, res1⟩
  rw [htt] at he hx
  cases res1 with
  | err e => cases he
  | ok ty =>
    cases he
    obtain ⟨t', htt', y⟩ := exa_parseTargetType C hs htt Res.ok_ne_err hb
    rw [htt']
    exact ⟨_, rfl, y⟩
  | no =>
    simp only [] at he
    have h1 : s1 = s := hx.no rfl
    rw [h1] at htt he
    obtain ⟨t1', htt', y1⟩ := exa_parseTargetType C hs htt Res.no_ne_err hs.le
    rw [htt']
    simp only []
    rcases hpl : parseList E (parseTargetType E) s with ⟨s2, res2⟩
    rw [hpl] at he
    cases res2 with
    | err e => cases he
    | no => cases he
    | ok ts2 =>
      cases he
      obtain ⟨t', hpl', y⟩ := exa_parseList (fn' := parseTargetType (exaEnv E a b)) C y1
        (fun s g => (parseTargetType_xok C.dok g).toROK)
        (fun hs he hb => exa_parseTargetType C hs he Res.ok_ne_err hb) hpl hb
      rw [hpl']
      exact ⟨_, rfl, y⟩

end
end Sqlair
