/-
  Exact spans, main theorem: every expression node of a successful parse, parsed on its own,
  yields that single node again.
-/
import SqlairProofs.Exact.Exprs

namespace Sqlair

section
variable {E : Env}

theorem exa_sync_init {sc1 : Sc} (g1 : Good E sc1) {B : Nat} (hB : sc1.pos ≤ B) :
    ExaSync E sc1.pos B sc1 (initSc (exaEnv E sc1.pos B)) := by
  obtain ⟨g0, hp0⟩ := initSc_good (E := exaEnv E sc1.pos B)
  exact ⟨g1, g0, by rw [hp0]; omega, hB, ExaReach.refl _⟩

theorem exa_node_exact (hd : DecOK E) (hl : ExaDecLocal E) (ha : AsciiDec E) (hsep : ClassSep E)
    (hc : ExaClass E) {x : Seg} (hn : ExprNode E x) :
    parse (exaEnv E x.a x.b) = .ok [x.exaMv x.a] ∧ x.a ≤ x.b := by
  obtain ⟨s0, sc1, t, hadv, g1, gt, hlt, hxa, hxb, hex⟩ := hn
  have run : ∀ {B : Nat} (C : ExaCtx E sc1.pos B)
      (hs : ExaSync E sc1.pos B sc1 (initSc (exaEnv E sc1.pos B))), t.pos ≤ B →
      ∃ t', ExprRun (exaEnv E sc1.pos B) (initSc (exaEnv E sc1.pos B)) t' (x.exaMv sc1.pos) ∧
        ExaSync E sc1.pos B t t' := by
    intro B C hs hB
    rcases hex with hout | ⟨_, hin⟩
    · obtain ⟨t', hout', y⟩ := exa_parseOutputExpr C hs hc hout hB
      exact ⟨t', .inl hout', y⟩
    · obtain ⟨t', hin', y⟩ := exa_parseInputExpr C hs hc hin hB
      exact ⟨t', .inr ⟨parseOutputExpr_no_of_input C.dok' (hc.exaEnv _ _) hs.good' hin', hin'⟩, y⟩
  -- first pass, with the whole rest of the input as range: the end of the node is a rune boundary,
  -- which the context of the second pass needs
  obtain ⟨_, _, y0⟩ := run (ExaCtx.mk' hd hl ha (Nat.le_refl _)
    (ExaReach.to_len hd _ g1.pos_le)) (exa_sync_init g1 g1.pos_le) gt.pos_le
  have C : ExaCtx E sc1.pos t.pos := ExaCtx.mk' hd hl ha gt.pos_le y0.reach
  have hs := exa_sync_init g1 (Nat.le_of_lt hlt)
  obtain ⟨t', hex', y⟩ := run C hs (Nat.le_refl _)
  obtain ⟨hlen1, hlen', hch, _⟩ := hs.lt C hlt
  obtain ⟨_, hp0⟩ := initSc_good (E := exaEnv E sc1.pos t.pos)
  have hadv' := advanceToNextExpression_at_zero (E := exaEnv E sc1.pos t.pos) hlen' hp0
    (by rw [hch, exaEnv_isNameChar]; exact advanceToNextExpression_stop hsep hadv hlen1)
  rw [hxa, hxb]
  exact ⟨parse_single (by omega) hadv' hex' (y.eof C rfl), Nat.le_of_lt hlt⟩

theorem parse_node_exact (hd : DecOK E) (hl : ExaDecLocal E) (ha : AsciiDec E) (hsep : ClassSep E)
    (hc : ExaClass E) {segs : List Seg} (hp : parse E = .ok segs) {x : Seg} (hx : x ∈ segs)
    (hk : x.kind ≠ .bypass) :
    parse (exaEnv E x.a x.b) = .ok [x.exaMv x.a] ∧ x.a ≤ x.b := by
  rcases parse_nodes hd hp x hx with ⟨_, _, rfl⟩ | hn
  · exact (hk rfl).elim
  · exact exa_node_exact hd hl ha hsep hc hn

end
end Sqlair
