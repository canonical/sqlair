/-
  Exact spans: the facts about one run of the parse functions that need `ExaClass`: an insert
  expression starts with `(`, and where an input expression parses the output parser says
  "not this".  Those that hold for every classifier are in `Parser/*`.
-/
import SqlairProofs.Exact.Defs

namespace Sqlair

section
variable {E : Env}

theorem parseColumnAccessor_at_lparen (hc : ExaClass E) {s : Sc} (h40 : s.char = 40) :
    parseColumnAccessor E s = (s, .no) :=
  parseColumnAccessor_nonname (by omega) (by omega) (by omega) (by rw [h40]; exact hc.lparen)

theorem parseOutputExpr_at_dollar (hc : ExaClass E) {s : Sc} (h36 : s.char = 36) :
    parseOutputExpr E s = (s, .no) := by
  have hpt : parseTargetType E s = (s, .no) := parseTargetType_of_ne (by omega)
  have hpl : parseList E (parseColumnAccessor E) s = (s, .no) :=
    parseList_of_not (by rw [skipChar_of_ne (by omega)]; exact Bool.false_ne_true)
  have hpc : parseColumns E s = (s, none) := by
    unfold parseColumns
    rw [parseColumnAccessor_nonname (by omega) (by omega) (by omega) (by rw [h36]; exact hc.dollar)]
    simp only []
    rw [hpl]
  unfold parseOutputExpr
  rw [hpt]
  simp only []
  rw [hpc]

theorem parseAsteriskInsertExpr_columns (hc : ExaClass E) {s t : Sc} {seg : Seg}
    (h : parseAsteriskInsertExpr E s = (t, .ok seg)) :
    ∃ s1 cols, parseColumns E s = (s1, some (cols, true)) ∧
      (skipString E kwVALUES (skipBlanks E s1)).2 = true := by
  unfold parseAsteriskInsertExpr at h
  extract_lets r1 r2 r3 r4 at h
  obtain ⟨_, h⟩ | ⟨hr1', h⟩ := of_ite_not h
  · cases h
  obtain ⟨_, h⟩ | ⟨hr2', h⟩ := of_ite_not h
  · cases h
  obtain ⟨_, h⟩ | ⟨hr3', h⟩ := of_ite_not h
  · cases h
  obtain ⟨_, h⟩ | ⟨hr4', h⟩ := of_ite_not h
  · cases h
  have hpl : parseList E (parseColumnAccessor E) s =
      (r3.1, .ok [{ table := #[], column := star, func := false }]) := by
    rw [parseList_of_paren hr1']
    exact listLoop_one (parseColumnAccessor_star hr2') hr3'
  refine ⟨r3.1, [{ table := #[], column := star, func := false }], ?_, hr4'⟩
  unfold parseColumns
  rw [parseColumnAccessor_at_lparen hc (skipChar_true hr1').2.1]
  simp only []
  rw [hpl]

theorem parseInsertExpr_columns (hd : DecOK E) (hc : ExaClass E) {s t : Sc} {seg : Seg} (g : Good E s)
    (h : parseInsertExpr E s = (t, .ok seg)) :
    ∃ s1 cols, parseColumns E s = (s1, some (cols, true)) ∧
      (skipString E kwVALUES (skipBlanks E s1)).2 = true := by
  rw [parseInsertExpr_eq] at h
  rcases hast : parseAsteriskInsertExpr E s with ⟨s0, res0⟩
  rw [hast] at h
  cases res0 with
  | err e => cases h
  | ok seg0 => cases h; exact parseAsteriskInsertExpr_columns hc hast
  | no =>
    simp only [] at h
    rw [(parseAsteriskInsertExpr_eok hd g).elim_no hast] at h
    rcases hcol : parseColumns E s with ⟨s1, o⟩
    rw [hcol] at h
    match o with
    | none => cases h
    | some (cols, false) => cases h
    | some (cols, true) =>
      simp only [] at h
      obtain ⟨_, h⟩ | ⟨c3, h⟩ := of_ite_not h
      · cases h
      exact ⟨s1, cols, rfl, c3⟩

theorem parseInsertExpr_ok_char (hd : DecOK E) (hc : ExaClass E) {s t : Sc} {seg : Seg} (g : Good E s)
    (h : parseInsertExpr E s = (t, .ok seg)) : s.char = 40 := by
  obtain ⟨s1, cols, hcol, _⟩ := parseInsertExpr_columns hd hc g h
  exact (parseColumns_paren hcol).1

/-- At `$` nothing of an output expression starts; behind the column list of an insert expression
    the output parser finds `VALUES` where it wants `AS`. -/
theorem parseOutputExpr_no_of_input (hd : DecOK E) (hc : ExaClass E) {s t : Sc} {x : Seg} (g : Good E s)
    (h : parseInputExpr E s = (t, .ok x)) : parseOutputExpr E s = (s, .no) := by
  rcases parseInputExpr_ok_cases hd g h with h1 | ⟨_, h2⟩ | ⟨_, _, hins⟩
  · exact parseOutputExpr_at_dollar hc (parseSliceInputExpr_ok_char h1)
  · exact parseOutputExpr_at_dollar hc (parseMemberInputExpr_ok_char h2)
  · obtain ⟨s1, cols, hcol, hval⟩ := parseInsertExpr_columns hd hc g hins
    have htt : parseTargetType E s = (s, .no) :=
      parseTargetType_of_ne (by rw [(parseColumns_paren hcol).1]; decide)
    unfold parseOutputExpr
    rw [htt]
    simp only []
    rw [hcol]
    simp only [skipString_AS_of_VALUES hval, Bool.not_false, if_true]

end
end Sqlair
