/-
  Exact spans (C01): definitions and primitive facts.  `exaEnv E a b` is `E` with the input cut
  down to the bytes `[a, b)`; a scanner state `s` of the run on `E` with `a ≤ s.pos ≤ b`
  corresponds to the state of the run on `exaEnv E a b` at offset `s.pos - a` (`ExaSync`).  The
  walk of `Exact/Scan.lean`, `Exact/Items.lean`, `Exact/Exprs.lean` shows: a parse function that
  succeeds on `E` from `s` and ends at an offset `≤ b` succeeds on `exaEnv E a b` from the
  corresponding state, ends at the corresponding state and has the same payload (nodes moved to
  offset 0, `Seg.exaMv`).  A prime on a name (`dok'`, `good'`, `len'`, `pos'`, `not_lt'`) means:
  of the run on the extracted text.

  This is a second walk over the parse functions beside `Sim/*`, and not an instance of `Sim`:
  `exaEnv E a b` ends at `b` where `E` goes on, so no primitive commutes unconditionally (every
  lemma carries a bound `t.pos ≤ b` on where the run on `E` ends, and at `b` itself the second
  run is at its end, `exa_skipChar_eof`); only successes and sometimes "not this" transfer, never
  errors; the states correspond in `pos` only (both are `Good`, which fixes the rest and needs
  the offset to be a rune boundary, `ExaReach`); and `exaEnv E a b` is a concrete environment
  with no interface to assume, so the two skippers that `Sim` takes as primitives are walked
  through here (`exa_commentLoop`, `exa_strLitLoop`).
-/
import SqlairProofs.Parser.Main
import SqlairProofs.Utf8

namespace Sqlair

def exaEnv (E : Env) (a b : Nat) : Env := { E with inp := E.inp.extract a b }

structure ExaDecLocal (E : Env) : Prop where
  sub_ok : ∀ a b, DecOK (exaEnv E a b)
  sub_dec : ∀ a b p, a ≤ p → p < b → b ≤ E.len → p + (E.dec E.inp p).2 ≤ b →
    E.dec (E.inp.extract a b) (p - a) = E.dec E.inp p

/-- `$` (36) and `(` (40), the two characters an input expression starts with, are not name
    characters. -/
structure ExaClass (E : Env) : Prop where
  dollar : isNameChar E 36 = false
  lparen : isNameChar E 40 = false

theorem ExaClass.of_ascii (E : Env) (hl : ∀ c, c < 128 → E.letter c = asciiLetter c)
    (hd : ∀ c, c < 128 → E.digit c = asciiDigit c) : ExaClass E :=
  ⟨not_nameChar_of_ascii hl hd 36 (by decide), not_nameChar_of_ascii hl hd 40 (by decide)⟩

section
variable (E : Env) (a b : Nat)

theorem exaEnv_inp : (exaEnv E a b).inp = E.inp.extract a b := rfl
theorem exaEnv_dec : (exaEnv E a b).dec = E.dec := rfl
@[simp] theorem exaEnv_letter : (exaEnv E a b).letter = E.letter := rfl
@[simp] theorem exaEnv_digit : (exaEnv E a b).digit = E.digit := rfl
theorem exaEnv_isNameChar (c : Nat) : isNameChar (exaEnv E a b) c = isNameChar E c := rfl
theorem exaEnv_isInitialNameChar (c : Nat) :
    isInitialNameChar (exaEnv E a b) c = isInitialNameChar E c := rfl

theorem exaEnv_len (hb : b ≤ E.len) : (exaEnv E a b).len = b - a := by
  show (E.inp.extract a b).size = b - a
  have hb' : b ≤ E.inp.size := hb
  rw [Array.size_extract, Nat.min_eq_left hb']

end

theorem ExaClass.exaEnv {E : Env} (hc : ExaClass E) (a b : Nat) : ExaClass (exaEnv E a b) :=
  ⟨hc.dollar, hc.lparen⟩

theorem exa_bAt (inp : Bytes) (a b i : Nat) (h : a + i < b) (hb : b ≤ inp.size) :
    bAt (inp.extract a b) i = bAt inp (a + i) := by
  unfold bAt
  rw [Array.getD_eq_getD_getElem?, Array.getD_eq_getD_getElem?, Array.getElem?_extract,
    if_pos (by rw [Nat.min_eq_left hb]; omega)]

theorem exa_decodeRune_extract (s : Bytes) (a b p : Nat) (hap : a ≤ p) (hpb : p < b)
    (hb : b ≤ s.size) (hfit : p + (decodeRune s p).2 ≤ b) :
    decodeRune (s.extract a b) (p - a) = decodeRune s p := by
  have hsz : (s.extract a b).size = b - a := by rw [Array.size_extract, Nat.min_eq_left hb]
  refine decodeRune_local s _ p _ (Nat.lt_of_lt_of_le hpb hb) (by omega) (by omega) (by omega)
    fun j hj _ => ?_
  rw [exa_bAt s a b _ (by omega) hb, ← Nat.add_assoc, Nat.add_sub_cancel' hap]

theorem decodeRune_ExaDecLocal (inp : Bytes) (letter digit : Nat → Bool) :
    ExaDecLocal { inp := inp, dec := decodeRune, letter := letter, digit := digit } where
  sub_ok := fun a b => decodeRune_DecOK (inp.extract a b) letter digit
  sub_dec := fun a b p hap hpb hb hfit => exa_decodeRune_extract inp a b p hap hpb hb hfit

theorem exa_foldEqAt (inp : Bytes) (a b : Nat) (hb : b ≤ inp.size) (kw : List Nat) (p : Nat)
    (h : a + p + kw.length ≤ b) :
    foldEqAt (inp.extract a b) p kw = foldEqAt inp (a + p) kw := by
  induction kw generalizing p with
  | nil => rfl
  | cons c cs ih =>
    simp only [List.length_cons] at h
    unfold foldEqAt
    rw [exa_bAt inp a b p (by omega) hb, ih (p + 1) (by omega), Nat.add_assoc]

theorem exa_extract (inp : Bytes) (a b p q : Nat) (hq : a + q ≤ b) :
    (inp.extract a b).extract p q = inp.extract (a + p) (a + q) := by
  rw [Array.extract_extract, Nat.min_eq_left hq]

/-- the decoder, stepping rune by rune from `p`, arrives at `q` -/
inductive ExaReach (E : Env) : Nat → Nat → Prop where
  | refl (p : Nat) : ExaReach E p p
  | step {p q : Nat} : p < E.len → ExaReach E (p + (E.dec E.inp p).2) q → ExaReach E p q

section
variable {E : Env}

theorem ExaReach.trans {p q r : Nat} (h1 : ExaReach E p q) (h2 : ExaReach E q r) : ExaReach E p r := by
  induction h1 with
  | refl p => exact h2
  | step hp _ ih => exact ExaReach.step hp (ih h2)

theorem ExaReach.snoc {p q : Nat} (h1 : ExaReach E p q) (hq : q < E.len) :
    ExaReach E p (q + (E.dec E.inp q).2) :=
  h1.trans (ExaReach.step hq (ExaReach.refl _))

theorem ExaReach.le {p q : Nat} (h1 : ExaReach E p q) : p ≤ q := by
  induction h1 with
  | refl p => exact Nat.le_refl _
  | step _ _ ih => omega

theorem ExaReach.between (h : DecOK E) {a p q : Nat} (h1 : ExaReach E a p) (h2 : ExaReach E a q)
    (hpq : p ≤ q) : ExaReach E p q := by
  induction h1 with
  | refl p => exact h2
  | step hp hr ih =>
    apply ih _ hpq
    cases h2 with
    | refl _ =>
      have := hr.le
      have := h.size_pos _ hp
      omega
    | step _ h2' => exact h2'

theorem ExaReach.next_le (h : DecOK E) {a p q : Nat} (h1 : ExaReach E a p) (h2 : ExaReach E a q)
    (hpq : p < q) : p + (E.dec E.inp p).2 ≤ q := by
  have hb := ExaReach.between h h1 h2 (Nat.le_of_lt hpq)
  cases hb with
  | refl _ => omega
  | step _ hr => exact hr.le

theorem ExaReach.to_len (h : DecOK E) (p : Nat) (hp : p ≤ E.len) : ExaReach E p E.len := by
  generalize hn : E.len - p = n
  induction n using Nat.strongRecOn generalizing p with
  | _ n ih =>
    by_cases hlt : p < E.len
    · have h1 := h.size_pos p hlt
      have h2 := h.size_le p hlt
      exact ExaReach.step hlt (ih (E.len - (p + (E.dec E.inp p).2)) (by omega) _ h2 rfl)
    · have : p = E.len := by omega
      subst this; exact ExaReach.refl _

theorem exa_reach_kw (ha : AsciiDec E) (kw : List Nat) (hkw : ∀ k, k ∈ kw → k < 128) (p : Nat)
    (hle : p + kw.length ≤ E.len) (hf : foldEqAt E.inp p kw = true) :
    ExaReach E p (p + kw.length) := by
  induction kw generalizing p with
  | nil => exact ExaReach.refl _
  | cons k ks ih =>
    rw [List.length_cons, Nat.add_comm ks.length, ← Nat.add_assoc] at hle ⊢
    rw [foldEqAt_cons_iff] at hf
    have hlt : p < E.len := Nat.lt_of_lt_of_le (Nat.lt_succ_self p) (Nat.le_trans (Nat.le_add_right _ _) hle)
    -- the byte matches an ASCII letter, so it is ASCII and a rune of its own
    have hb : bAt E.inp p < 128 := by
      have hk := hkw k List.mem_cons_self
      have h1 := hf.1
      unfold asciiLower at h1
      split at h1 <;> split at h1 <;> omega
    refine ExaReach.step hlt ?_
    rw [ha.ascii p hlt hb]
    exact ih (fun k hk => hkw k (List.mem_cons_of_mem _ hk)) (p + 1) hle hf.2

end

structure ExaCtx (E : Env) (a b : Nat) : Prop where
  dok : DecOK E
  dok' : DecOK (exaEnv E a b)
  asc : AsciiDec E
  blen : b ≤ E.len
  reach : ExaReach E a b
  dec : ∀ p, a ≤ p → p < b → p + (E.dec E.inp p).2 ≤ b →
    E.dec (E.inp.extract a b) (p - a) = E.dec E.inp p

theorem ExaCtx.mk' {E : Env} (h : DecOK E) (hl : ExaDecLocal E) (ha : AsciiDec E) {a b : Nat}
    (hb : b ≤ E.len) (hr : ExaReach E a b) : ExaCtx E a b :=
  ⟨h, hl.sub_ok a b, ha, hb, hr, fun p h1 h2 h3 => hl.sub_dec a b p h1 h2 hb h3⟩

structure ExaSync (E : Env) (a b : Nat) (s s' : Sc) : Prop where
  good : Good E s
  good' : Good (exaEnv E a b) s'
  pos : s.pos = s'.pos + a
  le : s.pos ≤ b
  reach : ExaReach E a s.pos

section
variable {E : Env} {a b : Nat} {s s' : Sc}

theorem ExaCtx.len' (C : ExaCtx E a b) : (exaEnv E a b).len = b - a := exaEnv_len E a b C.blen

theorem ExaSync.pos' (hs : ExaSync E a b s s') : s'.pos = s.pos - a := by
  rw [hs.pos, Nat.add_sub_cancel]

theorem ExaSync.ge (hs : ExaSync E a b s s') : a ≤ s.pos := by
  rw [hs.pos]; exact Nat.le_add_left _ _

theorem ExaSync.lt (C : ExaCtx E a b) (hs : ExaSync E a b s s') (hlt : s.pos < b) :
    s.pos < E.len ∧ s'.pos < (exaEnv E a b).len ∧ s'.char = s.char ∧ s.nextPos = s'.nextPos + a ∧
      s.nextPos ≤ b := by
  have hlen : s.pos < E.len := Nat.lt_of_lt_of_le hlt C.blen
  have hlen' : s'.pos < (exaEnv E a b).len := by
    rw [C.len', hs.pos']; exact Nat.sub_lt_sub_right hs.ge hlt
  obtain ⟨hn, hc⟩ := hs.good.next hlen
  obtain ⟨hn', hc'⟩ := hs.good'.next hlen'
  have hnl := ExaReach.next_le C.dok hs.reach C.reach hlt
  have hd' : (exaEnv E a b).dec (exaEnv E a b).inp s'.pos = E.dec E.inp s.pos := by
    rw [hs.pos', exaEnv_dec, exaEnv_inp]; exact C.dec s.pos hs.ge hlt hnl
  rw [hd'] at hn' hc'
  exact ⟨hlen, hlen', hc'.trans hc.symm, by rw [hn, hn', hs.pos, Nat.add_right_comm],
    by rw [hn]; exact hnl⟩

theorem ExaSync.eof (C : ExaCtx E a b) (hs : ExaSync E a b s s') (he : s.pos = b) :
    s'.pos = (exaEnv E a b).len := by
  rw [C.len', hs.pos', he]

theorem ExaSync.not_lt' (C : ExaCtx E a b) (hs : ExaSync E a b s s') (he : ¬ s.pos < b) :
    ¬ s'.pos < (exaEnv E a b).len := by
  rw [hs.eof C (Nat.le_antisymm hs.le (Nat.le_of_not_lt he))]
  exact Nat.lt_irrefl _

theorem ExaSync.of_pos_eq (hs : ExaSync E a b s s') {t t' : Sc} (g : Good E t)
    (g' : Good (exaEnv E a b) t') (h1 : t.pos = s.pos) (h2 : t'.pos = s'.pos) : ExaSync E a b t t' :=
  ⟨g, g', by rw [h1, h2]; exact hs.pos, by rw [h1]; exact hs.le, by rw [h1]; exact hs.reach⟩

theorem ExaSync.at_end (hs : ExaSync E a b s s') {t : Sc} (g : Good E t) (hst : s.pos ≤ t.pos)
    (htb : t.pos ≤ b) (he : ¬ s.pos < b) : ExaSync E a b t s' :=
  hs.of_pos_eq g hs.good' (Nat.le_antisymm (Nat.le_trans htb (Nat.le_of_not_lt he)) hst) rfl

theorem ExaSync.lt_of_lt {t t' : Sc} (hs : ExaSync E a b s s') (ht : ExaSync E a b t t')
    (h : s.pos < t.pos) : s'.pos < t'.pos := by
  have := hs.pos; have := ht.pos; omega

theorem ExaSync.le_of_le {t t' : Sc} (hs : ExaSync E a b s s') (ht : ExaSync E a b t t')
    (h : s.pos ≤ t.pos) : s'.pos ≤ t'.pos := by
  have := hs.pos; have := ht.pos; omega

theorem ExaSync.extract (hs : ExaSync E a b s s') {t t' : Sc}
    (ht : ExaSync E a b t t') :
    (exaEnv E a b).inp.extract s'.pos t'.pos = E.inp.extract s.pos t.pos := by
  rw [exaEnv_inp, exa_extract _ _ _ _ _ (by rw [Nat.add_comm, ← ht.pos]; exact ht.le),
    Nat.add_comm a, ← hs.pos, Nat.add_comm a, ← ht.pos]

end

/-- The scanner's loops count down a fuel that starts at `len + 1` and recurse on a later state,
    which keeps this bound in both runs. -/
structure ExaFuel (E : Env) (a b : Nat) (s s' : Sc) (f f' : Nat) : Prop where
  left : E.len - s.pos < f
  right : (exaEnv E a b).len - s'.pos < f'

section
variable {E : Env} {a b : Nat} {s s' : Sc} {f f' : Nat}

theorem ExaFuel.init : ExaFuel E a b s s' (E.len + 1) ((exaEnv E a b).len + 1) :=
  ⟨Parser.fuel_init _ _, Parser.fuel_init _ _⟩

theorem ExaFuel.succ (hF : ExaFuel E a b s s' f f') : ∃ g, f' = g + 1 :=
  Nat.exists_eq_add_one.mpr (Nat.zero_lt_of_lt hF.right)

theorem ExaFuel.step (hF : ExaFuel E a b s s' (f + 1) (f' + 1)) (hs : ExaSync E a b s s') {t t' : Sc}
    (ht : ExaSync E a b t t') (hlt : s.pos < t.pos) : ExaFuel E a b t t' f f' :=
  ⟨Parser.fuel_step_good hF.left hlt ht.good, Parser.fuel_step_good hF.right (hs.lt_of_lt ht hlt) ht.good'⟩

end

end Sqlair
