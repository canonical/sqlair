/-
  Exact spans, expression level: the extracted text yields the same node, moved by the start of
  the range (`Seg.exaMv`).  Only the form that succeeded on `E` is followed; that the forms the parser
  tries before it say "not this" on the extracted text comes from their disjointness
  (`Parser/Exprs.lean`, `Exact/Single.lean`), except among the insert forms, which share their
  column list (`exa_asterisk_no`, `exa_complex_no`).
-/
import SqlairProofs.Exact.Items

namespace Sqlair

def Seg.exaMv (a : Nat) (x : Seg) : Seg := { x with a := x.a - a, b := x.b - a }

theorem Seg.exaMv_toOSeg (inp : Bytes) (x : Seg) (hab : x.a ≤ x.b) :
    (x.exaMv x.a).toOSeg (inp.extract x.a x.b) = x.toOSeg inp := by
  unfold Seg.toOSeg Seg.exaMv
  simp only [Nat.sub_self]
  rw [exa_extract inp x.a x.b 0 (x.b - x.a) (by omega), Nat.add_zero, Nat.add_sub_cancel' hab]

theorem Seg.exaMv_mk {E : Env} {a b : Nat} {s s' t t' : Sc} (hs : ExaSync E a b s s')
    (ht : ExaSync E a b t t') (k : SegKind) (cols : List Col) (types : List Acc) (vals : List Val) :
    Seg.exaMv a { kind := k, a := s.pos, b := t.pos, cols := cols, types := types, vals := vals } =
      { kind := k, a := s'.pos, b := t'.pos, cols := cols, types := types, vals := vals } := by
  simp only [Seg.exaMv, hs.pos', ht.pos']

section
variable {E : Env} {a b : Nat} {s s' t : Sc} (C : ExaCtx E a b) (hs : ExaSync E a b s s')
include C hs

theorem exa_parseOutputExpr (hc : ExaClass E)
    {seg : Seg} (he : parseOutputExpr E s = (t, .ok seg)) (hb : t.pos ≤ b) :
    ∃ t', parseOutputExpr (exaEnv E a b) s' = (t', .ok (seg.exaMv a)) ∧ ExaSync E a b t t' := by
  unfold parseOutputExpr at he ⊢
  have hx := parseTargetType_xok C.dok hs.good
  rcases htt : parseTargetType E s with ⟨s1, res1⟩
  rw [htt] at he hx
  cases res1 with
  | err e => cases he
  | ok ty =>
    cases he
    obtain ⟨t', htt', y⟩ := exa_parseTargetType C hs htt Res.ok_ne_err hb
    rw [htt']
    refine ⟨t', ?_, y⟩
    rw [Seg.exaMv_mk hs y]
  | no =>
    simp only [] at he
    have h1 : s1 = s := hx.no rfl
    rw [h1] at htt he
    obtain ⟨cp', htt', y0⟩ := exa_parseTargetType C hs htt Res.no_ne_err hs.le
    rw [htt']
    simp only []
    have hpc := parseColumns_post C.dok hs.good
    rcases hcols : parseColumns E s with ⟨s2, o⟩
    rw [hcols] at he hpc
    cases o with
    | none => cases he
    | some cp =>
      obtain ⟨cols, pc⟩ := cp
      simp only [] at he hpc
      have hp3 := skipBlanks_post C.dok hpc.good
      have hAS := skipString_AS_bok (E := E) hp3.good
      have hp4 := skipBlanks_post C.dok hAS.good
      obtain ⟨_, he⟩ | ⟨c1, he⟩ := of_ite_not he
      · cases he
      rcases hty : parseTargetTypes E (skipBlanks E (skipString E kwAS (skipBlanks E s2)).1)
        with ⟨s5, res5⟩
      rw [hty] at he
      cases res5 with
      | err e => cases he
      | no => cases he
      | ok tp =>
        obtain ⟨types, pt⟩ := tp
        simp only [] at he
        obtain ⟨d1, he⟩ | ⟨d1, he⟩ := of_ite_eq he
        · cases he
        obtain ⟨d2, he⟩ | ⟨d2, he⟩ := of_ite_eq he
        · cases he
        rcases hf : (if starCountTypes types > 0 then cols.find? (·.func) else none) with _ | c
        · rw [hf] at he
          cases he
          have b4 := Nat.le_trans ((parseTargetTypes_rok C.dok hp4.good).elim hty).2.1 hb
          have b3 := Nat.le_trans hAS.mono (Nat.le_trans hp4.mono b4)
          obtain ⟨s2', hcols', y2⟩ := exa_parseColumns C y0 hc hcols (Nat.le_trans hp3.mono b3)
          obtain ⟨hB, y4⟩ := exa_skipString_blanks C (exa_skipBlanks C y2 b3) kwAS_ok kwAS_ascii b4
          obtain ⟨s5', hty', y5⟩ := exa_parseTargetTypes C y4 hty hb
          rw [hcols']
          simp only [hB, c1, Bool.not_true, Bool.false_eq_true, if_false, hty', if_neg d1,
            if_neg d2, hf]
          refine ⟨s5', ?_, y5⟩
          rw [Seg.exaMv_mk hs y5]
        · rw [hf] at he
          cases he

theorem exa_parseSliceInputExpr {seg : Seg}
    (he : parseSliceInputExpr E s = (t, .ok seg)) (hb : t.pos ≤ b) :
    ∃ t', parseSliceInputExpr (exaEnv E a b) s' = (t', .ok (seg.exaMv a)) ∧ ExaSync E a b t t' := by
  unfold parseSliceInputExpr at he ⊢
  simp only [] at he ⊢
  have h36 := skipChar_bok C.dok 36 hs.good
  obtain ⟨_, he⟩ | ⟨c1, he⟩ := of_ite_not he
  · cases he
  rcases hacc : parseSliceAccessor E (skipChar E 36 s).1 with ⟨s1, res1⟩
  rw [hacc] at he
  cases res1 with
  | err e => cases he
  | no => cases he
  | ok st =>
    cases he
    obtain ⟨c1', y1⟩ := exa_skipChar_true C hs 36 c1
      (Nat.le_trans ((parseSliceAccessor_rok C.dok h36.good).1.elim hacc).2.1 hb)
    obtain ⟨t', hacc', y2⟩ := exa_parseSliceAccessor C y1 hacc hb
    simp only [c1', Bool.not_true, Bool.false_eq_true, if_false, hacc']
    refine ⟨t', ?_, y2⟩
    rw [Seg.exaMv_mk hs y2]

theorem exa_parseMemberInputExpr {seg : Seg}
    (he : parseMemberInputExpr E s = (t, .ok seg)) (hb : t.pos ≤ b) :
    ∃ t', parseMemberInputExpr (exaEnv E a b) s' = (t', .ok (seg.exaMv a)) ∧ ExaSync E a b t t' := by
  unfold parseMemberInputExpr at he ⊢
  rcases hma : parseInputMemberAccessor E s with ⟨s1, res1⟩
  rw [hma] at he
  cases res1 with
  | err e => cases he
  | no => cases he
  | ok ma =>
    simp only [] at he
    obtain ⟨d1, he⟩ | ⟨d1, he⟩ := of_ite_eq he
    · cases he
    · cases he
      obtain ⟨t', hma', y⟩ := exa_parseInputMemberAccessor C hs hma Res.ok_ne_err hb
      rw [hma']
      simp only [if_neg d1]
      refine ⟨t', ?_, y⟩
      rw [Seg.exaMv_mk hs y]

theorem exa_parseInputMemberAccessor_no
    (he : parseInputMemberAccessor E s = (t, .no)) :
    (parseInputMemberAccessor (exaEnv E a b) s').2 = .no := by
  by_cases hlt : s.pos < b
  · -- the answer comes with the state behind `$`, or with `s`
    have htb : t.pos ≤ b := by
      unfold parseInputMemberAccessor at he
      simp only [] at he
      obtain ⟨_, he⟩ | ⟨_, he⟩ := of_ite_eq he
      · rw [parseTypeAndMember_no he]; exact (exa_skipChar_lt C hs 36 hlt).2.le
      · cases he; exact hs.le
    obtain ⟨t', he', _⟩ := exa_parseInputMemberAccessor C hs he Res.no_ne_err htb
    rw [he']
  · unfold parseInputMemberAccessor
    simp only [exa_skipChar_eof C hs 36 hlt, Bool.false_eq_true, if_false]

theorem exa_parseComplexInsertValues
    {srcs : List Acc} (he : parseComplexInsertValues E s = (t, .ok srcs)) (hb : t.pos ≤ b) :
    ∃ t', parseComplexInsertValues (exaEnv E a b) s' = (t', .ok srcs) ∧ ExaSync E a b t t' := by
  have hpl := parseComplexInsertValues_ok he
  obtain ⟨t', hpl', y⟩ := exa_parseList (fn' := parseInputMemberAccessor (exaEnv E a b)) C hs
    (fun s g => (parseInputMemberAccessor_sok C.dok g).toROK)
    (fun hs he hb => exa_parseInputMemberAccessor C hs he Res.ok_ne_err hb) hpl hb
  refine ⟨t', ?_, y⟩
  unfold parseComplexInsertValues
  rw [hpl']

theorem exa_parseAsteriskInsertExpr {seg : Seg}
    (he : parseAsteriskInsertExpr E s = (t, .ok seg)) (hb : t.pos ≤ b) :
    ∃ t', parseAsteriskInsertExpr (exaEnv E a b) s' = (t', .ok (seg.exaMv a)) ∧ ExaSync E a b t t' := by
  unfold parseAsteriskInsertExpr at he ⊢
  extract_lets r0 r1 r2 r3 at he
  extract_lets r0' r1' r2' r3'
  have k0 : BOK E s r0 := skipChar_bok C.dok 40 hs.good
  have p1 := skipBlanks_post C.dok k0.good
  have k1 : BOK E _ r1 := skipChar_bok C.dok 42 p1.good
  have p2 := skipBlanks_post C.dok k1.good
  have k2 : BOK E _ r2 := skipChar_bok C.dok 41 p2.good
  have p3 := skipBlanks_post C.dok k2.good
  have k3 : BOK E _ r3 := skipString_VALUES_bok p3.good
  have p4 := skipBlanks_post C.dok k3.good
  obtain ⟨_, he⟩ | ⟨c0, he⟩ := of_ite_not he
  · cases he
  obtain ⟨_, he⟩ | ⟨c1, he⟩ := of_ite_not he
  · cases he
  obtain ⟨_, he⟩ | ⟨c2, he⟩ := of_ite_not he
  · cases he
  obtain ⟨_, he⟩ | ⟨c3, he⟩ := of_ite_not he
  · cases he
  rcases hcv : parseComplexInsertValues E (skipBlanks E r3.1) with ⟨s1, res1⟩
  rw [hcv] at he
  cases res1 with
  | err e => cases he
  | no => cases he
  | ok srcs =>
    cases he
    have b7 : (skipBlanks E r3.1).pos ≤ b :=
      Nat.le_trans ((parseComplexInsertValues_rok C.dok p4.good).elim hcv).2.1 hb
    have b5 : (skipBlanks E r2.1).pos ≤ b := Nat.le_trans k3.mono (Nat.le_trans p4.mono b7)
    have b3 : (skipBlanks E r1.1).pos ≤ b := Nat.le_trans k2.mono (Nat.le_trans p3.mono b5)
    have b1 : (skipBlanks E r0.1).pos ≤ b := Nat.le_trans k1.mono (Nat.le_trans p2.mono b3)
    obtain ⟨c0', y1⟩ : r0'.2 = true ∧ _ := exa_skipChar_blanks C hs 40 c0 b1
    obtain ⟨c1', y3⟩ : r1'.2 = true ∧ _ := exa_skipChar_blanks C y1 42 c1 b3
    obtain ⟨c2', y5⟩ : r2'.2 = true ∧ _ := exa_skipChar_blanks C y3 41 c2 b5
    obtain ⟨c3', y7⟩ : r3'.2 = r3.2 ∧
        ExaSync E a b (skipBlanks E r3.1) (skipBlanks (exaEnv E a b) r3'.1) :=
      exa_skipString_blanks C y5 kwVALUES_ok kwVALUES_ascii b7
    obtain ⟨t', hcv', y8⟩ := exa_parseComplexInsertValues C y7 hcv hb
    simp only [c0', c1', c2', c3', c3, Bool.not_true, Bool.false_eq_true, if_false, hcv']
    refine ⟨t', ?_, y8⟩
    rw [Seg.exaMv_mk hs y8]

theorem exa_basicItem (cp cp' : Sc)
    (ip : Bool) (vs : List Val) {s2 : Sc} {ip2 : Bool} {vs2 : List Val}
    (he : basicItem E cp ip vs s = (s2, .ok (ip2, vs2))) (hb : s2.pos < b) :
    ∃ s2', basicItem (exaEnv E a b) cp' ip vs s' = (s2', .ok (ip2, vs2)) ∧ ExaSync E a b s2 s2' := by
  unfold basicItem at he ⊢
  rcases hacc : parseInputMemberAccessor E s with ⟨u, res⟩
  rw [hacc] at he
  have hma := (parseInputMemberAccessor_sok C.dok hs.good).toROK
  obtain ⟨gu, mu, _⟩ := hma.elim hacc
  cases res with
  | err e => cases he
  | ok ma =>
    simp only [] at he
    obtain ⟨d1, he⟩ | ⟨d1, he⟩ := of_ite_eq he
    · cases he
    · cases he
      obtain ⟨u', hacc', y⟩ := exa_parseInputMemberAccessor C hs hacc Res.ok_ne_err (Nat.le_of_lt hb)
      rw [hacc']
      simp only [if_neg d1]
      exact ⟨_, rfl, y⟩
  | no =>
    simp only [] at he
    rcases hlit : skipLiteralInList E u with ⟨s3, res3⟩
    rw [hlit] at he
    cases res3 with
    | err e => cases he
    | no => cases he
    | ok x =>
      cases he
      obtain ⟨u', hacc', y⟩ := exa_parseInputMemberAccessor C hs hacc Res.no_ne_err
        (Nat.le_trans ((skipLiteralInList_rok C.dok gu).elim hlit).2.1 (Nat.le_of_lt hb))
      obtain ⟨s3', hlit', y3⟩ := exa_skipLiteralInList C y hlit hb
      rw [hacc']
      simp only [hlit']
      rw [hs.extract y3]
      exact ⟨_, rfl, y3⟩

theorem exa_basicLoop {f f' : Nat} {cp : Sc} (cp' : Sc) {ip : Bool} {vs vals : List Val}
    (gcp : Good E cp) (hcp : cp.pos ≤ s.pos) (hF : ExaFuel E a b s s' f f')
    (he : basicLoop E cp f ip vs s = (t, .ok vals)) (hb : t.pos ≤ b) :
    ∃ t', basicLoop (exaEnv E a b) cp' f' ip vs s' = (t', .ok vals) ∧ ExaSync E a b t t' := by
  induction f generalizing s s' f' ip vs with
  | zero => exact absurd hF.left (Nat.not_lt_zero _)
  | succ f ih =>
    obtain ⟨f', rfl⟩ := hF.succ
    rw [basicLoop_succ] at he ⊢
    have p1 := skipBlanks_post C.dok hs.good
    rcases hit : basicItem E cp ip vs (skipBlanks E s) with ⟨s2, res⟩
    rw [hit] at he
    cases res with
    | err e => cases he
    | no => cases he
    | ok pr =>
      obtain ⟨ip2, vs2⟩ := pr
      simp only [] at he
      obtain ⟨g2, m2⟩ := (basicItem_lok C.dok gcp ip vs p1.good (Nat.le_trans hcp p1.mono)).elim_ok hit
      have m12 : s.pos ≤ s2.pos := Nat.le_trans p1.mono m2
      have hpos := basicTail_ok_lt C.dok gcp g2 (Nat.le_trans hcp m12)
        (Nat.lt_of_le_of_lt (Nat.sub_le_sub_left m12 _) hF.left) he
      have p3 := skipBlanks_post C.dok g2
      have hdel : (skipBlanks E s2).pos < b := Nat.lt_of_lt_of_le hpos hb
      have y1 := exa_skipBlanks C hs (Nat.le_trans m2 (Nat.le_trans p3.mono (Nat.le_of_lt hdel)))
      obtain ⟨s2', hit', y2⟩ := exa_basicItem C y1 cp cp' ip vs hit (Nat.lt_of_le_of_lt p3.mono hdel)
      rw [hit']
      simp only []
      have y3 := exa_skipBlanks C y2 (Nat.le_of_lt hdel)
      unfold basicTail at he ⊢
      simp only [] at he ⊢
      have h44 := skipChar_bok C.dok 44 p3.good
      obtain ⟨c1, he⟩ | ⟨c1, he⟩ := of_ite_eq he
      · obtain ⟨hip, he⟩ | ⟨hip, he⟩ := of_ite_eq he
        · cases he
          obtain ⟨c1', y4⟩ := exa_skipChar_true C y3 41 c1 hb
          rw [if_pos c1', if_pos hip]
          exact ⟨_, rfl, y4⟩
        · cases he
      · rw [exa_skipChar_false C y3 41 c1]
        simp only [Bool.false_eq_true, if_false]
        obtain ⟨c2, he⟩ | ⟨c2, he⟩ := of_ite_eq he
        · have hlt : s.pos < (skipChar E 44 (skipBlanks E s2)).1.pos :=
            Nat.lt_of_le_of_lt (Nat.le_trans m12 p3.mono) (h44.prog c2)
          have hl := basicLoop_lok C.dok gcp f ip2 vs2 h44.good (Nat.le_trans hcp (Nat.le_of_lt hlt))
            (Parser.fuel_step_good hF.left hlt h44.good)
          rw [he] at hl
          obtain ⟨c2', y4⟩ := exa_skipChar_true C y3 44 c2 (Nat.le_trans (hl.okmono vals rfl) hb)
          rw [if_pos c2']
          exact ih y4 (Nat.le_trans hcp (Nat.le_of_lt hlt)) (hF.step hs y4 hlt) he
        · cases he

theorem exa_parseBasicInsertValues
    {vals : List Val} (he : parseBasicInsertValues E s = (t, .ok vals)) (hb : t.pos ≤ b) :
    ∃ t', parseBasicInsertValues (exaEnv E a b) s' = (t', .ok vals) ∧ ExaSync E a b t t' := by
  unfold parseBasicInsertValues at he ⊢
  simp only [] at he ⊢
  have h40 := skipChar_bok C.dok 40 hs.good
  obtain ⟨_, he⟩ | ⟨c1, he⟩ := of_ite_not he
  · split at he <;> cases he
  have hl := basicLoop_lok C.dok hs.good (E.len + 1) false [] h40.good h40.mono (Parser.fuel_init _ _)
  rw [he] at hl
  obtain ⟨c1', y1⟩ := exa_skipChar_true C hs 40 c1 (Nat.le_trans (hl.okmono vals rfl) hb)
  simp only [c1', Bool.not_true, Bool.false_eq_true, if_false]
  exact exa_basicLoop C y1 s' hs.good h40.mono ExaFuel.init he hb

theorem exa_complex_no {u : Sc}
    {vals : List Val} (hno : parseComplexInsertValues E s = (u, .no))
    (hbas : parseBasicInsertValues E s = (t, .ok vals)) (hb : t.pos ≤ b) :
    parseComplexInsertValues (exaEnv E a b) s' = (s', .no) := by
  have h40 := skipChar_bok C.dok 40 hs.good
  unfold parseBasicInsertValues at hbas
  simp only [] at hbas
  obtain ⟨_, hbas⟩ | ⟨c1, hbl⟩ := of_ite_not hbas
  · split at hbas <;> cases hbas
  obtain ⟨s2, hacc⟩ := parseComplexInsertValues_no_first hno c1
  have p1 := skipBlanks_post C.dok h40.good
  have hma := (parseInputMemberAccessor_sok C.dok p1.good).toROK
  obtain ⟨g2, m2, _⟩ := hma.elim hacc
  -- the first item of the basic values is a literal that ends inside the range
  have hw : (skipBlanks E (skipChar E 40 s).1).pos ≤ b := by
    rw [basicLoop_succ] at hbl
    unfold basicItem at hbl
    rw [hacc] at hbl
    simp only [] at hbl
    have hlr := skipLiteralInList_rok C.dok g2
    rcases hlit : skipLiteralInList E s2 with ⟨s3, res3⟩
    rw [hlit] at hbl
    obtain ⟨g3, m3, _⟩ := hlr.elim hlit
    cases res3 with
    | err e => cases hbl
    | no => cases hbl
    | ok x =>
      simp only [] at hbl
      have hle : s.pos ≤ s3.pos :=
        Nat.le_trans h40.mono (Nat.le_trans p1.mono (Nat.le_trans m2 m3))
      have hpos := basicTail_ok_lt C.dok hs.good g3 hle
        (Nat.lt_of_le_of_lt (Nat.sub_le_sub_left hle _) (Parser.fuel_init _ _)) hbl
      exact Nat.le_trans m2 (Nat.le_trans m3 (Nat.le_trans (skipBlanks_post C.dok g3).mono
        (Nat.le_trans (Nat.le_of_lt hpos) hb)))
  obtain ⟨c1', y2⟩ := exa_skipChar_blanks C hs 40 c1 hw
  have key := exa_parseInputMemberAccessor_no C y2 hacc
  have hpl' : parseList (exaEnv E a b) (parseInputMemberAccessor (exaEnv E a b)) s' = (s', .no) := by
    rw [parseList_of_paren c1', listLoop]
    simp only []
    rcases hacc' : parseInputMemberAccessor (exaEnv E a b)
      (skipBlanks (exaEnv E a b) (skipChar (exaEnv E a b) 40 s').1) with ⟨u', res'⟩
    rw [hacc'] at key
    simp only [] at key
    subst key
    rfl
  have hma' : parseInputMemberAccessor (exaEnv E a b) s' = (s', .no) :=
    parseInputMemberAccessor_of_ne (by rw [(skipChar_true c1').2.1]; decide)
  unfold parseComplexInsertValues
  rw [hpl']
  simp only []
  rw [hma']

/-- The attempt at the asterisk form looks ahead as far as the start of the values (`hcb` keeps
    that inside the range), and if it fails only at the values, the reason must be visible inside
    the range: the tail that does succeed (`hok`, `htb`) ends there. -/
theorem exa_asterisk_no {u s1 : Sc} {cols : List Col}
    (hast : parseAsteriskInsertExpr E s = (u, .no))
    (hcol : parseColumns E s = (s1, some (cols, true)))
    (hval : (skipString E kwVALUES (skipBlanks E s1)).2 = true)
    (hcb : (skipBlanks E (skipString E kwVALUES (skipBlanks E s1)).1).pos ≤ b)
    (hok : (∃ srcs, parseComplexInsertValues E
        (skipBlanks E (skipString E kwVALUES (skipBlanks E s1)).1) = (t, .ok srcs)) ∨
      ∃ vals, parseBasicInsertValues E
        (skipBlanks E (skipString E kwVALUES (skipBlanks E s1)).1) = (t, .ok vals))
    (htb : t.pos ≤ b) :
    parseAsteriskInsertExpr (exaEnv E a b) s' = (s', .no) := by
  obtain ⟨c0, hpl⟩ := parseList_ok (parseColumns_paren hcol).2
  have hrok : ∀ s, Good E s → ROK E s (parseColumnAccessor E s) := fun s g => parseColumnAccessor_rok C.dok g
  have k0 := skipChar_bok C.dok 40 hs.good
  have p1 := skipBlanks_post C.dok k0.good
  have gs1 : Good E s1 := by
    have h := parseColumns_post C.dok hs.good
    rw [hcol] at h; exact h.good
  have q1 := skipBlanks_post C.dok gs1
  have q2 := skipString_VALUES_bok (E := E) q1.good
  have q3 := skipBlanks_post C.dok q2.good
  have n1 := q1.mono; have n2 := q2.mono; have n3 := q3.mono
  rw [listLoop] at hpl
  simp only [] at hpl
  rcases hca : parseColumnAccessor E (skipBlanks E (skipChar E 40 s).1) with ⟨w2, res⟩
  rw [hca] at hpl
  obtain ⟨g2, m2, _⟩ := (hrok _ p1.good).elim hca
  cases res with
  | err e => cases hpl
  | no => cases hpl
  | ok x =>
    simp only [] at hpl
    have p3 := skipBlanks_post C.dok g2
    have h41 := skipChar_bok C.dok 41 p3.good
    have h44 := skipChar_bok C.dok 44 p3.good
    have m3 := p3.mono
    have hw3 : (skipBlanks E w2).pos ≤ s1.pos := by
      obtain ⟨_, hpl⟩ | ⟨_, hpl⟩ := of_ite_eq hpl
      · cases hpl; exact h41.mono
      · obtain ⟨c2, hpl⟩ | ⟨_, hpl⟩ := of_ite_eq hpl
        · have hlt : s.pos < (skipChar E 44 (skipBlanks E w2)).1.pos :=
            Nat.lt_of_lt_of_le (k0.prog c0) (Nat.le_trans p1.mono (Nat.le_trans m2 (Nat.le_trans m3 h44.mono)))
          have hl := listLoop_lok C.dok hrok hs.good (E.len) false ([] ++ [x]) h44.good (Nat.le_of_lt hlt)
            (Parser.fuel_step_good (Parser.fuel_init _ _) hlt h44.good)
          rw [hpl] at hl
          exact Nat.le_trans h44.mono (hl.okmono cols rfl)
        · cases hpl
    have hsb : s1.pos ≤ b := Nat.le_trans n1 (Nat.le_trans n2 (Nat.le_trans n3 hcb))
    obtain ⟨c0', y1⟩ := exa_skipChar_blanks C hs 40 c0
      (Nat.le_trans m2 (Nat.le_trans m3 (Nat.le_trans hw3 hsb)))
    have hx' := parseAsteriskInsertExpr_eok C.dok' hs.good'
    suffices key : (parseAsteriskInsertExpr (exaEnv E a b) s').2 = .no from Prod.ext (hx'.no key) key
    unfold parseAsteriskInsertExpr at hast ⊢
    simp only [c0, c0', Bool.not_true, Bool.false_eq_true, if_false] at hast ⊢
    obtain ⟨c1, _⟩ | ⟨c1, hast⟩ := of_ite_not hast
    · rw [exa_skipChar_false C y1 42 (Bool.eq_false_iff.mp c1)]
      simp only [Bool.not_false, if_true]
    rw [parseColumnAccessor_star c1] at hca
    have hw2 : w2 = (skipChar E 42 (skipBlanks E (skipChar E 40 s).1)).1 := by cases hca; rfl
    rw [hw2] at hpl hw3 m2 p3 h41 h44
    obtain ⟨c1', y3⟩ := exa_skipChar_blanks C y1 42 c1 (Nat.le_trans hw3 hsb)
    simp only [c1', Bool.not_true, Bool.false_eq_true, if_false]
    obtain ⟨c2, _⟩ | ⟨c2, hast⟩ := of_ite_not hast
    · rw [exa_skipChar_false C y3 41 (Bool.eq_false_iff.mp c2)]
      simp only [Bool.not_false, if_true]
    rw [if_pos c2] at hpl
    have hs1 : s1 = (skipChar E 41 (skipBlanks E (skipChar E 42 (skipBlanks E (skipChar E 40 s).1)).1)).1 := by
      cases hpl; rfl
    rw [hs1] at hval hcb hok n1 n2 n3
    obtain ⟨c2', y5⟩ := exa_skipChar_blanks C y3 41 c2 (Nat.le_trans n2 (Nat.le_trans n3 hcb))
    obtain ⟨hB, y7⟩ := exa_skipString_blanks C y5 kwVALUES_ok kwVALUES_ascii hcb
    simp only [hval, Bool.not_true, Bool.false_eq_true, if_false] at hast
    simp only [c2', hB, hval, Bool.not_true, Bool.false_eq_true, if_false]
    rcases hcv : parseComplexInsertValues E (skipBlanks E (skipString E kwVALUES (skipBlanks E
      (skipChar E 41 (skipBlanks E (skipChar E 42 (skipBlanks E (skipChar E 40 s).1)).1)).1)).1)
      with ⟨u2, res2⟩
    rw [hcv] at hast
    cases res2 with
    | ok srcs => cases hast
    | err e => cases hast
    | no =>
      rcases hok with ⟨srcs, h⟩ | ⟨vals, hbas⟩
      · rw [hcv] at h; cases h
      · rw [exa_complex_no C y7 hcv hbas htb]

theorem exa_parseInsertExpr (hc : ExaClass E)
    {seg : Seg} (he : parseInsertExpr E s = (t, .ok seg)) (hb : t.pos ≤ b) :
    ∃ t', parseInsertExpr (exaEnv E a b) s' = (t', .ok (seg.exaMv a)) ∧ ExaSync E a b t t' := by
  rw [parseInsertExpr_eq] at he ⊢
  have hx := parseAsteriskInsertExpr_eok C.dok hs.good
  rcases hast : parseAsteriskInsertExpr E s with ⟨s0, res0⟩
  rw [hast] at he hx
  cases res0 with
  | err e => cases he
  | ok seg0 =>
    cases he
    obtain ⟨t', hast', y⟩ := exa_parseAsteriskInsertExpr C hs hast hb
    rw [hast']
    exact ⟨t', rfl, y⟩
  | no =>
    simp only [] at he
    have h0 : s0 = s := hx.no rfl
    rw [h0] at hast he
    have hpc := parseColumns_post C.dok hs.good
    rcases hcol : parseColumns E s with ⟨s1, o⟩
    rw [hcol] at he hpc
    cases o with
    | none => cases he
    | some pr =>
      obtain ⟨cols, p⟩ := pr
      cases p with
      | false => cases he
      | true =>
        simp only [] at he hpc
        have q1 := skipBlanks_post C.dok hpc.good
        have q2 := skipString_VALUES_bok (E := E) q1.good
        have q3 := skipBlanks_post C.dok q2.good
        have hcx := parseComplexInsertValues_rok C.dok q3.good
        have hbx := parseBasicInsertValues_rok C.dok q3.good
        obtain ⟨_, he⟩ | ⟨c3, he⟩ := of_ite_not he
        · cases he
        have hinv := insertTail_inv he
        have hcb : (skipBlanks E (skipString E kwVALUES (skipBlanks E s1)).1).pos ≤ b := by
          rcases hinv with ⟨srcs, hcv, _, _⟩ | ⟨vals, hbv, _⟩
          · exact Nat.le_trans (hcx.elim hcv).2.1 hb
          · exact Nat.le_trans (hbx.elim hbv).2.1 hb
        have hast' := exa_asterisk_no C hs hast hcol c3 hcb
          (hinv.imp (fun ⟨srcs, h, _⟩ => ⟨srcs, h⟩) (fun ⟨vals, h, _⟩ => ⟨vals, h⟩)) hb
        have b2 := Nat.le_trans q2.mono (Nat.le_trans q3.mono hcb)
        obtain ⟨s1', hcol', y1⟩ := exa_parseColumns C hs hc hcol (Nat.le_trans q1.mono b2)
        obtain ⟨hB, y4⟩ := exa_skipString_blanks C (exa_skipBlanks C y1 b2) kwVALUES_ok kwVALUES_ascii hcb
        rw [hast']
        simp only []
        rw [hcol']
        simp only [hB, c3, Bool.not_true, Bool.false_eq_true, if_false]
        rcases hinv with ⟨srcs, hcv, hst, hseg⟩ | ⟨vals, hbv, hseg⟩
        · obtain ⟨t', hcv', y5⟩ := exa_parseComplexInsertValues C y4 hcv hb
          unfold insertTail
          simp only [hcv', hst, if_true]
          refine ⟨t', ?_, y5⟩
          rw [hseg]
          rw [Seg.exaMv_mk hs y5]
        · obtain ⟨t', hbv', y5⟩ := exa_parseBasicInsertValues C y4 hbv hb
          rw [insertTail_basic hbv']
          refine ⟨t', ?_, y5⟩
          rw [hseg]
          rw [Seg.exaMv_mk hs y5]

theorem exa_parseInputExpr (hc : ExaClass E)
    {seg : Seg} (he : parseInputExpr E s = (t, .ok seg)) (hb : t.pos ≤ b) :
    ∃ t', parseInputExpr (exaEnv E a b) s' = (t', .ok (seg.exaMv a)) ∧ ExaSync E a b t t' := by
  rcases parseInputExpr_ok_cases C.dok hs.good he with h1 | ⟨_, h2⟩ | ⟨_, _, h3⟩
  · obtain ⟨t', h1', y⟩ := exa_parseSliceInputExpr C hs h1 hb
    exact ⟨t', by simp only [parseInputExpr, h1'], y⟩
  · obtain ⟨t', h2', y⟩ := exa_parseMemberInputExpr C hs h2 hb
    exact ⟨t', by simp only [parseInputExpr, parseSliceInputExpr_no_of_member h2', h2'], y⟩
  · obtain ⟨t', h3', y⟩ := exa_parseInsertExpr C hs hc h3 hb
    have h40 : s'.char ≠ 36 := by
      rw [parseInsertExpr_ok_char C.dok' (hc.exaEnv a b) hs.good' h3']; decide
    exact ⟨t', by simp only [parseInputExpr, parseSliceInputExpr_no_of_char h40,
      parseMemberInputExpr_no_of_char h40, h3'], y⟩

end
end Sqlair
