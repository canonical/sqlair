/-
  Exact spans, scanner level.  The lemmas of the walk (here, `Exact/Items.lean`,
  `Exact/Exprs.lean`) take a bound `≤ b` on where the run on `E` ends and give `ExaB` for a skipper,
  `∃ t', f (exaEnv E a b) s' = (t', r) ∧ ExaSync E a b t t'` for a parse function with a non-error
  answer `r`.  Where a lemma departs from this (`<` for `≤` where the function looks one character
  ahead, no bound at all where "not this" is decided at the first character) the difference is
  what the lemma is about.
-/
import SqlairProofs.Exact.Defs

namespace Sqlair

def ExaB (E : Env) (a b : Nat) (r r' : Sc × Bool) : Prop := r'.2 = r.2 ∧ ExaSync E a b r.1 r'.1

section
variable {E : Env} {a b : Nat} {s s' t : Sc} (C : ExaCtx E a b) (hs : ExaSync E a b s s')
include C hs

theorem exa_advanceChar (hlt : s.pos < b) :
    ExaSync E a b (advanceChar E s) (advanceChar (exaEnv E a b) s') := by
  obtain ⟨hlen, _, _, hnp, hle⟩ := hs.lt C hlt
  refine ⟨advanceChar_good C.dok hs.good, advanceChar_good C.dok' hs.good', ?_, ?_, ?_⟩
  · rw [advanceChar_pos, advanceChar_pos]; exact hnp
  · rw [advanceChar_pos]; exact hle
  · rw [advanceChar_pos, (hs.good.next hlen).1]; exact hs.reach.snoc hlen

theorem exa_skipChar_lt (c : Nat) (hlt : s.pos < b) :
    ExaB E a b (skipChar E c s) (skipChar (exaEnv E a b) c s') := by
  obtain ⟨hlen, hlen', hch, _⟩ := hs.lt C hlt
  by_cases hc : s.char = c
  · rw [skipChar_of_eq hlen hc, skipChar_of_eq hlen' (hch.trans hc)]
    exact ⟨rfl, exa_advanceChar C hs hlt⟩
  · rw [skipChar_of_ne hc, skipChar_of_ne (hch ▸ hc)]
    exact ⟨rfl, hs⟩

theorem exa_skipChar_eof (c : Nat) (hlt : ¬ s.pos < b) :
    skipChar (exaEnv E a b) c s' = (s', false) :=
  skipChar_of_not fun h => hs.not_lt' C hlt h.1

theorem exa_skipChar (c : Nat)
    (hb : (skipChar E c s).1.pos ≤ b) :
    ExaB E a b (skipChar E c s) (skipChar (exaEnv E a b) c s') := by
  by_cases hlt : s.pos < b
  · exact exa_skipChar_lt C hs c hlt
  · -- the run on `E` cannot have skipped the rune behind the range
    have hk := skipChar_bok C.dok c hs.good
    have hf : (skipChar E c s).2 = false :=
      Bool.eq_false_iff.mpr fun ht => hlt (Nat.lt_of_lt_of_le (hk.prog ht) hb)
    rw [exa_skipChar_eof C hs c hlt]
    exact ⟨hf.symm, by rw [hk.rest hf]; exact hs⟩

omit C in
theorem ExaB.of_false {r r' : Sc × Bool} (hk : BOK E s r) (hk' : BOK (exaEnv E a b) s' r')
    (hB : r.1.pos ≤ b → ExaB E a b r r') (hf : ¬ r.2 = true) : r' = (s', false) := by
  have hf := Bool.eq_false_iff.mpr hf
  have h2 : r'.2 = false := (hB (by rw [hk.rest hf]; exact hs.le)).1.trans hf
  exact Prod.ext (hk'.rest h2) h2

theorem exa_skipChar_false (c : Nat)
    (hf : ¬ (skipChar E c s).2 = true) : skipChar (exaEnv E a b) c s' = (s', false) :=
  ExaB.of_false hs (skipChar_bok C.dok c hs.good) (skipChar_bok C.dok' c hs.good') (exa_skipChar C hs c) hf

theorem exa_skipChar_true (c : Nat)
    (ht : (skipChar E c s).2 = true) (hb : (skipChar E c s).1.pos ≤ b) :
    (skipChar (exaEnv E a b) c s').2 = true ∧
      ExaSync E a b (skipChar E c s).1 (skipChar (exaEnv E a b) c s').1 :=
  have hB := exa_skipChar C hs c hb
  ⟨hB.1.trans ht, hB.2⟩

theorem exa_skipChar2_lt (c d : Nat) (hlt : s.pos < b) :
    ExaB E a b (if (skipChar E c s).2 = true then skipChar E c s else skipChar E d s)
      (if (skipChar (exaEnv E a b) c s').2 = true then skipChar (exaEnv E a b) c s'
        else skipChar (exaEnv E a b) d s') := by
  have ha := exa_skipChar_lt C hs c hlt
  exact ite_rel (ExaB E a b) (by rw [ha.1]) (fun _ => ha) fun _ => exa_skipChar_lt C hs d hlt

theorem exa_skipString (kw : List Nat) (hne : 0 < kw.length)
    (hkw10 : ∀ k, k ∈ kw → k ≠ 10) (hkw : ∀ k, k ∈ kw → k < 128)
    (hb : (skipString E kw s).1.pos ≤ b) :
    ExaB E a b (skipString E kw s) (skipString (exaEnv E a b) kw s') := by
  have hpa : a + s'.pos = s.pos := by rw [Nat.add_comm]; exact hs.pos.symm
  have hfold : s.pos + kw.length ≤ b →
      foldEqAt (exaEnv E a b).inp s'.pos kw = foldEqAt E.inp s.pos kw := by
    intro h
    rw [exaEnv_inp, exa_foldEqAt E.inp a b C.blen kw s'.pos (by rw [hpa]; exact h), hpa]
  have hlen : s'.pos + kw.length ≤ (exaEnv E a b).len ↔ s.pos + kw.length ≤ b := by
    rw [C.len', hs.pos]; have := C.reach.le; omega
  by_cases hc : s.pos + kw.length ≤ E.len ∧ foldEqAt E.inp s.pos kw = true
  · obtain ⟨h2, hpos⟩ := skipString_of_match hc
    rw [hpos] at hb
    obtain ⟨h2', hpos'⟩ := skipString_of_match (E := exaEnv E a b) (s := s')
      ⟨hlen.mpr hb, (hfold hb).trans hc.2⟩
    refine ⟨h2'.trans h2.symm, (skipString_bok kw hne hkw10 hs.good).good,
      (skipString_bok kw hne hkw10 hs.good').good, ?_, by rw [hpos]; exact hb, ?_⟩
    · rw [hpos, hpos', hs.pos, Nat.add_right_comm]
    · rw [hpos]
      exact hs.reach.trans (exa_reach_kw C.asc kw hkw s.pos hc.1 hc.2)
  · have hc' : ¬ (s'.pos + kw.length ≤ (exaEnv E a b).len ∧
        foldEqAt (exaEnv E a b).inp s'.pos kw = true) := fun hc' =>
      have h := hlen.mp hc'.1
      hc ⟨Nat.le_trans h C.blen, (hfold h).symm.trans hc'.2⟩
    rw [skipString_of_not hc, skipString_of_not hc']
    exact ⟨rfl, hs⟩

theorem exa_skipCharFindLoop (c : Nat) {f f' : Nat} (hF : ExaFuel E a b s s' f f') :
    (∀ t, skipCharFindLoop E c f s = some (some t) → t.pos ≤ b →
      ∃ t', skipCharFindLoop (exaEnv E a b) c f' s' = some (some t') ∧ ExaSync E a b t t') ∧
    (skipCharFindLoop E c f s = some none →
      skipCharFindLoop (exaEnv E a b) c f' s' = some none) := by
  induction f generalizing s s' f' with
  | zero => exact absurd hF.left (Nat.not_lt_zero _)
  | succ f ih =>
    obtain ⟨f', rfl⟩ := hF.succ
    by_cases hlt : s.pos < b
    · obtain ⟨hlen, hlen', hch, _⟩ := hs.lt C hlt
      have hs1 := exa_advanceChar C hs hlt
      unfold skipCharFindLoop
      rw [if_pos hlen, if_pos hlen', hch]
      by_cases hc : s.char = c
      · rw [if_pos hc, if_pos hc]
        exact ⟨fun t ht _ => by cases ht; exact ⟨_, rfl, hs1⟩, fun ht => by cases ht⟩
      · rw [if_neg hc, if_neg hc]
        exact ih hs1 (hF.step hs hs1 (advanceChar_lt C.dok hs.good hlen))
    · refine ⟨fun t ht hb => ?_, fun _ => ?_⟩
      · -- what the run on `E` finds lies behind the range
        obtain ⟨r, hr, hr'⟩ := skipCharFindLoop_spec C.dok c (f + 1) hs.good hF.left
        rw [ht] at hr; cases hr
        exact absurd (Nat.lt_of_lt_of_le (hr' t rfl).2 hb) hlt
      · unfold skipCharFindLoop
        rw [if_neg (hs.not_lt' C hlt)]

theorem exa_skipCharFind (c : Nat)
    (hb : (skipCharFind E c s).1.pos ≤ b) :
    ExaB E a b (skipCharFind E c s) (skipCharFind (exaEnv E a b) c s') := by
  have hl := exa_skipCharFindLoop C hs c ExaFuel.init
  obtain ⟨r, hr, _⟩ := skipCharFindLoop_spec C.dok c (E.len + 1) hs.good (Parser.fuel_init _ _)
  unfold skipCharFind at hb ⊢
  rw [hr] at hb hl ⊢
  cases r with
  | none =>
    rw [hl.2 rfl]
    exact ⟨rfl, hs⟩
  | some t =>
    obtain ⟨t', ht', hst⟩ := hl.1 t rfl hb
    rw [ht']
    exact ⟨rfl, hst⟩

theorem exa_commentLoop (endc : Nat) {f f' : Nat} (hF : ExaFuel E a b s s' f f')
    (ht : commentLoop E endc f s = some t) (hb : t.pos ≤ b) :
    ∃ t', commentLoop (exaEnv E a b) endc f' s' = some t' ∧ ExaSync E a b t t' := by
  induction f generalizing s s' f' with
  | zero => exact absurd hF.left (Nat.not_lt_zero _)
  | succ f ih =>
    obtain ⟨f', rfl⟩ := hF.succ
    obtain ⟨_, ht2, hp⟩ := commentLoop_spec C.dok endc (f + 1) hs.good hF.left
    rw [ht] at ht2; cases ht2
    unfold commentLoop at ht ⊢
    by_cases hlt : s.pos < b
    · obtain ⟨hlen, hlen', hch, _⟩ := hs.lt C hlt
      have hs1 := exa_advanceChar C hs hlt
      have hF1 := hF.step hs hs1 (advanceChar_lt C.dok hs.good hlen)
      rw [if_pos hlen] at ht
      rw [if_pos hlen', hch]
      obtain ⟨hc, ht⟩ | ⟨hc, ht⟩ := of_ite_eq ht
      · rw [if_pos hc]
        obtain ⟨he, ht⟩ | ⟨he, ht⟩ := of_ite_eq ht
        · rw [if_pos he]
          simp only [] at ht ⊢
          by_cases h2 : (skipChar E 47 (advanceChar E s)).2 = true
          · rw [if_pos h2] at ht
            cases ht
            obtain ⟨h2', hs2⟩ := exa_skipChar_true C hs1 47 h2 hb
            rw [if_pos h2']
            exact ⟨_, rfl, hs2⟩
          · rw [if_neg h2, (skipChar_bok C.dok 47 hs1.good).rest (Bool.eq_false_iff.mpr h2)] at ht
            rw [exa_skipChar_false C hs1 47 h2]
            simp only [Bool.false_eq_true, if_false]
            exact ih hs1 hF1 ht
        · rw [if_neg he]
          cases ht
          exact ⟨_, rfl, hs⟩
      · rw [if_neg hc]
        exact ih hs1 hF1 ht
    · rw [if_neg (hs.not_lt' C hlt)]
      exact ⟨_, rfl, hs.at_end hp.good hp.mono hb hlt⟩

theorem exa_skipComment
    (hb : (skipComment E s).1.pos ≤ b) :
    ExaB E a b (skipComment E s) (skipComment (exaEnv E a b) s') := by
  have hbk := skipComment_bok C.dok hs.good
  by_cases hlt : s.pos < b
  · obtain ⟨_, _, hch, _⟩ := hs.lt C hlt
    unfold skipComment at hb ⊢
    extract_lets c a0 r1 r2 at hb
    extract_lets c' a' r1' r2'
    have hcc : c' = c := hch
    have h1 : ExaB E a b r1 r1' := exa_skipChar2_lt C hs 45 47 hlt
    by_cases hr1 : r1.2 = true
    · rw [if_pos hr1] at hb
      rw [if_pos hr1, if_pos (h1.1.trans hr1)]
      have g2 : BOK E r1.1 r2 :=
        iteInduction (fun _ => skipChar_bok C.dok 45 h1.2.good) fun _ =>
          iteInduction (fun _ => skipChar_bok C.dok 42 h1.2.good) fun _ => BOK.refl h1.2.good
      have h2 : r2.1.pos ≤ b → ExaB E a b r2 r2' := by
        unfold r2 r2'
        rw [hcc]
        let Q (r r' : Sc × Bool) := r.1.pos ≤ b → ExaB E a b r r'
        exact ite_rel Q Iff.rfl (fun _ => exa_skipChar C h1.2 45) fun _ =>
          ite_rel Q Iff.rfl (fun _ => exa_skipChar C h1.2 42) fun _ _ => ⟨rfl, h1.2⟩
      by_cases hr2 : r2.2 = true
      · rw [if_pos hr2] at hb
        rw [if_pos hr2]
        obtain ⟨s3, hs3, hp3⟩ := commentLoop_spec C.dok (if c = 45 then 10 else 42) (E.len + 1)
          g2.good (Parser.fuel_init _ _)
        rw [hs3] at hb ⊢
        simp only [] at hb ⊢
        have h2 := h2 (Nat.le_trans hp3.mono hb)
        rw [if_pos (h2.1.trans hr2)]
        obtain ⟨t', ht', hst⟩ := exa_commentLoop C h2.2 _ ExaFuel.init hs3 hb
        rw [hcc, ht']
        exact ⟨rfl, hst⟩
      · rw [if_neg hr2]
        have h2 := h2 (by rw [g2.rest (Bool.eq_false_iff.mpr hr2)]; exact h1.2.le)
        rw [if_neg (fun h => hr2 (h2.1.symm.trans h))]
        exact ⟨rfl, hs⟩
    · rw [if_neg hr1, if_neg (fun h => hr1 (h1.1.symm.trans h))]
      exact ⟨rfl, hs⟩
  · -- at the end of the range: the run on `E` returns its entry state, the other one too
    have he' : skipComment (exaEnv E a b) s' = (s', false) :=
      skipComment_of_not (fun h => hs.not_lt' C hlt h.1) fun h => hs.not_lt' C hlt h.1
    have hf : (skipComment E s).2 = false :=
      Bool.eq_false_iff.mpr fun ht => hlt (Nat.lt_of_lt_of_le (hbk.prog ht) hb)
    rw [he']
    exact ⟨hf.symm, by rw [hbk.rest hf]; exact hs⟩

theorem exa_skipComment_false
    (hf : ¬ (skipComment E s).2 = true) : skipComment (exaEnv E a b) s' = (s', false) :=
  ExaB.of_false hs (skipComment_bok C.dok hs.good) (skipComment_bok C.dok' hs.good') (exa_skipComment C hs) hf

theorem exa_peekChar (c : Nat) (hlt : s.pos < b) :
    peekChar (exaEnv E a b) c s' = peekChar E c s := by
  obtain ⟨hlen, hlen', hch, _⟩ := hs.lt C hlt
  unfold peekChar
  rw [hch]
  simp [hlen, hlen']

theorem exa_peekChar_eof (c : Nat) (hlt : ¬ s.pos < b) :
    peekChar (exaEnv E a b) c s' = false := by
  have := hs.not_lt' C hlt
  unfold peekChar
  simp [this]

theorem exa_strLitLoop (c : Nat) {f f' : Nat} {mc : Bool} (hF : ExaFuel E a b s s' f f')
    (ht : strLitLoop E c f mc s = some (some t)) (hb : t.pos ≤ b) :
    ∃ t', strLitLoop (exaEnv E a b) c f' mc s' = some (some t') ∧ ExaSync E a b t t' := by
  induction f generalizing s s' f' mc with
  | zero => exact absurd hF.left (Nat.not_lt_zero _)
  | succ f ih =>
    obtain ⟨f', rfl⟩ := hF.succ
    unfold strLitLoop at ht ⊢
    simp only [] at ht ⊢
    have hbk := skipCharFind_bok C.dok c hs.good
    obtain ⟨hr, ht⟩ | ⟨hr, ht⟩ := of_ite_eq ht
    · obtain ⟨hcl, ht⟩ | ⟨hcl, ht⟩ := of_ite_eq ht
      · cases ht
        have hB := exa_skipCharFind C hs c hb
        rw [if_pos (hB.1.trans hr)]
        -- at the end of the range the look-ahead finds no second quote either
        have hcl' : (mc && !peekChar (exaEnv E a b) c (skipCharFind (exaEnv E a b) c s').1) = true := by
          by_cases hlt : (skipCharFind E c s).1.pos < b
          · rw [exa_peekChar C hB.2 c hlt]; exact hcl
          · rw [exa_peekChar_eof C hB.2 c hlt]
            rw [Bool.and_eq_true] at hcl
            simp [hcl.1]
        rw [if_pos hcl']
        exact ⟨_, rfl, hB.2⟩
      · -- the loop goes on and ends at `t`: this quote lies strictly before `t`
        obtain ⟨r, hr2, hr2'⟩ := strLitLoop_spec C.dok c f (!mc) hbk.good
          (Parser.fuel_step_good hF.left (hbk.prog hr) hbk.good)
        rw [ht] at hr2; cases hr2
        have hlt2 := Nat.lt_of_lt_of_le (hr2' t rfl).2 hb
        have hB := exa_skipCharFind C hs c (Nat.le_of_lt hlt2)
        rw [if_pos (hB.1.trans hr), if_neg (by rw [exa_peekChar C hB.2 c hlt2]; exact hcl)]
        exact ih hB.2 (hF.step hs hB.2 (hbk.prog hr)) ht
    · cases ht

theorem exa_skipStringLiteral {res : Res Unit}
    (he : skipStringLiteral E s = (t, res)) (hne : ∀ e, res ≠ .err e) (hb : t.pos ≤ b) :
    ∃ t', skipStringLiteral (exaEnv E a b) s' = (t', res) ∧ ExaSync E a b t t' := by
  unfold skipStringLiteral at he ⊢
  extract_lets c a0 r at he
  extract_lets c' a' r'
  have g1 : BOK E s r :=
    iteInduction (fun _ => skipChar_bok C.dok 34 hs.good) fun _ => skipChar_bok C.dok 39 hs.good
  obtain ⟨hr, he⟩ | ⟨hr, he⟩ := of_ite_eq he
  · obtain ⟨x, hx, hx'⟩ := strLitLoop_spec C.dok c (E.len + 1) true g1.good (Parser.fuel_init _ _)
    rw [hx] at he
    cases x with
    | none => simp only [] at he; cases he; exact (hne _ rfl).elim
    | some t0 =>
      cases he
      -- the literal ends at `t`, so it starts strictly inside the range
      have hlt : s.pos < b := Nat.lt_of_lt_of_le (Nat.lt_trans (g1.prog hr) (hx' t rfl).2) hb
      have hcc : c' = c := (hs.lt C hlt).2.2.1
      have h1 : ExaB E a b r r' := exa_skipChar2_lt C hs 34 39 hlt
      rw [if_pos (h1.1.trans hr)]
      obtain ⟨t', ht', hst⟩ := exa_strLitLoop C h1.2 c ExaFuel.init hx hb
      rw [hcc, ht']
      exact ⟨t', rfl, hst⟩
  · cases he
    have hr' : ¬ r'.2 = true := by
      by_cases hlt : s.pos < b
      · exact fun h => hr ((exa_skipChar2_lt C hs 34 39 hlt).1.symm.trans h)
      · unfold r' a'
        simp only [exa_skipChar_eof C hs _ hlt, Bool.false_eq_true, if_false, not_false_eq_true]
    rw [if_neg hr']
    exact ⟨s', rfl, hs⟩

theorem exa_blanksLoop {f f' : Nat} (hF : ExaFuel E a b s s' f f') (ht : blanksLoop E f s = some t)
    (hb : t.pos ≤ b) : ∃ t', blanksLoop (exaEnv E a b) f' s' = some t' ∧ ExaSync E a b t t' := by
  induction f generalizing s s' f' with
  | zero => exact absurd hF.left (Nat.not_lt_zero _)
  | succ f ih =>
    obtain ⟨f', rfl⟩ := hF.succ
    obtain ⟨_, ht2, hp⟩ := blanksLoop_spec C.dok (f + 1) hs.good hF.left
    rw [ht] at ht2; cases ht2
    unfold blanksLoop at ht ⊢
    simp only [] at ht ⊢
    by_cases hlt : s.pos < b
    · obtain ⟨hlen, hlen', hch, _⟩ := hs.lt C hlt
      have hbk := skipComment_bok C.dok hs.good
      rw [if_pos hlen] at ht
      rw [if_pos hlen']
      obtain ⟨hr, ht⟩ | ⟨hr, ht⟩ := of_ite_eq ht
      · obtain ⟨_, ht2, hp2⟩ := blanksLoop_spec C.dok f hbk.good
          (Parser.fuel_step_good hF.left (hbk.prog hr) hbk.good)
        rw [ht] at ht2; cases ht2
        have hB := exa_skipComment C hs (Nat.le_trans hp2.mono hb)
        rw [if_pos (hB.1.trans hr)]
        exact ih hB.2 (hF.step hs hB.2 (hbk.prog hr)) ht
      · rw [exa_skipComment_false C hs hr]
        simp only [Bool.false_eq_true, if_false]
        rw [hch]
        obtain ⟨hbl, ht⟩ | ⟨hbl, ht⟩ := of_ite_eq ht
        · rw [if_pos hbl]
          have hs1 := exa_advanceChar C hs hlt
          exact ih hs1 (hF.step hs hs1 (advanceChar_lt C.dok hs.good hlen)) ht
        · rw [if_neg hbl]
          cases ht
          exact ⟨_, rfl, hs⟩
    · rw [if_neg (hs.not_lt' C hlt)]
      exact ⟨_, rfl, hs.at_end hp.good hp.mono hb hlt⟩

theorem exa_skipBlanks (hb : (skipBlanks E s).pos ≤ b) :
    ExaSync E a b (skipBlanks E s) (skipBlanks (exaEnv E a b) s') := by
  unfold skipBlanks at hb ⊢
  obtain ⟨t, ht, _⟩ := blanksLoop_spec C.dok (E.len + 1) hs.good (Parser.fuel_init _ _)
  rw [ht] at hb ⊢
  obtain ⟨t', ht', hst⟩ := exa_blanksLoop C hs ExaFuel.init ht hb
  rw [ht']
  exact hst

theorem exa_skipChar_blanks (c : Nat)
    (ht : (skipChar E c s).2 = true) (hb : (skipBlanks E (skipChar E c s).1).pos ≤ b) :
    (skipChar (exaEnv E a b) c s').2 = true ∧
      ExaSync E a b (skipBlanks E (skipChar E c s).1)
        (skipBlanks (exaEnv E a b) (skipChar (exaEnv E a b) c s').1) := by
  have p := skipBlanks_post C.dok (skipChar_bok C.dok c hs.good).good
  obtain ⟨ht', y⟩ := exa_skipChar_true C hs c ht (Nat.le_trans p.mono hb)
  exact ⟨ht', exa_skipBlanks C y hb⟩

theorem exa_skipString_blanks {kw : List Nat} (hok : 0 < kw.length ∧ ∀ k, k ∈ kw → k ≠ 10)
    (hasc : ∀ k, k ∈ kw → k < 128)
    (hb : (skipBlanks E (skipString E kw s).1).pos ≤ b) :
    (skipString (exaEnv E a b) kw s').2 = (skipString E kw s).2 ∧
      ExaSync E a b (skipBlanks E (skipString E kw s).1)
        (skipBlanks (exaEnv E a b) (skipString (exaEnv E a b) kw s').1) := by
  have p := skipBlanks_post C.dok (skipString_bok kw hok.1 hok.2 hs.good).good
  have hB := exa_skipString C hs kw hok.1 hok.2 hasc (Nat.le_trans p.mono hb)
  exact ⟨hB.1, exa_skipBlanks C hB.2 hb⟩

/-- The last clause is for a name that runs over the end `b` of the range: the second run then reads
    to its end of input (`exa_parseSliceAccessor_no` rests on it). -/
theorem exa_nameLoop {f f' : Nat} (hF : ExaFuel E a b s s' f f') (ht : nameLoop E f s = some t) :
    ∃ t', nameLoop (exaEnv E a b) f' s' = some t' ∧ (t.pos ≤ b → ExaSync E a b t t') ∧
      (b < t.pos → ¬ t'.pos < (exaEnv E a b).len) := by
  induction f generalizing s s' f' with
  | zero => exact absurd hF.left (Nat.not_lt_zero _)
  | succ f ih =>
    obtain ⟨f', rfl⟩ := hF.succ
    obtain ⟨_, ht2, hp, _⟩ := nameLoop_spec C.dok (f + 1) hs.good hF.left
    rw [ht] at ht2; cases ht2
    unfold nameLoop at ht ⊢
    by_cases hlt : s.pos < b
    · obtain ⟨hlen, hlen', hch, _⟩ := hs.lt C hlt
      by_cases hc : isNameChar E s.char = true
      · rw [if_pos ⟨hlen, hc⟩] at ht
        rw [if_pos ⟨hlen', by rw [hch]; exact hc⟩]
        have hs1 := exa_advanceChar C hs hlt
        exact ih hs1 (hF.step hs hs1 (advanceChar_lt C.dok hs.good hlen)) ht
      · rw [if_neg (fun h => hc h.2)] at ht
        cases ht
        rw [if_neg (fun h => hc (by rw [← hch]; exact h.2))]
        exact ⟨_, rfl, fun _ => hs, fun h => absurd hs.le (Nat.not_le.mpr h)⟩
    · have hn := hs.not_lt' C hlt
      rw [if_neg (fun hx => hn hx.1)]
      exact ⟨_, rfl, fun hle => hs.at_end hp.good hp.mono hle hlt, fun _ => hn⟩

theorem exa_parseTypeName :
    ((parseTypeName E s).1.pos ≤ b →
      ∃ t', parseTypeName (exaEnv E a b) s' = (t', (parseTypeName E s).2) ∧
        ExaSync E a b (parseTypeName E s).1 t') ∧
    (b < (parseTypeName E s).1.pos → ¬ (parseTypeName (exaEnv E a b) s').1.pos < (exaEnv E a b).len) := by
  obtain ⟨hp, _, _⟩ := parseTypeName_post C.dok hs.good
  obtain ⟨hp', _, _⟩ := parseTypeName_post C.dok' hs.good'
  have key : ((parseTypeName E s).1.pos ≤ b →
        ExaSync E a b (parseTypeName E s).1 (parseTypeName (exaEnv E a b) s').1) ∧
      (b < (parseTypeName E s).1.pos →
        ¬ (parseTypeName (exaEnv E a b) s').1.pos < (exaEnv E a b).len) := by
    by_cases hlt : s.pos < b
    · obtain ⟨hlen, hlen', hch, _⟩ := hs.lt C hlt
      rw [parseTypeName_fst E s, parseTypeName_fst (exaEnv E a b) s', hch, exaEnv_isInitialNameChar]
      by_cases hi : isInitialNameChar E s.char = true
      · rw [if_pos hi, if_pos hi]
        have hs1 := exa_advanceChar C hs hlt
        obtain ⟨t, ht, _⟩ := nameLoop_spec C.dok (E.len + 1) hs1.good (Parser.fuel_init _ _)
        obtain ⟨t', ht', h1, h2⟩ := exa_nameLoop C hs1 ExaFuel.init ht
        rw [ht, ht']
        exact ⟨h1, h2⟩
      · rw [if_neg hi, if_neg hi]
        exact ⟨fun _ => hs, fun h => absurd hs.le (Nat.not_le.mpr h)⟩
    · -- the extracted text is at its end: its name is empty
      have hn := hs.not_lt' C hlt
      have he' : (parseTypeName (exaEnv E a b) s').1.pos = s'.pos :=
        Nat.le_antisymm (Nat.le_trans hp'.good.pos_le (Nat.le_of_not_lt hn)) hp'.mono
      refine ⟨fun hle => ?_, fun _ => by rw [he']; exact hn⟩
      exact (hs.at_end hp.good hp.mono hle hlt).of_pos_eq hp.good hp'.good rfl he'
  refine ⟨fun hle => ⟨_, Prod.ext rfl ?_, key.1 hle⟩, key.2⟩
  have hsy := key.1 hle
  rw [parseTypeName_eq E s, parseTypeName_eq (exaEnv E a b) s']
  simp only []
  by_cases hgt : (parseTypeName E s).1.pos > s.pos
  · rw [if_pos hgt, if_pos (hs.lt_of_lt hsy hgt), hs.extract hsy]
  · rw [if_neg hgt, if_neg (Nat.not_lt.mpr (hsy.le_of_le hs (Nat.le_of_not_lt hgt)))]

end
end Sqlair
