/-
  What holds of the Go-faithful UTF-8 decoder `decodeRune` and of the ASCII classifier tables on every input.
  The properties are proved about an abstract decoder `E.dec` and abstract classifiers `E.letter`, `E.digit`;
  each assumption `X` is followed, where it is defined, by its instance `decodeRune_X` (any input and classifiers)
  or `X.of_ascii` (classifiers that agree with `asciiLetter` / `asciiDigit` below 128, as `unicode.IsLetter` /
  `unicode.IsDigit` do).

  Decoder (`DecOK` is assumed throughout, the others in addition):
  * `DecOK` (`Parser/Defs.lean`): runes are 1 byte or more and fit, the newline rune is the newline byte and no
    other rune contains one.  C01, C18, C19.
  * `AsciiDec` (here): an ASCII byte is its own rune.  C02, exact spans of C01: keywords are compared byte-wise.
  * `DecLocal` (`Parser/ShiftDefs.lean`): newline bytes in front do not change the runes.  C19, newline shift.
  * `ExaDecLocal` (`Exact/Defs.lean`): a rune decodes inside an extracted range as in the whole input.  Exact
    spans of C01.
  * `OpqDec` (`Opaque/Defs.lean`): `DecOK` and `AsciiDec` on every input, a rune below 128 is one byte, decoding
    stops at the first ASCII byte.  C02, blanking.
  * `DecStarOK` (`Bind/ParserNodes.lean`): `SmallDec` (`Parser/LexDefs.lean`: a rune of `E.inp` below 128 is one
    byte) and a rune whose last byte is `*` is `*`.  C05.11.
  `DecLocal`, `ExaDecLocal` and `OpqDec.window` rest on `decodeRune_local`.

  Classifier (each says that some ASCII characters are neither letters nor digits):
  * `ClassOK` (`Parser/Defs.lean`): newline.  Error positions of C19.
  * `ClassSep` (`Parser/Scan.lean`): tab, newline, CR, space, `-`, `/`.  C19 newline shift, exact spans of C01.
  * `ClassAscii` (`Parser/LexDefs.lean`): those and the two quotes.  C02.
  * `ExaClass` (`Exact/Defs.lean`): `$`, `(`.  Exact spans of C01.
  * `E.letter 42 = false ∧ E.digit 42 = false` (`Bind/ParserNodes.lean`): `*`.  C05.11.
-/
import SqlairProofs.Parser.Defs

namespace Sqlair

/-! ### `bAt`: a byte as a number -/

theorem bAt_eq_toNat_iff {a : Bytes} {i : Nat} {x : UInt8} : bAt a i = x.toNat ↔ a.getD i 0 = x :=
  UInt8.toNat_inj

theorem getD_beq_iff (inp : Bytes) (i : Nat) (x : UInt8) :
    (inp.getD i 0 == x) = true ↔ bAt inp i = x.toNat :=
  beq_iff_eq.trans bAt_eq_toNat_iff.symm

theorem bAt_ge (a : Bytes) (i : Nat) (h : a.size ≤ i) : bAt a i = 0 := by
  unfold bAt
  rw [Array.getD_eq_getD_getElem?, Array.getElem?_eq_none h]
  rfl

theorem bAt_append_right (pre s : Bytes) (i : Nat) : bAt (pre ++ s) (pre.size + i) = bAt s i := by
  have : ¬ (pre.size + i < pre.size) := Nat.not_lt.mpr (Nat.le_add_right _ _)
  simp [bAt, Array.getD_eq_getD_getElem?, Array.getElem?_append, this]

/-- the check of the second byte `x` in `decodeRune`: each bound is one of two constants, chosen by the
    first byte `y` -/
theorem decodeRune_bounds {x y k k' a b a' b' : Nat} (hab : b ≤ a) (hab' : a' ≤ b')
    (h : ¬ (x < (if y = k then a else b) ∨ (if y = k' then a' else b') < x)) :
    b ≤ x ∧ (y = k → a ≤ x) ∧ x ≤ b' := by
  split at h <;> split at h <;> omega

theorem decodeRune_elim {R : Nat × Nat → Prop} (s : Bytes) (p : Nat) (hp : p < s.size)
    (ascii : bAt s p < 0x80 → R (bAt s p, 1))
    (bad : 0x80 ≤ bAt s p → R (0xFFFD, 1))
    (multi : ∀ v k, 0x80 ≤ v → 1 ≤ k → p + k ≤ s.size →
      (∀ i, p ≤ i → i < p + k → 0x80 ≤ bAt s i) → R (v, k)) :
    R (decodeRune s p) := by
  unfold decodeRune
  simp only []
  rw [if_neg (Nat.not_le.mpr hp)]
  refine iteInduction ascii fun c => ?_
  have h80 := Nat.le_of_not_lt c
  have bad := bad h80
  have size : ∀ {k}, ¬ s.size - p < k → p + k ≤ s.size :=
    fun cn => Nat.add_le_of_le_sub' (Nat.le_of_lt hp) (Nat.le_of_not_lt cn)
  have cont : ∀ {x lo hi : Nat}, ¬ (x < lo ∨ hi < x) → lo ≤ x := fun b => Nat.le_of_not_lt (b ∘ .inl)
  refine iteInduction (fun _ => bad) fun c2 => iteInduction (fun c3 => ?_) fun c3 =>
    iteInduction (fun c4 => ?_) fun c4 => iteInduction (fun c5 => ?_) fun _ => bad
  · refine iteInduction (fun _ => bad) fun cn => iteInduction (fun _ => bad) fun b1 => ?_
    refine multi _ 2 (by omega) (by decide) (size cn) fun i hi hi' => ?_
    obtain rfl | rfl : i = p ∨ i = p + 1 := by omega
    · exact h80
    · exact cont b1
  · refine iteInduction (fun _ => bad) fun cn => iteInduction (fun _ => bad) fun b1 =>
      iteInduction (fun _ => bad) fun b2 => ?_
    have hb := decodeRune_bounds (by decide) (by decide) b1
    refine multi _ 3 (by omega) (by decide) (size cn) fun i hi hi' => ?_
    obtain rfl | rfl | rfl : i = p ∨ i = p + 1 ∨ i = p + 2 := by omega
    · exact h80
    · exact hb.1
    · exact cont b2
  · refine iteInduction (fun _ => bad) fun cn => iteInduction (fun _ => bad) fun b1 =>
      iteInduction (fun _ => bad) fun b2 => iteInduction (fun _ => bad) fun b3 => ?_
    have hb := decodeRune_bounds (by decide) (by decide) b1
    refine multi _ 4 (by omega) (by decide) (size cn) fun i hi hi' => ?_
    obtain rfl | rfl | rfl | rfl : i = p ∨ i = p + 1 ∨ i = p + 2 ∨ i = p + 3 := by omega
    · exact h80
    · exact hb.1
    · exact cont b2
    · exact cont b3

theorem decodeRune_cases (s : Bytes) (p : Nat) (hp : p < s.size) :
    (decodeRune s p = (bAt s p, 1) ∧ bAt s p < 0x80) ∨
    (decodeRune s p = (0xFFFD, 1) ∧ 0x80 ≤ bAt s p) ∨
    (0x80 ≤ (decodeRune s p).1 ∧ 1 ≤ (decodeRune s p).2 ∧ p + (decodeRune s p).2 ≤ s.size ∧
      ∀ i, p ≤ i → i < p + (decodeRune s p).2 → 0x80 ≤ bAt s i) :=
  decodeRune_elim s p hp (R := fun d => (d = (bAt s p, 1) ∧ bAt s p < 0x80) ∨
      (d = (0xFFFD, 1) ∧ 0x80 ≤ bAt s p) ∨
      (0x80 ≤ d.1 ∧ 1 ≤ d.2 ∧ p + d.2 ≤ s.size ∧ ∀ i, p ≤ i → i < p + d.2 → 0x80 ≤ bAt s i))
    (fun h => .inl ⟨rfl, h⟩) (fun h => .inr (.inl ⟨rfl, h⟩))
    fun _ _ hv hk hs hb => .inr (.inr ⟨hv, hk, hs, hb⟩)

theorem decodeRune_DecOK (inp : Bytes) (letter digit : Nat → Bool) :
    DecOK { inp := inp, dec := decodeRune, letter := letter, digit := digit } where
  size_pos := fun p hp =>
    decodeRune_elim inp p hp (R := fun d => 1 ≤ d.2) (fun _ => Nat.le_refl 1) (fun _ => Nat.le_refl 1)
      fun _ _ _ hk _ _ => hk
  size_le := fun p hp =>
    decodeRune_elim inp p hp (R := fun d => p + d.2 ≤ inp.size) (fun _ => hp) (fun _ => hp)
      fun _ _ _ _ hs _ => hs
  nl := fun p hp =>
    decodeRune_elim inp p hp (R := fun d => d.1 = 10 → d.2 = 1 ∧ bAt inp p = 10)
      (fun _ h => ⟨rfl, h⟩) (fun _ h => by cases h) fun v _ hv _ _ _ h => by omega
  no_nl := fun p hp =>
    decodeRune_elim inp p hp
      (R := fun d => d.1 ≠ 10 → ∀ i, p ≤ i → i < p + d.2 → bAt inp i ≠ 10)
      (fun _ hne i hi hi' => by obtain rfl : i = p := (by omega); exact hne)
      (fun h80 _ i hi hi' => by obtain rfl : i = p := (by omega); omega)
      fun _ _ _ _ _ hb _ i hi hi' => by have := hb i hi hi'; omega

/-- the decoders of the counterexamples in `Props/C02.lean` and `Props/Opaque.lean` have this shape: `(r, n)`
    where `c` holds, `decodeRune` elsewhere -/
theorem DecOK.of_ite_decodeRune {inp : Bytes} {letter digit : Nat → Bool} {dec : Bytes → Nat → Nat × Nat}
    {c : Nat → Prop} [DecidablePred c] {r n : Nat}
    (hdec : ∀ p, dec inp p = if c p then (r, n) else decodeRune inp p) (hr : r ≠ 10) (hn : 1 ≤ n)
    (hle : ∀ p, p < inp.size → c p → p + n ≤ inp.size) (hnl : ∀ p, c p → ∀ i, p ≤ i → i < p + n → bAt inp i ≠ 10) :
    DecOK { inp := inp, dec := dec, letter := letter, digit := digit } :=
  have hd := decodeRune_DecOK inp letter digit
  have key : ∀ p (R : Nat × Nat → Prop), (c p → R (r, n)) → R (decodeRune inp p) → R (dec inp p) :=
    fun p R h1 h2 => by rw [hdec p]; exact iteInduction h1 fun _ => h2
  { size_pos := fun p hp => key p (1 ≤ ·.2) (fun _ => hn) (hd.size_pos p hp)
    size_le := fun p hp => key p (p + ·.2 ≤ inp.size) (hle p hp) (hd.size_le p hp)
    nl := fun p hp => key p (fun x => x.1 = 10 → x.2 = 1 ∧ bAt inp p = 10) (fun _ h => absurd h hr) (hd.nl p hp)
    no_nl := fun p hp => key p (fun x => x.1 ≠ 10 → ∀ i, p ≤ i → i < p + x.2 → bAt inp i ≠ 10)
      (fun hc _ => hnl p hc) (hd.no_nl p hp) }

theorem decodeRune_ascii (s : Bytes) (p : Nat) (hp : p < s.size) (hb : bAt s p < 128) :
    decodeRune s p = (bAt s p, 1) :=
  decodeRune_elim s p hp (R := fun d => d = (bAt s p, 1)) (fun _ => rfl)
    (fun h80 => absurd hb (Nat.not_lt.mpr h80))
    fun _ _ _ hk _ hall => absurd hb (Nat.not_lt.mpr (hall p (Nat.le_refl _) (Nat.lt_add_of_pos_right hk)))

/-- True of Go's `utf8.DecodeRuneInString`.  Needed because `skipString` compares the keywords
    `AS` / `VALUES` byte-wise and then re-synchronises the scanner after the keyword. -/
structure AsciiDec (E : Env) : Prop where
  ascii : ∀ p, p < E.len → bAt E.inp p < 128 → E.dec E.inp p = (bAt E.inp p, 1)

theorem decodeRune_AsciiDec (inp : Bytes) (letter digit : Nat → Bool) :
    AsciiDec { inp := inp, dec := decodeRune, letter := letter, digit := digit } :=
  ⟨decodeRune_ascii inp⟩

/-- `decodeRune` accepts no over-long encoding -/
theorem decodeRune_small (s : Bytes) (p : Nat) (hp : p < s.size) (h : (decodeRune s p).1 < 128) :
    decodeRune s p = (bAt s p, 1) := by
  rcases decodeRune_cases s p hp with hd | hd | hd
  · exact hd.1
  · rw [hd.1] at h
    simp only [] at h
    omega
  · omega

/-! ### locality

  `decodeRune` looks at the number of bytes left and at up to four bytes, one after the other, and
  stops at the first byte below `0x80`.  So it gives the same rune at another place, possibly with
  fewer bytes left, if the rune fits there and the bytes it looks at are the same. -/

/-- The decision tree of `decodeRune` on the number of bytes left and the four bytes read.  Locality
    compares two runs of the tree, so it needs the tree as a function of what it reads;
    `decodeRune_elim` gives the possible results of one run and forgets which bytes led there. -/
def decCore (n s0 s1 s2 s3 : Nat) : Nat × Nat :=
  if s0 < 0x80 then (s0, 1)
  else if s0 < 0xC2 then (0xFFFD, 1)
  else if s0 < 0xE0 then
    if n < 2 then (0xFFFD, 1) else
    if s1 < 0x80 ∨ 0xBF < s1 then (0xFFFD, 1)
    else ((s0 % 0x20) * 64 + (s1 % 0x40), 2)
  else if s0 < 0xF0 then
    if n < 3 then (0xFFFD, 1) else
    if s1 < (if s0 = 0xE0 then 0xA0 else 0x80) ∨ (if s0 = 0xED then 0x9F else 0xBF) < s1 then (0xFFFD, 1) else
    if s2 < 0x80 ∨ 0xBF < s2 then (0xFFFD, 1)
    else ((s0 % 0x10) * 4096 + (s1 % 0x40) * 64 + (s2 % 0x40), 3)
  else if s0 < 0xF5 then
    if n < 4 then (0xFFFD, 1) else
    if s1 < (if s0 = 0xF0 then 0x90 else 0x80) ∨ (if s0 = 0xF4 then 0x8F else 0xBF) < s1 then (0xFFFD, 1) else
    if s2 < 0x80 ∨ 0xBF < s2 then (0xFFFD, 1) else
    if s3 < 0x80 ∨ 0xBF < s3 then (0xFFFD, 1)
    else ((s0 % 0x08) * 262144 + (s1 % 0x40) * 4096 + (s2 % 0x40) * 64 + (s3 % 0x40), 4)
  else (0xFFFD, 1)

theorem decodeRune_core (s : Bytes) (p : Nat) (hp : p < s.size) :
    decodeRune s p = decCore (s.size - p) (bAt s p) (bAt s (p + 1)) (bAt s (p + 2)) (bAt s (p + 3)) := by
  unfold decodeRune decCore
  rw [if_neg (Nat.not_le.mpr hp)]

/-- A multi-byte class: with fewer than `K` bytes left the rune is invalid, otherwise it is `x`,
    which is invalid or `K` bytes long.  So a result that fits into `m ≤ n` bytes is the result for
    `m` bytes left (`y` for `x`, the same when `K` bytes are there). -/
theorem decClass_local {K m n : Nat} {x y : Nat × Nat} (hmn : m ≤ n)
    (hx : x = (0xFFFD, 1) ∨ x.2 = K) (hxy : K ≤ m → y = x)
    (hr : (if n < K then ((0xFFFD : Nat), (1 : Nat)) else x).2 ≤ m) :
    (if m < K then ((0xFFFD : Nat), (1 : Nat)) else y) = if n < K then (0xFFFD, 1) else x := by
  by_cases hm : m < K
  · rw [if_pos hm]
    by_cases hn : n < K
    · rw [if_pos hn]
    · rw [if_neg hn] at hr ⊢
      rcases hx with hx | hx
      · exact hx.symm
      · exact absurd (hx ▸ hr) (Nat.not_le.mpr hm)
  · rw [if_neg hm, if_neg (fun hn => hm (Nat.lt_of_le_of_lt hmn hn)), hxy (Nat.le_of_not_lt hm)]

/-- one continuation-byte check of a class: the next byte (`t` for `s`) is looked at only when
    this one passes, and then this one is `≥ 0x80` -/
theorem decCheck_congr {lo hi s : Nat} {x y : Nat × Nat} (hlo : 0x80 ≤ lo) (hxy : 0x80 ≤ s → y = x) :
    (if s < lo ∨ hi < s then ((0xFFFD : Nat), (1 : Nat)) else y) = if s < lo ∨ hi < s then (0xFFFD, 1) else x := by
  by_cases c : s < lo ∨ hi < s
  · rw [if_pos c, if_pos c]
  · rw [if_neg c, if_neg c, hxy (Nat.le_trans hlo (Nat.le_of_not_lt fun h => c (.inl h)))]

theorem decCheck_size {K : Nat} {c : Prop} [Decidable c] {x : Nat × Nat}
    (hx : x = (0xFFFD, 1) ∨ x.2 = K) :
    (if c then ((0xFFFD : Nat), (1 : Nat)) else x) = (0xFFFD, 1) ∨
      (if c then ((0xFFFD : Nat), (1 : Nat)) else x).2 = K := by
  by_cases h : c
  · rw [if_pos h]; exact .inl rfl
  · rw [if_neg h]; exact hx

theorem decCore_local {m n s0 s1 s2 s3 t1 t2 t3 : Nat} (hmn : m ≤ n)
    (h1 : 2 ≤ m → 0x80 ≤ s0 → t1 = s1) (h2 : 3 ≤ m → 0x80 ≤ s0 → 0x80 ≤ s1 → t2 = s2)
    (h3 : 4 ≤ m → 0x80 ≤ s0 → 0x80 ≤ s1 → 0x80 ≤ s2 → t3 = s3)
    (hr : (decCore n s0 s1 s2 s3).2 ≤ m) :
    decCore m s0 t1 t2 t3 = decCore n s0 s1 s2 s3 := by
  unfold decCore at hr ⊢
  by_cases c1 : s0 < 0x80
  · simp only [if_pos c1]
  have g0 : 0x80 ≤ s0 := Nat.le_of_not_lt c1
  simp only [if_neg c1] at hr ⊢
  by_cases c2 : s0 < 0xC2
  · simp only [if_pos c2]
  simp only [if_neg c2] at hr ⊢
  have lo3 : 0x80 ≤ (if s0 = 0xE0 then 0xA0 else 0x80) := by split <;> decide
  have lo4 : 0x80 ≤ (if s0 = 0xF0 then 0x90 else 0x80) := by split <;> decide
  by_cases c3 : s0 < 0xE0
  · simp only [if_pos c3] at hr ⊢
    exact decClass_local hmn (decCheck_size (.inr rfl)) (fun h => by rw [h1 h g0]) hr
  simp only [if_neg c3] at hr ⊢
  by_cases c4 : s0 < 0xF0
  · simp only [if_pos c4] at hr ⊢
    refine decClass_local hmn (decCheck_size (decCheck_size (.inr rfl))) (fun h => ?_) hr
    rw [h1 (Nat.le_of_succ_le h) g0]
    exact decCheck_congr lo3 fun g1 => by rw [h2 h g0 g1]
  simp only [if_neg c4] at hr ⊢
  by_cases c5 : s0 < 0xF5
  · simp only [if_pos c5] at hr ⊢
    refine decClass_local hmn (decCheck_size (decCheck_size (decCheck_size (.inr rfl)))) (fun h => ?_) hr
    rw [h1 (Nat.le_trans (by decide) h) g0]
    refine decCheck_congr lo4 fun g1 => ?_
    rw [h2 (Nat.le_of_succ_le h) g0 g1]
    exact decCheck_congr (Nat.le_refl _) fun g2 => by rw [h3 h g0 g1 g2]
  simp only [if_neg c5]

theorem decodeRune_local (s t : Bytes) (p q : Nat) (hp : p < s.size) (hq : q < t.size)
    (hmn : t.size - q ≤ s.size - p) (hfit : (decodeRune s p).2 ≤ t.size - q)
    (hb : ∀ j, q + j < t.size → (∀ i, i < j → 0x80 ≤ bAt s (p + i)) → bAt t (q + j) = bAt s (p + j)) :
    decodeRune t q = decodeRune s p := by
  have h0 : bAt t q = bAt s p := hb 0 hq fun _ hi => absurd hi (Nat.not_lt_zero _)
  rw [decodeRune_core s p hp] at hfit ⊢
  rw [decodeRune_core t q hq, h0]
  refine decCore_local hmn (fun h g0 => hb 1 (by omega) fun i hi => ?_)
    (fun h g0 g1 => hb 2 (by omega) fun i hi => ?_)
    (fun h g0 g1 g2 => hb 3 (by omega) fun i hi => ?_) hfit
  · obtain rfl : i = 0 := by omega
    exact g0
  · obtain rfl | rfl : i = 0 ∨ i = 1 := by omega
    · exact g0
    · exact g1
  · obtain rfl | rfl | rfl : i = 0 ∨ i = 1 ∨ i = 2 := by omega
    · exact g0
    · exact g1
    · exact g2

theorem decodeRune_append (pre s : Bytes) (p : Nat) (hp : p < s.size) :
    decodeRune (pre ++ s) (pre.size + p) = decodeRune s p := by
  have hsz : (pre ++ s).size - (pre.size + p) = s.size - p := by
    rw [Array.size_append, Nat.add_sub_add_left]
  refine decodeRune_local s _ p _ hp (by rw [Array.size_append]; omega) (Nat.le_of_eq hsz) ?_ fun j _ _ => ?_
  · rw [hsz]
    exact Nat.le_sub_of_add_le' ((decodeRune_DecOK s (fun _ => false) fun _ => false).size_le p hp)
  · rw [Nat.add_assoc]
    exact bAt_append_right pre s (p + j)

theorem decodeRune_window (inp inp' : Bytes) (p q : Nat)
    (hsz : inp.size = inp'.size) (hpq : p ≤ q) (hag : ∀ i, p ≤ i → i ≤ q → bAt inp i = bAt inp' i)
    (hq : inp.size ≤ q ∨ bAt inp q < 128) :
    decodeRune inp p = decodeRune inp' p := by
  by_cases hp : p < inp.size
  case neg => unfold decodeRune; rw [← hsz, if_pos (Nat.le_of_not_lt hp), if_pos (Nat.le_of_not_lt hp)]
  refine (decodeRune_local inp inp' p p hp (hsz ▸ hp) (by rw [hsz]; exact Nat.le_refl _) ?_
    fun j hj hhi => ?_).symm
  · rw [← hsz]
    exact Nat.le_sub_of_add_le' ((decodeRune_DecOK inp (fun _ => false) fun _ => false).size_le p hp)
  -- the byte `p + j` lies in the window: the bytes before it (from `p` on) are all ≥ 0x80
  · refine (hag _ (Nat.le_add_right _ _) (Nat.le_of_not_lt fun c => ?_)).symm
    rcases hq with hq | hq
    · omega
    · have := hhi (q - p) (by omega)
      rw [Nat.add_sub_cancel' hpq] at this
      omega

/-! ### the ASCII classifiers; `asciiEnv` is the environment of the Go implementation restricted to them -/

def asciiLetter (c : Nat) : Bool := (65 ≤ c && c ≤ 90) || (97 ≤ c && c ≤ 122)
def asciiDigit (c : Nat) : Bool := 48 ≤ c && c ≤ 57

def asciiEnv (s : String) : Env :=
  { inp := Bytes.ofString s, dec := decodeRune, letter := asciiLetter, digit := asciiDigit }

theorem asciiEnv_DecOK (s : String) : DecOK (asciiEnv s) := decodeRune_DecOK _ _ _

/-- The condition on `c` is one closed proposition, so the `X.of_ascii` lemmas discharge it by `decide`. -/
theorem not_nameChar_of_ascii {E : Env} (hl : ∀ c, c < 128 → E.letter c = asciiLetter c)
    (hd : ∀ c, c < 128 → E.digit c = asciiDigit c) (c : Nat)
    (hc : c < 128 ∧ (asciiLetter c || asciiDigit c || c == 95) = false) : isNameChar E c = false := by
  unfold isNameChar
  rw [hl c hc.1, hd c hc.1]; exact hc.2

end Sqlair
