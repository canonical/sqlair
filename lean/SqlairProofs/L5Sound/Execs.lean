/-
  C09 and C10 hold of the model's own observation of any history.  Both rest on
  the log part of the invariant (`LogOK`: a `prepare` event is the creation of that table
  entry, nothing is executed after its `close` event); C09 also on the attribution of the
  wanted DB and SQL to event indices being sound (`L5sAttr`), which the instrumentation of
  `runHistoryW` keeps (`L5sW`).  Also here, because the interleaved development needs them too:
  the checker's predicates read as propositions (`holdsC09_iff`, ...) and what the log-reading
  functions of C11 say in a state satisfying `Inv`.
-/
import SqlairProofs.L5Sound.Hist

namespace Sqlair.Cache

theorem holdsC09_iff {l : List ExecObs} :
    holdsC09 l = true ↔ ∀ e ∈ l, e.db = e.wantDb ∧ e.shape = e.wantShape := by
  simp only [holdsC09, List.all_eq_true, Bool.and_eq_true, beq_iff_eq]

theorem holdsC10_iff {l : List ExecObs} {closedErrors : Nat} :
    holdsC10 l closedErrors = true ↔ (∀ e ∈ l, e.closedBefore = false) ∧ closedErrors = 0 := by
  simp only [holdsC10, List.all_eq_true, Bool.and_eq_true, Bool.not_eq_true', beq_iff_eq]

theorem holdsC11_iff {doubleClose openStmts cachedPairs conns cacheEntries : Nat} {allDropped : Bool} :
    holdsC11 doubleClose openStmts cachedPairs conns allDropped cacheEntries = true ↔
      doubleClose = 0 ∧ openStmts ≤ cachedPairs * conns ∧ (allDropped = true → openStmts = 0 ∧ cacheEntries = 0) := by
  cases allDropped <;> simp [holdsC11, and_assoc]

def l5s_core (ds : List DStmt) : List (Nat × Nat × Nat) := ds.map fun x => (x.id, x.db, x.sql)

theorem l5s_core_length {ds ds' : List DStmt} (h : l5s_core ds' = l5s_core ds) : ds'.length = ds.length := by
  have := congrArg List.length h
  simpa [l5s_core] using this

theorem l5s_prepOf_exec {st : St} (hi : Inv st) {i id d q : Nat} (he : st.log[i]? = some (Ev.exec id d q)) :
    l5s_prepOf st.log id = some (d, q) := by
  obtain ⟨j, _, hj⟩ := hi.log.exec i id d q he
  have hm : Ev.prepare id d q ∈ st.log := List.mem_of_getElem? hj
  obtain ⟨x, hx, hd, hq⟩ := hi.log.made id d q hm
  -- the first `prepare` event of `id` is the one: `LogOK.made` ties each of them to the one table entry `x`
  cases hf : l5s_prepOf st.log id with
  | none =>
    have := List.findSome?_eq_none_iff.1 hf _ hm
    simp at this
  | some p =>
    obtain ⟨e, hem, hep⟩ := List.exists_of_findSome?_eq_some hf
    cases e with
    | prepare i' d' q' =>
      simp only at hep
      split at hep
      · rename_i hid
        simp at hid
        subst hid
        cases hep
        obtain ⟨hd', hq'⟩ := of_dsGet (hi.log.made i' d' q' hem) hx
        rw [← hd, ← hq, hd', hq']
      · cases hep
    | _ => cases hep

theorem l5s_closedErrs_zero {st : St} (hi : Inv st) : l5s_closedErrs st.log = 0 := by
  unfold l5s_closedErrs
  rw [List.length_eq_zero_iff, List.filter_eq_nil_iff]
  intro e he
  cases e with
  | execClosed id => exact absurd he (hi.log.noEC id)
  | _ => exact Bool.false_ne_true

theorem l5s_take_no_close {st : St} (hi : Inv st) {i ds d q : Nat} (hev : st.log[i]? = some (Ev.exec ds d q)) :
    (List.take i st.log).contains (Ev.close ds) = false := by
  cases hc : (List.take i st.log).contains (Ev.close ds) with
  | false => rfl
  | true =>
    obtain ⟨j, hj⟩ := List.mem_iff_getElem?.1 (List.contains_iff_mem.1 hc)
    rw [List.getElem?_take] at hj
    split at hj
    · have := hi.log.order j i ds d q hj hev
      omega
    · cases hj

theorem l5s_obsAt_exec {st : St} (hi : Inv st) (w : List (Nat × Nat × Nat)) {i ds d q : Nat}
    (hev : st.log[i]? = some (Ev.exec ds d q)) :
    l5s_obsAt st.log w i = some {
      ds := ds, db := d, shape := q, wantDb := ((w.lookup i).getD (d + 1, q + 1)).fst,
      wantShape := ((w.lookup i).getD (d + 1, q + 1)).snd, closedBefore := false } := by
  simp only [l5s_obsAt, hev, l5s_prepOf_exec hi hev, Option.getD_some, l5s_take_no_close hi hev]

theorem l5s_obsAt_some {st : St} (hi : Inv st) {w : List (Nat × Nat × Nat)} {i : Nat} {e : ExecObs}
    (he : l5s_obsAt st.log w i = some e) : ∃ ds d q, st.log[i]? = some (Ev.exec ds d q) := by
  unfold l5s_obsAt at he
  split at he
  · rename_i ds d q hev; exact ⟨ds, d, q, hev⟩
  · rename_i ds hev; exact absurd (List.mem_of_getElem? hev) (hi.log.noEC ds)
  · cases he

theorem l5s_execsOf_c10 {st : St} (hi : Inv st) (w : List (Nat × Nat × Nat)) :
    holdsC10 (l5s_execsOf st.log w) (l5s_closedErrs st.log) = true := by
  refine holdsC10_iff.2 ⟨fun e he => ?_, l5s_closedErrs_zero hi⟩
  obtain ⟨i, _, ho⟩ := List.mem_filterMap.1 he
  obtain ⟨ds, d, q, hev⟩ := l5s_obsAt_some hi ho
  rw [l5s_obsAt_exec hi w hev] at ho
  cases ho
  rfl

theorem l5s_closes_eq_count (log : List Ev) (ds : Nat) : l5s_closes log ds = log.count (Ev.close ds) := by
  unfold l5s_closes
  rw [List.count_eq_length_filter]

theorem l5s_prepared_of_mem {log : List Ev} {ds d q : Nat} (h : Ev.prepare ds d q ∈ log) : l5s_prepared log ds = true :=
  List.any_eq_true.2 ⟨_, h, beq_self_eq_true ds⟩

theorem l5s_prepared_iff {st : St} (hi : Inv st) (ds : Nat) :
    l5s_prepared st.log ds = true ↔ ∃ x, dsGet st.ds ds = some x := by
  unfold l5s_prepared
  rw [List.any_eq_true]
  constructor
  · rintro ⟨e, he, hp⟩
    cases e with
    | prepare i d q =>
      simp only [l5s_isPrepareOf, beq_iff_eq] at hp
      subst hp
      obtain ⟨x, hx, _⟩ := hi.log.made i d q he
      exact ⟨x, hx⟩
    | _ => cases hp
  · rintro ⟨x, hx⟩
    exact List.any_eq_true.1 (l5s_prepared_of_mem (hi.log.prep ds x hx))

theorem l5s_doubleClose_zero {st : St} (hi : Inv st) : l5s_doubleClose st = 0 := by
  unfold l5s_doubleClose
  rw [List.length_eq_zero_iff, List.filter_eq_nil_iff]
  intro x _
  rw [l5s_closes_eq_count]
  have := hi.log.close1 x.id
  simp only [decide_eq_true_eq]
  omega

theorem l5s_execsOf_complete (log : List Ev) (w : List (Nat × Nat × Nat)) {i ds : Nat}
    (h : (∃ db sql, log[i]? = some (Ev.exec ds db sql)) ∨ log[i]? = some (Ev.execClosed ds)) :
    ∃ e ∈ l5s_execsOf log w, l5s_obsAt log w i = some e ∧ e.ds = ds := by
  have hlt : i < log.length := by
    rcases h with ⟨db, sql, h⟩ | h <;> exact (List.getElem?_eq_some_iff.1 h).1
  have hsome : ∃ e, l5s_obsAt log w i = some e ∧ e.ds = ds := by
    unfold l5s_obsAt
    rcases h with ⟨db, sql, h⟩ | h <;> rw [h] <;> exact ⟨_, rfl, rfl⟩
  obtain ⟨e, he, hds⟩ := hsome
  exact ⟨e, List.mem_filterMap.2 ⟨i, List.mem_range.2 hlt, he⟩, he, hds⟩

structure L5sAttr (log : List Ev) (w : List (Nat × Nat × Nat)) : Prop where
  wlt : ∀ e ∈ w, e.1 < log.length
  wexec : ∀ i ds db sql, log[i]? = some (Ev.exec ds db sql) → w.lookup i = some (db, sql)

theorem L5sAttr.nil : L5sAttr [] [] :=
  ⟨fun _ he => (nomatch he), fun i _ _ _ h => by rw [List.getElem?_nil] at h; cases h⟩

theorem l5s_execsOf_c09 {st : St} (hi : Inv st) {w : List (Nat × Nat × Nat)} (hw : L5sAttr st.log w) :
    holdsC09 (l5s_execsOf st.log w) = true := by
  refine holdsC09_iff.2 fun e he => ?_
  obtain ⟨i, _, ho⟩ := List.mem_filterMap.1 he
  obtain ⟨ds, d, q, hev⟩ := l5s_obsAt_some hi ho
  rw [l5s_obsAt_exec hi w hev, hw.wexec i ds d q hev] at ho
  cases ho
  exact ⟨rfl, rfl⟩

theorem l5s_lookup_const (p : Nat × Nat) (i : Nat) : ∀ (l : List Nat), i ∈ l →
    (l.map fun j => (j, p)).lookup i = some p
  | a :: l, h => by
    rw [List.map_cons, List.lookup_cons]
    by_cases e : i = a
    · rw [e, beq_self_eq_true]
    · rw [beq_false_of_ne e]
      exact l5s_lookup_const p i l ((List.mem_cons.1 h).resolve_left e)

theorem L5sAttr.append {log evs : List Ev} {w : List (Nat × Nat × Nat)} {p : Nat × Nat} (hw : L5sAttr log w)
    (hev : ∀ ds db sql, Ev.exec ds db sql ∈ evs → (db, sql) = p) :
    L5sAttr (log ++ evs) (w ++ (List.range' log.length evs.length).map fun i => (i, p)) := by
  constructor
  · intro e he
    rw [List.length_append]
    rcases List.mem_append.1 he with he | he
    · have := hw.wlt e he; omega
    · obtain ⟨i, hi, rfl⟩ := List.mem_map.1 he
      exact (List.mem_range'_1.1 hi).2
  · intro i ds db sql h
    rw [List.lookup_append]
    by_cases hi : i < log.length
    · rw [List.getElem?_append_left hi] at h
      rw [hw.wexec i ds db sql h]; rfl
    · have hn : w.lookup i = none := by
        rw [List.lookup_eq_none_iff]
        intro e he
        have := hw.wlt e he
        exact bne_iff_ne.2 (by omega)
      have hlt : i < (log ++ evs).length := (List.getElem?_eq_some_iff.1 h).1
      rw [List.length_append] at hlt
      rw [List.getElem?_append_right (by omega)] at h
      rw [hn, Option.none_or, ← hev ds db sql (List.mem_of_getElem? h)]
      exact l5s_lookup_const _ _ _ (List.mem_range'_1.2 ⟨by omega, hlt⟩)

theorem L5sAttr.append_quiet {log evs : List Ev} {w : List (Nat × Nat × Nat)} (hw : L5sAttr log w)
    (hev : ∀ ds db sql, Ev.exec ds db sql ∉ evs) : L5sAttr (log ++ evs) w := by
  constructor
  · intro e he
    have := hw.wlt e he
    rw [List.length_append]; omega
  · intro i ds db sql h
    by_cases hi : i < log.length
    · rw [List.getElem?_append_left hi] at h
      exact hw.wexec i ds db sql h
    · rw [List.getElem?_append_right (by omega)] at h
      exact absurd (List.mem_of_getElem? h) (hev ds db sql)

/-- the invariant that links the instrumentation (`qs`: built Queries, `w`: wanted pair per
    event index) to the model state; `T` bounds the operation ids of `run` operations -/
structure L5sW (st : St) (qs w : List (Nat × Nat × Nat)) (T : Nat) : Prop where
  attr : L5sAttr st.log w
  link : ∀ q o, alook st.ops (1000 + q) = some o → o.pc = .start → qs.lookup q = some (o.d, o.sql)
  far : ∀ k o, alook st.ops k = some o → o.pc = .start → T ≤ k

theorem l5s_w_init (T : Nat) : L5sW ({} : St) [] [] T :=
  ⟨L5sAttr.nil, fun _ _ h => (nomatch h), fun _ _ h => (nomatch h)⟩

theorem l5s_wants_none {st st' : St} {qs : List (Nat × Nat × Nat)} {op : HOp} (h : l5s_want qs op = none) :
    l5s_wants st st' qs op = [] := by
  rw [l5s_wants, h]

theorem l5s_wants_same {st st' : St} (hl : st'.log = st.log) (qs : List (Nat × Nat × Nat)) (op : HOp) :
    l5s_wants st st' qs op = [] := by
  unfold l5s_wants
  split
  · rw [hl, Nat.sub_self]; rfl
  · rfl

theorem l5s_w_frame {st st' : St} {qs w : List (Nat × Nat × Nat)} {T : Nat} (hw : L5sW st qs w T)
    (op : HOp) (hl : st'.log = st.log := by rfl) (ho : st'.ops = st.ops := by rfl) :
    L5sW st' qs (w ++ l5s_wants st st' qs op) T := by
  rw [l5s_wants_same hl, List.append_nil]
  exact ⟨by rw [hl]; exact hw.attr, by rw [ho]; exact hw.link, by rw [ho]; exact hw.far⟩

theorem L5sRan.started {st st' : St} {k k' : Nat} {o o' : Op} (hr : L5sRan st st' k o)
    (ho' : alook st'.ops k' = some o') (hpc : o'.pc = .start) : alook st.ops k' = some o' := by
  rw [hr.ops.look] at ho'
  split at ho'
  · cases ho'; cases hpc
  · exact ho'

theorem l5s_w_ran {st st' : St} {qs w : List (Nat × Nat × Nat)} {T k : Nat} {o : Op} {op : HOp}
    (hw : L5sW st qs w T) (hr : L5sRan st st' k o) (hwant : l5s_want qs op = some (o.d, o.sql)) :
    L5sW st' qs (w ++ l5s_wants st st' qs op) T := by
  have hlog : ∃ evs, st'.log = st.log ++ evs ∧ ∀ ds db sql, Ev.exec ds db sql ∈ evs → (db, sql) = (o.d, o.sql) := by
    rcases hr.events with ⟨_, _, _, _, id, _, hl⟩ | ⟨_, _, hl⟩
    · refine ⟨_, hl, ?_⟩
      intro ds db sql hm
      cases List.mem_singleton.1 hm; rfl
    · refine ⟨_, hl, ?_⟩
      intro ds db sql hm
      rcases List.mem_cons.1 hm with e | hm
      · cases e
      · cases List.mem_singleton.1 hm; rfl
  obtain ⟨evs, hl, hev⟩ := hlog
  exact ⟨by rw [l5s_wants, hwant, hl, List.length_append, Nat.add_sub_cancel_left]; exact hw.attr.append hev,
    fun q o' ho' hpc => hw.link q o' (hr.started ho' hpc) hpc,
    fun k' o' ho' hpc => hw.far k' o' (hr.started ho' hpc) hpc⟩

theorem l5s_w_built {st : St} {qs w : List (Nat × Nat × Nat)} {T q : Nat} (hw : L5sW st qs w T)
    (hT : T ≤ 1000 + q) (s d shape : Nat) :
    L5sW { st with ops := ainsert st.ops (1000 + q) { s := s, d := d, sql := shape } } ((q, d, shape) :: qs) w T := by
  refine ⟨hw.attr, ?_, ?_⟩
  · intro q' o ho hpc
    rw [alook_ainsert] at ho
    rw [List.lookup_cons]
    by_cases e : q' = q
    · rw [e, if_pos rfl] at ho
      cases ho
      rw [e, beq_self_eq_true]
    · rw [if_neg fun h => e (Nat.add_left_cancel h)] at ho
      rw [beq_false_of_ne e]
      exact hw.link q' o ho hpc
  · intro k o ho hpc
    rw [alook_ainsert] at ho
    split at ho
    · rename_i h; rw [h]; exact hT
    · exact hw.far k o ho hpc

theorem l5s_w_op {st : St} {qs w : List (Nat × Nat × Nat)} {T : Nat} (hs : L5sSeq st) (hw : L5sW st qs w T)
    (t : Nat) (op : HOp) (ht : (l5s_op st t op).2 ≤ T)
    (hq : ∀ q s d k, op = .mkq q s d k → T ≤ 1000 + q) :
    L5sW (l5s_op st t op).1 (l5s_qs st qs op) (w ++ l5s_wants st (l5s_op st t op).1 qs op) T := by
  cases op with
  | newS | newD => exact l5s_w_frame hw _
  | dropS s => rw [l5s_op_dropS]; exact l5s_w_frame hw _
  | dropD d => rw [l5s_op_dropD]; exact l5s_w_frame hw _
  | gc =>
    obtain ⟨_, _, hk⟩ := l5s_gc_spec hs.reach
    have h3 := hk.ops
    obtain ⟨evs, hl, hev⟩ := hk.log
    show L5sW (l5s_gc st) qs _ T
    rw [l5s_wants_none rfl, List.append_nil]
    refine ⟨?_, by rw [h3]; exact hw.link, by rw [h3]; exact hw.far⟩
    rw [hl]
    exact hw.attr.append_quiet fun ds db sql hm => by obtain ⟨_, e⟩ := hev _ hm; cases e
  | mkq q s d shape =>
    rw [l5s_wants_none rfl, List.append_nil, l5s_op_mkq, l5s_qs]
    rcases l5s_query_cases st (1000 + q) s d shape with hstep | hstep
    · rw [hstep]; exact hw
    · rw [hstep, Option.getD_some, Option.isSome_some, if_pos rfl]
      exact l5s_w_built hw (hq q s d shape rfl) s d shape
  | runq q =>
    show L5sW _ qs _ T
    rw [l5s_op_runq_eq]
    rcases l5s_tail_cases hs (1000 + q) with ⟨_, h⟩ | ⟨o, ho, hpc, h⟩
    · rw [h]; exact l5s_w_frame hw _
    · exact l5s_w_ran hw h (hw.link q o ho hpc)
  | run s d shape =>
    have hT : t + 1 ≤ T := ht
    show L5sW _ qs _ T
    rcases l5s_run_cases hs t s d shape with ⟨_, _, h⟩ | ⟨_, o, ho, hpc, _⟩ | ⟨_, h⟩
    · rw [h]; exact l5s_w_frame hw _
    · have := hw.far t o ho hpc
      omega
    · exact l5s_w_ran (o := { s := s, d := d, sql := shape }) hw h rfl

theorem l5s_op_snd (st : St) (t : Nat) (op : HOp) (rest : List HOp) :
    (l5s_op st t op).2 + l5s_runs rest = t + l5s_runs (op :: rest) := by
  cases op with
  | run s d shape => exact Nat.add_right_comm t 1 _
  | _ => rfl

theorem l5s_w_final : ∀ (h : List HOp) {st : St} {qs w : List (Nat × Nat × Nat)} {T : Nat} (t : Nat),
    L5sSeq st → L5sW st qs w T → t + l5s_runs h ≤ T →
    (∀ q s d k, HOp.mkq q s d k ∈ h → T ≤ 1000 + q) →
    ∃ qs', L5sW (runHistoryW h st t qs w).1 qs' (runHistoryW h st t qs w).2 T := by
  intro h
  induction h with
  | nil => intro st qs w T t _ hw _ _; exact ⟨qs, hw⟩
  | cons op rest ih =>
    intro st qs w T t hs hw ht hq
    rw [← l5s_op_snd st] at ht
    exact ih _ (l5s_seq_op hs t op)
      (l5s_w_op hs hw t op (Nat.le_trans (Nat.le_add_right ..) ht) fun q s d k e => hq q s d k (e ▸ List.mem_cons_self ..))
      ht fun q s d k hm => hq q s d k (List.mem_cons_of_mem _ hm)

theorem l5s_fresh_mem {h : List HOp} (hf : l5s_fresh h = true) {q s d k : Nat} (hm : HOp.mkq q s d k ∈ h) :
    l5s_runs h + 1 ≤ 1000 + q :=
  of_decide_eq_true (List.all_eq_true.1 hf _ hm)

theorem l5s_fresh_of_lt {h : List HOp} (hlt : l5s_runs h < 1000) : l5s_fresh h = true := by
  unfold l5s_fresh
  rw [List.all_eq_true]
  intro o _
  cases o with
  | mkq q _ _ _ => exact decide_eq_true (Nat.lt_of_lt_of_le hlt (Nat.le_add_right 1000 q))
  | _ => rfl

end Sqlair.Cache
