/-
  The reuse clause of C09.  An entry of `prepCounts` (driver-level prepares
  made by a `run` / `runq` operation) is 0 exactly when the cache holds, for the slot of the
  Query that is run, a driver statement with the Query's SQL shape - and 1 otherwise; it is
  0 as well when there is nothing to run (ill-formed operation).
-/
import SqlairProofs.L5Sound.Hist

namespace Sqlair.Cache

theorem l5s_prepCounts_cons (op : HOp) (rest : List HOp) (st : St) (t : Nat) :
    prepCounts (op :: rest) st t =
      (match op with
        | .run .. | .runq _ =>
          [((l5s_op st t op).1.log.filter isPrepareEv).length - (st.log.filter isPrepareEv).length]
        | _ => []) ++ prepCounts rest (l5s_op st t op).1 (l5s_op st t op).2 := by
  cases op <;> simp only [prepCounts, l5s_op, l5s_gc] <;> rfl

theorem l5s_reuseSpec_cons (op : HOp) (rest : List HOp) (st : St) (t : Nat) :
    l5s_reuseSpec (op :: rest) st t =
      (match op with
        | .run s d shape => [l5s_missCount ((step st (.query t s d shape)).getD st) t]
        | .runq q => [l5s_missCount st (1000 + q)]
        | _ => []) ++ l5s_reuseSpec rest (l5s_op st t op).1 (l5s_op st t op).2 := by
  cases op <;> simp only [l5s_reuseSpec] <;> rfl

theorem l5s_ran_count {st st' : St} {k : Nat} {o : Op} (hr : L5sRan st st' k o) :
    (st'.log.filter isPrepareEv).length - (st.log.filter isPrepareEv).length =
      if l5s_hit st o.s o.d o.sql then 0 else 1 := by
  rcases hr.events with ⟨hh, _, _, _, id, _, hl⟩ | ⟨hh, _, hl⟩
  · rw [hl, hh]; simp [isPrepareEv]
  · rw [hl, hh]
    have : (List.filter isPrepareEv
        [Ev.prepare (st.ds.length + 1) o.d o.sql, Ev.exec (st.ds.length + 1) o.d o.sql]).length = 1 := rfl
    simp [this]

theorem l5s_missCount_start {st : St} {k : Nat} {o : Op} (ho : alook st.ops k = some o) (hpc : o.pc = .start) :
    l5s_missCount st k = if l5s_hit st o.s o.d o.sql then 0 else 1 := by
  unfold l5s_missCount
  rw [getOp_eq, ho]
  simp [hpc]

theorem l5s_missCount_idle {st : St} {k : Nat}
    (h : alook st.ops k = none ∨ ∃ o, alook st.ops k = some o ∧ o.pc = .done) : l5s_missCount st k = 0 := by
  unfold l5s_missCount
  rw [getOp_eq]
  rcases h with h | ⟨o, h, hpc⟩
  · rw [h]
  · rw [h]; simp [hpc]

theorem l5s_count_run {st : St} (hs : L5sSeq st) (t s d shape : Nat) :
    ((l5s_op st t (.run s d shape)).1.log.filter isPrepareEv).length - (st.log.filter isPrepareEv).length =
      l5s_missCount ((step st (.query t s d shape)).getD st) t := by
  rcases l5s_run_cases hs t s d shape with ⟨hq, hidle, h⟩ | ⟨hq, o, ho, hpc, h⟩ | ⟨hq, h⟩
  · rw [h, hq, Option.getD_none, l5s_missCount_idle hidle, Nat.sub_self]
  · rw [hq, Option.getD_none, l5s_missCount_start ho hpc]
    exact l5s_ran_count h
  · rw [hq, Option.getD_some, l5s_ran_count h,
      l5s_missCount_start (o := { s := s, d := d, sql := shape }) (by rw [alook_ainsert, if_pos rfl]) rfl]
    rfl

theorem l5s_count_run_wf {st : St} (hs : L5sSeq st) {t s d : Nat} (shape : Nat) (h1 : s ∈ st.liveS)
    (h2 : d ∈ st.liveD) (h3 : st.getOp t = none) :
    ((l5s_op st t (.run s d shape)).1.log.filter isPrepareEv).length - (st.log.filter isPrepareEv).length =
      if l5s_hit st s d shape then 0 else 1 := by
  rw [l5s_count_run hs, step_query.2 ⟨h1, h2, h3, rfl⟩, Option.getD_some,
    l5s_missCount_start (o := { s := s, d := d, sql := shape }) (by rw [alook_ainsert, if_pos rfl]) rfl]
  rfl

theorem l5s_count_runq {st : St} (hs : L5sSeq st) (t q : Nat) :
    ((l5s_op st t (.runq q)).1.log.filter isPrepareEv).length - (st.log.filter isPrepareEv).length =
      l5s_missCount st (1000 + q) := by
  rw [l5s_op_runq_eq]
  rcases l5s_tail_cases hs (1000 + q) with ⟨hidle, h⟩ | ⟨o, ho, hpc, h⟩
  · rw [h, l5s_missCount_idle hidle, Nat.sub_self]
  · rw [l5s_missCount_start ho hpc]
    exact l5s_ran_count h

theorem l5s_prepCounts_spec (h : List HOp) : ∀ {st : St} (_ : L5sSeq st) (t : Nat),
    prepCounts h st t = l5s_reuseSpec h st t := by
  induction h with
  | nil => intro st _ t; rfl
  | cons op rest ih =>
    intro st hs t
    rw [l5s_prepCounts_cons, l5s_reuseSpec_cons, ih (l5s_seq_op hs t op)]
    congr 1
    cases op with
    | run s d shape => simp only; rw [l5s_count_run hs]
    | runq q => simp only; rw [l5s_count_runq hs]
    | _ => rfl

theorem l5s_missCount_le (st : St) (k : Nat) : l5s_missCount st k ≤ 1 := by
  unfold l5s_missCount
  split
  · split
    · split <;> omega
    · omega
  · omega

theorem l5s_reuseSpec_le (h : List HOp) : ∀ (st : St) (t : Nat), ∀ n ∈ l5s_reuseSpec h st t, n ≤ 1 := by
  induction h with
  | nil => intro st t n hn; simp [l5s_reuseSpec] at hn
  | cons op rest ih =>
    intro st t n hn
    rw [l5s_reuseSpec_cons] at hn
    rcases List.mem_append.1 hn with hn | hn
    · cases op <;> simp only [List.mem_singleton, List.not_mem_nil] at hn <;> subst hn <;> exact l5s_missCount_le _ _
    · exact ih _ _ n hn

theorem l5s_prepCounts_append (h1 h2 : List HOp) : ∀ (st : St) (t : Nat),
    prepCounts (h1 ++ h2) st t = prepCounts h1 st t ++ prepCounts h2 (l5s_final h1 st t).1 (l5s_final h1 st t).2 := by
  induction h1 with
  | nil => intro st t; rfl
  | cons op rest ih =>
    intro st t
    rw [List.cons_append, l5s_prepCounts_cons, l5s_prepCounts_cons, ih, List.append_assoc]
    rfl

theorem l5s_reuse_refl (l : List Nat) : holdsC09reuse l l = true := by
  unfold holdsC09reuse
  have : ((l.zip l).all fun (m, o) => decide (o ≤ m)) = true := by
    induction l with
    | nil => rfl
    | cons a l ih => simp only [List.zip_cons_cons, List.all_cons, ih, Bool.and_true]; simp
  rw [this, Bool.or_true]

end Sqlair.Cache
