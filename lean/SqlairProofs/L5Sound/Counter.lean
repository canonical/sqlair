/-
  The histories on which a predicate is FALSE of the model's own
  observation (kernel-checked), and for each where the fault lies.
-/
import SqlairProofs.L5Sound.Execs

namespace Sqlair.Cache

/-! ### C09: the operation ids of `run`s meet those of Queries after 999 `run`s

  `runHistory` numbers the `run` operations 1, 2, 3, ... and gives the Query `q` of a `mkq`
  the operation id `1000 + q`.  The 1000th `run` of a history therefore has the id of Query 0:
  if that Query has been built and not yet run, the `query` step of the `run` is not enabled
  (id in use) and its remaining steps run *the Query* - on the Query's DB with the Query's SQL
  - instead of what the `run` asked for.

  This is a defect of `runHistory`'s numbering (model side), not of the predicate and not
  of sqlair; it cannot be reached by the harness, whose histories have at most a few dozen
  operations.  `holdsC09_model` therefore carries the hypothesis `l5s_fresh h`. -/

theorem l5s_run_illformed {st : St} {t s d k : Nat} (hs : s ∉ st.liveS) (ho : alook st.ops t = none) :
    l5s_op st t (.run s d k) = (st, t + 1) := by
  have hq : step st (.query t s d k) = none :=
    Option.eq_none_iff_forall_ne_some.2 fun _ h => hs (step_query.1 h).1
  show (run st (Step.query t s d k :: l5s_tail t), t + 1) = _
  rw [run_cons, hq, Option.getD_none, l5s_tail_idle fun o h => by rw [ho] at h; cases h]

theorem l5s_skip_illformed (s d k : Nat) : ∀ (n : Nat) (st : St) (t : Nat) (qs w : List (Nat × Nat × Nat))
    (rest : List HOp), s ∉ st.liveS → (∀ i, i < n → alook st.ops (t + i) = none) →
    runHistoryW (List.replicate n (.run s d k) ++ rest) st t qs w = runHistoryW rest st (t + n) qs w := by
  intro n
  induction n with
  | zero => intro st t qs w rest _ _; rfl
  | succ n ih =>
    intro st t qs w rest hs ho
    rw [List.replicate_succ, List.cons_append]
    simp only [runHistoryW]
    have h0 : alook st.ops t = none := ho 0 (Nat.succ_pos _)
    rw [l5s_run_illformed (d := d) (k := k) hs h0, l5s_wants_same rfl, List.append_nil]
    have : l5s_qs st qs (.run s d k) = qs := rfl
    rw [this, ih st (t + 1) qs w rest hs (by intro i hi; rw [Nat.add_assoc, Nat.add_comm 1 i]; exact ho (i + 1) (by omega))]
    congr 1
    omega

/-- Query 0 is built on DB 2 with shape 7, 999 ill-formed `run`s advance the counter, the
    1000th `run` asks for DB 1 and shape 3 -/
def l5s_clashHistory : List HOp :=
  [.newS, .newD, .newD, .mkq 0 1 2 7] ++ (List.replicate 999 (.run 9 9 9) ++ [.run 1 1 3])

def l5s_clashState : St :=
  { stmtDB := [(1, [])], dbStmt := [(1, []), (2, [])], nextS := 2, nextD := 3, liveS := [1], liveD := [1, 2],
    ops := [(1000, { s := 1, d := 2, sql := 7 })] }

theorem l5s_clash_prefix (rest : List HOp) :
    runHistoryW ([.newS, .newD, .newD, .mkq 0 1 2 7] ++ rest) {} 1 [] [] =
      runHistoryW rest l5s_clashState 1 [(0, 2, 7)] [] := rfl

theorem l5s_clash_run :
    runHistoryW l5s_clashHistory {} 1 [] [] = runHistoryW [.run 1 1 3] l5s_clashState 1000 [(0, 2, 7)] [] := by
  unfold l5s_clashHistory
  rw [l5s_clash_prefix, l5s_skip_illformed 9 9 9 999 l5s_clashState 1 _ _ _ (by decide)]
  intro i hi
  have : l5s_clashState.ops = [(1000, { s := 1, d := 2, sql := 7 })] := rfl
  rw [this]
  rw [alook_cons, if_neg (by omega)]
  rfl

/-- the 1000th `run` executes a statement prepared on DB 2 with shape 7; it wanted DB 1, shape 3 -/
theorem holdsC09_model_counterexample :
    holdsC09 (modelExecs l5s_clashHistory) = false ∧ l5s_fresh l5s_clashHistory = false ∧
      (modelExecs l5s_clashHistory).map (fun e => (e.ds, e.db, e.shape, e.wantDb, e.wantShape)) = [(1, 2, 7, 1, 3)] := by
  have hruns : l5s_runs l5s_clashHistory = 1000 := by
    rw [l5s_clashHistory, l5s_runs, List.filter_append, List.filter_append, List.filter_replicate, if_pos rfl,
      List.length_append, List.length_append, List.length_replicate]
    rfl
  have hfresh : l5s_fresh l5s_clashHistory = false := by
    rw [Bool.eq_false_iff]
    intro hf
    have := l5s_fresh_mem hf (q := 0) (s := 1) (d := 2) (k := 7) (List.mem_append_left _ (by simp))
    rw [hruns] at this
    omega
  unfold modelExecs
  rw [l5s_clash_run]
  exact ⟨by decide +kernel, hfresh, by decide +kernel⟩

/-! ### C11: a Query that is kept keeps its Statement and its DB alive

  `closeOut h` (drop every handle, collect) does not release everything when a Query was built
  and never run: the Query references its Statement and its DB, so neither finalizer runs.

  Here the model is right (so is Go: the harness would still hold the `*Query`), the
  predicate is right, the history is not one the harness generates - its generator runs
  every pending Query before the final drop-and-collect.  `holdsC11_model` is therefore
  stated for `closeOutQ` (which runs the pending Queries first), and for `closeOut` under the
  hypothesis that nothing is pending. -/

theorem closeOut_pending_counterexample :
    let st := (runHistory (closeOut [.newS, .newD, .run 1 1 2, .mkq 1 1 1 2]) {} 0 [] 1).1
    l5s_prepared st.log 1 = true ∧ l5s_closes st.log 1 = 0 ∧ st.pairs = [(1, 1, 2)] ∧
      l5s_pending st = true ∧
      holdsC11 (l5s_doubleClose st) (l5s_openStmts st) st.pairs.length 1 true st.pairs.length = false := by
  decide +kernel

/-! ### remarks (not failures of a predicate on the model's observation) -/

/-- the general clause of C11 (open statements ≤ cached pairs) is false *before* a collection:
    an evicted statement stays open until its finalizer has run.  The harness evaluates it
    after the final `gc` of a history, where it holds in this example -/
example :
    let st := (runHistory [.newS, .newD, .run 1 1 2, .run 1 1 3] {} 0 [] 1).1
    let st' := (runHistory [.newS, .newD, .run 1 1 2, .run 1 1 3, .gc] {} 0 [] 1).1
    holdsC11 (l5s_doubleClose st) (l5s_openStmts st) st.pairs.length 1 false st.pairs.length = false ∧
    holdsC11 (l5s_doubleClose st') (l5s_openStmts st') st'.pairs.length 1 false st'.pairs.length = true := by
  decide +kernel

/-- a Query id that is built twice with other parameters: the model ignores the second `mkq`
    (operation id in use), so the wanted pair of `runq 1` is that of the first; a harness
    that rebuilt the Query would run shape 3 and disagree with the model on the driver log
    (an `agree = false`, not a failure of C09).  The generator builds each id once -/
example :
    (runHistory [.newS, .newD, .mkq 1 1 1 2, .mkq 1 1 1 3, .runq 1] {} 0 [] 1).1.log = [.prepare 1 1 2, .exec 1 1 2] ∧
    holdsC09 (modelExecs [.newS, .newD, .mkq 1 1 1 2, .mkq 1 1 1 3, .runq 1]) = true := by
  decide +kernel

end Sqlair.Cache
