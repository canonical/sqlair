/-
  C11 of the model - after a history, once every Query that was built has
  been run, every handle dropped and garbage collected (with the fuel `runHistory` gives
  `gc`), every driver statement that was prepared has exactly one `close` event, nothing
  else has one, and the cache is empty (`L5sReleased`); a released state passes `holdsC11`
  (`l5s_released_c11`), and read off the log alone it has no open statement (`l5q_openLog`).
  That the closed-out history ends quiescent needs the Queries it built to be finished:
  `L5sPend st Q` keeps track of which may not be.
-/
import SqlairProofs.L5Sound.Execs

namespace Sqlair.Cache

def L5sReleased (st : St) : Prop :=
  (∀ ds, l5s_closes st.log ds = if l5s_prepared st.log ds then 1 else 0) ∧ st.pairs = [] ∧
    st.stmtDB = [] ∧ st.dbStmt = []

theorem L5sReleased.closes {st : St} (h : L5sReleased st) (ds : Nat) :
    l5s_closes st.log ds = if l5s_prepared st.log ds then 1 else 0 := h.1 ds

theorem L5sReleased.pairs {st : St} (h : L5sReleased st) : st.pairs = [] := h.2.1

theorem L5sReleased.of_closed {st : St} (hi : Inv st) (hs : st.stmtDB = []) (hd : st.dbStmt = [])
    (hall : ∀ x ∈ st.ds, st.log.count (.close x.id) = 1) : L5sReleased st := by
  refine ⟨?_, ?_, hs, hd⟩
  · intro ds
    rw [l5s_closes_eq_count]
    cases hp : l5s_prepared st.log ds with
    | true =>
      obtain ⟨x, hx⟩ := (l5s_prepared_iff hi ds).1 hp
      obtain ⟨hid, hm⟩ := dsGet_some hx
      rw [if_pos rfl, ← hid]
      exact hall x hm
    | false =>
      simp only [Bool.false_eq_true, if_false]
      rw [List.count_eq_zero]
      intro hm
      obtain ⟨x, hx, _⟩ := hi.log.close ds hm
      have := (l5s_prepared_iff hi ds).2 ⟨x, hx⟩
      rw [hp] at this; cases this
  · unfold St.pairs
    rw [hs]
    rfl

theorem l5q_quiescent_released {st : St} (hr : Reachable st) (hq : Quiescent st) {fuel : Nat}
    (hf : gcMeasure st ≤ fuel) : L5sReleased (gc fuel st) := by
  obtain ⟨hr', hs, hd, _, hall⟩ := gc_quiescent hr hq hf
  exact .of_closed hr'.inv hs hd fun x hx => (hall x hx).2.2.2

theorem l5s_holdsC11_zero (conns : Nat) : holdsC11 0 0 0 conns true 0 = true :=
  holdsC11_iff.2 ⟨rfl, Nat.zero_le _, fun _ => ⟨rfl, rfl⟩⟩

theorem l5s_released_c11 {st : St} (hi : Inv st) (h : L5sReleased st) (conns : Nat) :
    l5s_doubleClose st = 0 ∧ l5s_openStmts st = 0 ∧ st.pairs.length = 0 ∧
      holdsC11 (l5s_doubleClose st) (l5s_openStmts st) st.pairs.length conns true st.pairs.length = true := by
  have h1 : l5s_doubleClose st = 0 := l5s_doubleClose_zero hi
  have h2 : l5s_openStmts st = 0 := by
    unfold l5s_openStmts
    rw [List.length_eq_zero_iff, List.filter_eq_nil_iff]
    intro x hx
    have hp : l5s_prepared st.log x.id = true := (l5s_prepared_iff hi x.id).2 ⟨x, hi.dsOK.ids.get_of_mem hx⟩
    rw [h.closes x.id, hp]
    simp
  have h3 : st.pairs.length = 0 := by rw [h.pairs]; rfl
  refine ⟨h1, h2, h3, ?_⟩
  rw [h1, h2, h3]
  exact l5s_holdsC11_zero conns

/-- the conclusion shared by `holdsC11_model` and `holdsC11_model_closeOut` (Props/L5Sound), one connection -/
theorem l5s_released_model {st : St} (hi : Inv st) (h : L5sReleased st) :
    (∀ ds, (st.log.filter (· == Ev.close ds)).length = if l5s_prepared st.log ds then 1 else 0) ∧
      st.pairs = [] ∧ st.stmtDB = [] ∧ st.dbStmt = [] ∧
      holdsC11 (l5s_doubleClose st) (l5s_openStmts st) st.pairs.length 1 true st.pairs.length = true :=
  ⟨h.1, h.2.1, h.2.2.1, h.2.2.2, (l5s_released_c11 hi h 1).2.2.2⟩

theorem l5s_filter_drop (l L : List Nat) (s : Nat) :
    (l.filter (· != s)).filter (fun a => !L.contains a) = l.filter fun a => !(s :: L).contains a := by
  rw [List.filter_filter]
  apply List.filter_congr
  intro a _
  rw [List.contains_cons, Bool.not_or, Bool.and_comm]
  rfl

theorem l5s_filter_drop_nil (l : List Nat) : l.filter (fun a => !([] : List Nat).contains a) = l :=
  List.filter_eq_self.2 fun _ _ => rfl

theorem l5s_final_dropS (L : List Nat) : ∀ (st : St) (t : Nat),
    l5s_final (L.map HOp.dropS) st t = ({ st with liveS := st.liveS.filter (fun s => !L.contains s) }, t) := by
  induction L with
  | nil => intro st t; rw [l5s_filter_drop_nil]; rfl
  | cons s L ih =>
    intro st t
    rw [List.map_cons, l5s_final, l5s_op_dropS, ih, ← l5s_filter_drop]
    rfl

theorem l5s_final_dropD (L : List Nat) : ∀ (st : St) (t : Nat),
    l5s_final (L.map HOp.dropD) st t = ({ st with liveD := st.liveD.filter (fun s => !L.contains s) }, t) := by
  induction L with
  | nil => intro st t; rw [l5s_filter_drop_nil]; rfl
  | cons s L ih =>
    intro st t
    rw [List.map_cons, l5s_final, l5s_op_dropD, ih, ← l5s_filter_drop]
    rfl

theorem l5s_filter_range_nil {l : List Nat} {n m : Nat} (hb : ∀ s ∈ l, 1 ≤ s ∧ s < n) (hn : n ≤ m + 1) :
    l.filter (fun s => !(List.range' 1 m).contains s) = [] := by
  rw [List.filter_eq_nil_iff]
  intro s hm
  have := hb s hm
  have hc : (List.range' 1 m).contains s = true := by
    rw [List.contains_iff_mem, List.mem_range'_1]; omega
  rw [hc]; exact Bool.false_ne_true

theorem l5s_drop_gc_released {st : St} (hs : L5sSeq st) (hdone : ∀ p ∈ st.ops, p.2.pc = .done) (t nS nD : Nat)
    (hS : st.nextS ≤ nS + 1) (hD : st.nextD ≤ nD + 1) :
    L5sReleased (l5s_final ((List.range' 1 nS).map HOp.dropS ++ (List.range' 1 nD).map HOp.dropD ++ [.gc]) st t).1 := by
  have hs3 := l5s_seq_final ((List.range' 1 nS).map HOp.dropS ++ (List.range' 1 nD).map HOp.dropD) hs t
  rw [l5s_final_append, l5s_final_dropS, l5s_final_dropD] at hs3
  rw [l5s_final_append, l5s_final_append, l5s_final_dropS, l5s_final_dropD]
  exact l5q_quiescent_released hs3.reach
    ⟨l5s_filter_range_nil (fun _ => hs.reach.boundS) hS, l5s_filter_range_nil (fun _ => hs.reach.boundD) hD, hs.noIter, hdone⟩
    (Nat.le_succ_of_le (gcMeasure_le _))

theorem l5s_numS_append (h1 h2 : List HOp) : l5s_numS (h1 ++ h2) = l5s_numS h1 + l5s_numS h2 := by
  simp only [l5s_numS, List.filter_append, List.length_append]

theorem l5s_numD_append (h1 h2 : List HOp) : l5s_numD (h1 ++ h2) = l5s_numD h1 + l5s_numD h2 := by
  simp only [l5s_numD, List.filter_append, List.length_append]

theorem l5s_queries_append (h1 h2 : List HOp) : l5s_queries (h1 ++ h2) = l5s_queries h1 ++ l5s_queries h2 :=
  List.filterMap_append ..

/-- every unfinished operation is one of the Queries `Q` (operation `1000 + q`, as `l5s_op` numbers them) -/
def L5sPend (st : St) (Q : List Nat) : Prop := ∀ p ∈ st.ops, p.2.pc = .done ∨ ∃ q ∈ Q, p.1 = 1000 + q

theorem L5sPend.mono {st : St} {Q Q' : List Nat} (h : L5sPend st Q) (hsub : ∀ q ∈ Q, q ∈ Q') : L5sPend st Q' := by
  intro p hp
  rcases h p hp with h | ⟨q, hq, e⟩
  · exact Or.inl h
  · exact Or.inr ⟨q, hsub q hq, e⟩

theorem L5sPend.ran {st st' : St} {Q : List Nat} {k : Nat} {o : Op} (h : L5sPend st Q) (hr : L5sRan st st' k o) :
    L5sPend st' Q := by
  intro p hp
  rcases hr.ops.mem p hp with e | ⟨hm, _⟩
  · rw [e]; exact Or.inl rfl
  · exact h p hm

theorem l5s_hist_op {st : St} {Q : List Nat} (hs : L5sSeq st) (hp : L5sPend st Q) (t : Nat) (op : HOp) :
    L5sPend (l5s_op st t op).1 (Q ++ l5s_queries [op]) ∧
      (l5s_op st t op).1.nextS = st.nextS + l5s_numS [op] ∧ (l5s_op st t op).1.nextD = st.nextD + l5s_numD [op] := by
  have hmono : L5sPend st (Q ++ l5s_queries [op]) := hp.mono fun q hq => List.mem_append_left _ hq
  cases op with
  | newS | newD => exact ⟨hmono, rfl, rfl⟩
  | dropS s => rw [l5s_op_dropS]; exact ⟨hmono, rfl, rfl⟩
  | dropD d => rw [l5s_op_dropD]; exact ⟨hmono, rfl, rfl⟩
  | gc =>
    have hk := (l5s_gc_spec hs.reach).2.2
    refine ⟨fun p hm => hmono p ?_, hk.nextS, hk.nextD⟩
    rw [← hk.ops]
    exact hm
  | run s d shape =>
    rcases l5s_run_cases hs t s d shape with ⟨_, _, h⟩ | ⟨_, o, _, _, h⟩ | ⟨_, h⟩
    · rw [h]; exact ⟨hmono, rfl, rfl⟩
    · exact ⟨hmono.ran h, h.nextS, h.nextD⟩
    · exact ⟨hmono.ran h, h.nextS, h.nextD⟩
  | runq q =>
    rw [l5s_op_runq_eq]
    rcases l5s_tail_cases hs (1000 + q) with ⟨_, h⟩ | ⟨o, _, _, h⟩
    · rw [h]; exact ⟨hmono, rfl, rfl⟩
    · exact ⟨hmono.ran h, h.nextS, h.nextD⟩
  | mkq q s d shape =>
    rw [l5s_op_mkq]
    rcases l5s_query_cases st (1000 + q) s d shape with hq | hq
    · rw [hq]; exact ⟨hmono, rfl, rfl⟩
    · rw [hq]
      refine ⟨fun p hm => ?_, rfl, rfl⟩
      rcases mem_ainsert.1 hm with e | ⟨hm, _⟩
      · rw [e]
        exact Or.inr ⟨q, List.mem_append_right _ (List.mem_singleton.2 rfl), rfl⟩
      · exact hmono p hm

theorem l5s_hist_final (h : List HOp) : ∀ {st : St} {Q : List Nat} (_ : L5sSeq st) (_ : L5sPend st Q) (t : Nat),
    L5sPend (l5s_final h st t).1 (Q ++ l5s_queries h) ∧
      (l5s_final h st t).1.nextS = st.nextS + l5s_numS h ∧ (l5s_final h st t).1.nextD = st.nextD + l5s_numD h := by
  induction h with
  | nil => intro st Q _ hp t; exact ⟨hp.mono fun q hq => List.mem_append_left _ hq, rfl, rfl⟩
  | cons op rest ih =>
    intro st Q hs hp t
    obtain ⟨p1, c, d⟩ := l5s_hist_op hs hp t op
    obtain ⟨p2, a, b⟩ := ih (l5s_seq_op hs t op) p1 (l5s_op st t op).2
    rw [l5s_final, a, b, c, d, Nat.add_assoc, Nat.add_assoc, ← List.singleton_append (l := rest),
      l5s_queries_append, ← List.append_assoc]
    exact ⟨p2, congrArg _ (l5s_numS_append [op] rest).symm, congrArg _ (l5s_numD_append [op] rest).symm⟩

theorem l5s_pend_runq {st : St} {q : Nat} {Q : List Nat} (hs : L5sSeq st) (hp : L5sPend st (q :: Q)) (t : Nat) :
    L5sPend (l5s_op st t (.runq q)).1 Q := by
  rw [l5s_op_runq_eq]
  intro p hm
  rcases l5s_tail_cases hs (1000 + q) with ⟨hnd, h⟩ | ⟨o, _, _, h⟩
  · rw [h] at hm
    rcases hp p hm with h | ⟨q', hq', e⟩
    · exact Or.inl h
    · rcases List.mem_cons.1 hq' with rfl | hq'
      · have hal : alook st.ops p.1 = some p.2 := alook_of_mem_nodup hs.reach.inv.ops.nodup hm
        rw [e] at hal
        rcases hnd with hn | ⟨o, ho, hpc⟩
        · rw [hn] at hal; cases hal
        · rw [ho] at hal; cases hal; exact Or.inl hpc
      · exact Or.inr ⟨q', hq', e⟩
  · rcases h.ops.mem p hm with e | ⟨hm', hne⟩
    · rw [e]; exact Or.inl rfl
    · rcases hp p hm' with h | ⟨q', hq', e⟩
      · exact Or.inl h
      · rcases List.mem_cons.1 hq' with rfl | hq'
        · exact absurd e hne
        · exact Or.inr ⟨q', hq', e⟩

theorem l5s_runqs_done (Q : List Nat) : ∀ {st : St} (_ : L5sSeq st) (_ : L5sPend st Q) (t : Nat),
    (∀ p ∈ (l5s_final (Q.map HOp.runq) st t).1.ops, p.2.pc = .done) ∧
      (l5s_final (Q.map HOp.runq) st t).1.nextS = st.nextS ∧ (l5s_final (Q.map HOp.runq) st t).1.nextD = st.nextD := by
  induction Q with
  | nil =>
    intro st _ hp t
    refine ⟨fun p hm => ?_, rfl, rfl⟩
    rcases hp p hm with h | ⟨q, hq, _⟩
    · exact h
    · cases hq
  | cons q Q ih =>
    intro st hs hp t
    obtain ⟨a, b, c⟩ := ih (l5s_seq_op hs t (.runq q)) (l5s_pend_runq hs hp t) (l5s_op st t (.runq q)).2
    obtain ⟨_, b', c'⟩ := l5s_hist_op hs hp t (.runq q)
    exact ⟨a, b.trans b', c.trans c'⟩

theorem l5s_closeOutQ_released (h : List HOp) : L5sReleased (runHistory (closeOutQ h) {} 0 [] 1).1 := by
  rw [l5s_runHistory_fst, closeOutQ, l5s_dropAll, List.append_assoc, List.append_assoc, l5s_final_append,
    l5s_final_append]
  have hs1 := l5s_seq_final h l5s_seq_init 1
  obtain ⟨hp1, n1, n2⟩ := l5s_hist_final h (Q := []) l5s_seq_init (fun _ hp => nomatch hp) 1
  obtain ⟨hdone, m1, m2⟩ := l5s_runqs_done (l5s_queries h) hs1 hp1 (l5s_final h {} 1).2
  refine l5s_drop_gc_released (l5s_seq_final _ hs1 _) hdone _ _ _ ?_ ?_
  · rw [m1, n1]; exact Nat.le_of_eq (Nat.add_comm ..)
  · rw [m2, n2]; exact Nat.le_of_eq (Nat.add_comm ..)

theorem l5s_pending_false {st : St} (h : l5s_pending st = false) : ∀ p ∈ st.ops, p.2.pc = .done := by
  unfold l5s_pending at h
  rw [List.any_eq_false] at h
  intro p hp
  have := h p hp
  simpa using this

theorem l5s_closeOut_released (h : List HOp) (hnp : l5s_pending (runHistory h {} 0 [] 1).1 = false) :
    L5sReleased (runHistory (closeOut h) {} 0 [] 1).1 := by
  rw [l5s_runHistory_fst] at hnp
  rw [l5s_runHistory_fst, closeOut, l5s_dropAll, List.append_assoc, l5s_final_append]
  obtain ⟨_, n1, n2⟩ := l5s_hist_final h (Q := []) l5s_seq_init (fun _ hp => nomatch hp) 1
  refine l5s_drop_gc_released (l5s_seq_final h l5s_seq_init 1) (l5s_pending_false hnp) _ _ _ ?_ ?_
  · rw [n1]; exact Nat.le_of_eq (Nat.add_comm ..)
  · rw [n2]; exact Nat.le_of_eq (Nat.add_comm ..)

/-- the driver statements that were prepared and have no `close` event, read off the log
    alone (what the harness counts as `openStmts`) -/
def l5q_openLog (log : List Ev) : Nat :=
  (log.filter fun e => match e with
    | .prepare ds _ _ => l5s_closes log ds == 0
    | _ => false).length

theorem l5q_openLog_zero {st : St} (h : L5sReleased st) : l5q_openLog st.log = 0 := by
  unfold l5q_openLog
  rw [List.length_eq_zero_iff, List.filter_eq_nil_iff]
  intro e he
  cases e with
  | prepare ds d q =>
    have := h.closes ds
    rw [l5s_prepared_of_mem he, if_pos rfl] at this
    simp [this]
  | _ => exact Bool.false_ne_true

end Sqlair.Cache
