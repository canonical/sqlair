/-
  L5Sound/Defs: the observation the MODEL itself produces from a sequential cache history,
  in the vocabulary of the checker's predicates (`ExecObs`, `holdsC09`, `holdsC10`,
  `holdsC11`, `holdsC09reuse` of Spec/L5).

  `runHistoryW` is an instrumented copy of `runHistory`: besides the state it returns, for
  every event index of the driver log, the `(wantDb, wantShape)` of the call that emitted
  the event - the `run s d shape` operation itself, or the `mkq q s d shape` that built the
  Query a `runq q` runs.  `modelExecs` forms the `ExecObs` values from the final log and
  this attribution exactly like the Go harness does from the driver's event list: the
  DB/shape of a driver statement are those of the `prepare` event that created it,
  `closedBefore` says that a `close` event of the statement precedes the execution.

  This file only depends on the model and on `Cache/Hit.lean` (the definition `l5s_hit`); no
  proof files.
-/
import SqlairModel.Spec.L5
import SqlairProofs.Cache.Hit

namespace Sqlair.Cache

/-- garbage collection with the fuel `runHistory` / `prepCounts` give it -/
def l5s_gc (st : St) : St := gc (st.ds.length + st.stmtDB.length + st.dbStmt.length + 1) st

/-- the effect of one history operation on the model state and on the counter that numbers
    the `run` operations (their operation ids); literally the branches of `runHistory` -/
def l5s_op (st : St) (t : Nat) : HOp → St × Nat
  | .newS => ((step st .newS).getD st, t)
  | .newD => ((step st .newD).getD st, t)
  | .run s d shape => (run st [.query t s d shape, .lookup t, .prepare t, .insert t, .exec t none], t + 1)
  | .mkq q s d shape => ((step st (.query (1000 + q) s d shape)).getD st, t)
  | .runq q => (run st [.lookup (1000 + q), .prepare (1000 + q), .insert (1000 + q), .exec (1000 + q) none], t)
  | .dropS s => ((step st (.dropS s)).getD st, t)
  | .dropD d => ((step st (.dropD d)).getD st, t)
  | .gc => (l5s_gc st, t)

/-- state and counter after a whole history -/
def l5s_final : List HOp → St → Nat → St × Nat
  | [], st, t => (st, t)
  | op :: rest, st, t => l5s_final rest (l5s_op st t op).1 (l5s_op st t op).2

/-- what the call issued by an operation wants: `(wantDb, wantShape)`; `qs` maps the id of a
    Query that was built to the parameters of the `mkq` that built it -/
def l5s_want (qs : List (Nat × Nat × Nat)) : HOp → Option (Nat × Nat)
  | .run _ d shape => some (d, shape)
  | .runq q => qs.lookup q
  | _ => none

/-- the table of built Queries after an operation: a `mkq` that builds a Query (in the model:
    whose `query` step is enabled - live handles, unused id) records its parameters -/
def l5s_qs (st : St) (qs : List (Nat × Nat × Nat)) : HOp → List (Nat × Nat × Nat)
  | .mkq q s d shape => if (step st (.query (1000 + q) s d shape)).isSome then (q, d, shape) :: qs else qs
  | _ => qs

/-- the wanted pair of an operation, attached to the indices of the events it appended -/
def l5s_wants (st st' : St) (qs : List (Nat × Nat × Nat)) (op : HOp) : List (Nat × Nat × Nat) :=
  match l5s_want qs op with
  | some p => (List.range' st.log.length (st'.log.length - st.log.length)).map fun i => (i, p)
  | none => []

/-- instrumented `runHistory`: the final state and, per event index, the wanted pair -/
def runHistoryW : List HOp → St → Nat → List (Nat × Nat × Nat) → List (Nat × Nat × Nat) →
    St × List (Nat × Nat × Nat)
  | [], st, _, _, w => (st, w)
  | op :: rest, st, t, qs, w =>
    runHistoryW rest (l5s_op st t op).1 (l5s_op st t op).2 (l5s_qs st qs op)
      (w ++ l5s_wants st (l5s_op st t op).1 qs op)

/-- DB and SQL shape of the `prepare` event that created driver statement `ds` -/
def l5s_prepOf (log : List Ev) (ds : Nat) : Option (Nat × Nat) :=
  log.findSome? fun e => match e with
    | .prepare i d q => if i == ds then some (d, q) else none
    | _ => none

/-- the observation of the event at index `i`, if it is an execution.  An execution of a
    statement without `prepare` event counts as DB 0 / shape 0; an execution no call claims
    counts as a mismatch -/
def l5s_obsAt (log : List Ev) (w : List (Nat × Nat × Nat)) (i : Nat) : Option ExecObs :=
  let mk (ds : Nat) (closed : Bool) : ExecObs :=
    let p := (l5s_prepOf log ds).getD (0, 0)
    let wt := (w.lookup i).getD (p.1 + 1, p.2 + 1)
    { ds := ds, db := p.1, shape := p.2, wantDb := wt.1, wantShape := wt.2, closedBefore := closed }
  match log[i]? with
  | some (.exec ds _ _) => some (mk ds ((log.take i).contains (.close ds)))
  | some (.execClosed ds) => some (mk ds true)
  | _ => none

def l5s_execsOf (log : List Ev) (w : List (Nat × Nat × Nat)) : List ExecObs :=
  (List.range log.length).filterMap (l5s_obsAt log w)

/-- what the model observes of its own executions in a history -/
def modelExecs (h : List HOp) : List ExecObs :=
  l5s_execsOf (runHistoryW h {} 1 [] []).1.log (runHistoryW h {} 1 [] []).2

/-- number of executions that hit "statement is closed" (the harness' `closedErrs`) -/
def l5s_closedErrs (log : List Ev) : Nat :=
  (log.filter fun e => match e with | .execClosed _ => true | _ => false).length

/-! ### closing a history out -/

def l5s_numS (h : List HOp) : Nat := (h.filter fun o => match o with | .newS => true | _ => false).length
def l5s_numD (h : List HOp) : Nat := (h.filter fun o => match o with | .newD => true | _ => false).length

/-- ids of the Queries the history builds -/
def l5s_queries (h : List HOp) : List Nat := h.filterMap fun o => match o with | .mkq q _ _ _ => some q | _ => none

/-- drop every Statement and every DB the history created -/
def l5s_dropAll (h : List HOp) : List HOp :=
  (List.range' 1 (l5s_numS h)).map HOp.dropS ++ (List.range' 1 (l5s_numD h)).map HOp.dropD

/-- the history, then every handle dropped, then a collection -/
def closeOut (h : List HOp) : List HOp := h ++ l5s_dropAll h ++ [.gc]

/-- the same, but every Query that was built is run first (what the harness' generator does:
    a Query that is kept keeps its Statement and its DB alive) -/
def closeOutQ (h : List HOp) : List HOp := h ++ (l5s_queries h).map HOp.runq ++ l5s_dropAll h ++ [.gc]

def l5s_isPrepareOf (ds : Nat) : Ev → Bool
  | .prepare i _ _ => i == ds
  | _ => false

/-- number of driver-level closes of `ds` in a log -/
def l5s_closes (log : List Ev) (ds : Nat) : Nat := (log.filter (· == Ev.close ds)).length

/-- was `ds` prepared in this log? -/
def l5s_prepared (log : List Ev) (ds : Nat) : Bool := log.any (l5s_isPrepareOf ds)

/-- the C11 inputs the model yields for its own final state: statements closed twice, open
    statements (prepared, not closed), cached pairs -/
def l5s_doubleClose (st : St) : Nat := (st.ds.filter fun x => 2 ≤ l5s_closes st.log x.id).length
def l5s_openStmts (st : St) : Nat := (st.ds.filter fun x => l5s_closes st.log x.id == 0).length

/-- is some Query built and not run (or, in general, some operation in flight)? -/
def l5s_pending (st : St) : Bool := st.ops.any fun p => p.2.pc != .done

/-! ### the reuse clause: what `prepCounts` should be -/

/-- prepares made by running the operation with id `t`: none if there is nothing to run
    (no such operation, or it has run already), none on a cache hit, one on a miss -/
def l5s_missCount (st : St) (t : Nat) : Nat :=
  match st.getOp t with
  | some o => if o.pc == .start then (if l5s_hit st o.s o.d o.sql then 0 else 1) else 0
  | none => 0

/-- the specification of `prepCounts`: same recursion, but each entry is read off the cache
    *before* the operation instead of counting `prepare` events after it -/
def l5s_reuseSpec : List HOp → St → Nat → List Nat
  | [], _, _ => []
  | op :: rest, st, t =>
    match op with
    | .run s d shape =>
      l5s_missCount ((step st (.query t s d shape)).getD st) t :: l5s_reuseSpec rest (l5s_op st t op).1 (l5s_op st t op).2
    | .runq q => l5s_missCount st (1000 + q) :: l5s_reuseSpec rest (l5s_op st t op).1 (l5s_op st t op).2
    | _ => l5s_reuseSpec rest (l5s_op st t op).1 (l5s_op st t op).2

/-- number of `run` operations -/
def l5s_runs (h : List HOp) : Nat := (h.filter fun o => match o with | .run .. => true | _ => false).length

/-- the operation ids of `run`s (1, 2, ...) never meet those of Queries (`1000 + q`): every
    Query id the history builds lies beyond the number of `run`s.  Holds for every history
    with fewer than 1000 `run`s, and for every history without `mkq` -/
def l5s_fresh (h : List HOp) : Bool :=
  h.all fun o => match o with | .mkq q _ _ _ => l5s_runs h < 1000 + q | _ => true

end Sqlair.Cache
