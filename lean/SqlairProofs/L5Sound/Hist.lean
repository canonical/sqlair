/-
  The states of sequential histories.  `runHistory`, `runHistoryW` and
  `prepCounts` all iterate `l5s_op`; every state on the way is reachable, has no open
  iterator, and each of its Queries is either built and not yet run or finished (`L5sSeq`).

  Names: `l5s_` belongs to the sequential correspondence (Props/L5Sound), and to what it takes
  from the cache layer about running one operation (`l5s_hit`, Cache/Hit.lean; `L5sRan`,
  `l5s_tail`, Cache/Seq.lean); `l5i_` to the interleaved one (Props/L5Interleave), `l5q_` to
  quiescence (Props/L5Quiescent).
-/
import SqlairProofs.L5Sound.Defs
import SqlairProofs.Cache.Seq
import SqlairProofs.Cache.Gc

namespace Sqlair.Cache

theorem l5s_runHistory_fst (h : List HOp) : ∀ (st : St) (mark : Nat) (segs : List Segment) (t : Nat),
    (runHistory h st mark segs t).1 = (l5s_final h st t).1 := by
  induction h with
  | nil => intro st mark segs t; rfl
  | cons op rest ih =>
    intro st mark segs t
    cases op <;> simp only [runHistory, l5s_final, l5s_op, l5s_gc] <;> exact ih ..

theorem l5s_runHistoryW_fst (h : List HOp) : ∀ (st : St) (t : Nat) (qs w : List (Nat × Nat × Nat)),
    (runHistoryW h st t qs w).1 = (l5s_final h st t).1 := by
  induction h with
  | nil => intro st t qs w; rfl
  | cons op rest ih =>
    intro st t qs w
    simp only [runHistoryW, l5s_final]
    exact ih ..

theorem runHistoryW_state (h : List HOp) :
    (runHistoryW h {} 1 [] []).1 = (runHistory h {} 0 [] 1).1 := by
  rw [l5s_runHistoryW_fst, l5s_runHistory_fst]

theorem l5s_final_append (h1 h2 : List HOp) : ∀ (st : St) (t : Nat),
    l5s_final (h1 ++ h2) st t = l5s_final h2 (l5s_final h1 st t).1 (l5s_final h1 st t).2 := by
  induction h1 with
  | nil => intro st t; rfl
  | cons op rest ih => intro st t; simp only [List.cons_append, l5s_final]; exact ih ..

def L5sIdle (st : St) : Prop := ∀ p ∈ st.ops, p.2.pc = .start ∨ p.2.pc = .done

structure L5sSeq (st : St) : Prop where
  reach : Reachable st
  idle : L5sIdle st
  noIter : st.iters = []

theorem l5s_seq_init : L5sSeq ({} : St) := ⟨Reachable.init, nofun, rfl⟩

theorem l5s_gc_spec {st : St} (hr : Reachable st) :
    Reachable (l5s_gc st) ∧ enabledFinalizers (l5s_gc st) = [] ∧ FinKeep st (l5s_gc st) := by
  obtain ⟨h2, hk⟩ := gc_spec _ st hr.inv (Nat.le_succ_of_le (gcMeasure_le st))
  exact ⟨hr.gc _, h2, hk⟩

theorem L5sRan.seq {st st' : St} {t : Nat} {o : Op} (hs : L5sSeq st) (hr : L5sRan st st' t o)
    (hreach : Reachable st') : L5sSeq st' := by
  refine ⟨hreach, ?_, hr.iters.trans hs.noIter⟩
  intro p hp
  rcases hr.ops.mem p hp with e | ⟨hm, _⟩
  · rw [e]; exact Or.inr rfl
  · exact hs.idle p hm

theorem l5s_op_dropS (st : St) (t s : Nat) :
    (l5s_op st t (.dropS s)).1 = { st with liveS := st.liveS.filter (· != s) } := by
  simp only [l5s_op, step]
  split
  · rfl
  · rename_i h; rw [List.filter_bne_eq_self_of_not_mem (mt List.contains_iff_mem.2 h)]; rfl

theorem l5s_op_dropD (st : St) (t d : Nat) :
    (l5s_op st t (.dropD d)).1 = { st with liveD := st.liveD.filter (· != d) } := by
  simp only [l5s_op, step]
  split
  · rfl
  · rename_i h; rw [List.filter_bne_eq_self_of_not_mem (mt List.contains_iff_mem.2 h)]; rfl

theorem l5s_op_mkq (st : St) (t q s d shape : Nat) :
    (l5s_op st t (.mkq q s d shape)).1 = (step st (.query (1000 + q) s d shape)).getD st := rfl

theorem l5s_op_run_eq (st : St) (t s d shape : Nat) :
    (l5s_op st t (.run s d shape)).1 = run ((step st (.query t s d shape)).getD st) (l5s_tail t) := by
  simp only [l5s_op, l5s_tail, run_cons]

theorem l5s_op_runq_eq (st : St) (t q : Nat) : (l5s_op st t (.runq q)).1 = run st (l5s_tail (1000 + q)) := by
  simp only [l5s_op, l5s_tail]

theorem l5s_query_cases (st : St) (t s d shape : Nat) :
    step st (.query t s d shape) = none ∨
    step st (.query t s d shape) = some { st with ops := ainsert st.ops t { s := s, d := d, sql := shape } } := by
  cases hq : step st (.query t s d shape) with
  | none => exact Or.inl rfl
  | some st0 =>
    obtain ⟨_, _, _, rfl⟩ := step_query.1 hq
    exact Or.inr rfl

theorem l5s_tail_cases {st : St} (hs : L5sSeq st) (k : Nat) :
    ((alook st.ops k = none ∨ ∃ o, alook st.ops k = some o ∧ o.pc = .done) ∧ run st (l5s_tail k) = st) ∨
    (∃ o, alook st.ops k = some o ∧ o.pc = .start ∧ L5sRan st (run st (l5s_tail k)) k o) := by
  cases ho : alook st.ops k with
  | none => exact Or.inl ⟨Or.inl rfl, l5s_tail_idle fun o h => by rw [ho] at h; cases h⟩
  | some o =>
    rcases hs.idle (k, o) (alook_some_mem ho) with hpc | hpc
    · exact Or.inr ⟨o, rfl, hpc, l5s_tail_start hs.reach.inv ho hpc⟩
    · exact Or.inl ⟨Or.inr ⟨o, rfl, hpc⟩, l5s_tail_idle fun o' h => by rw [ho] at h; cases h; exact hpc⟩

/-- the middle case is the id clash of Counter.lean: the `query` step is disabled because an operation `t` exists,
    and that one has not started (in a history: a Query with `1000 + q = t`, built and not run), so the four
    steps run IT -/
theorem l5s_run_cases {st : St} (hs : L5sSeq st) (t s d shape : Nat) :
    (step st (.query t s d shape) = none ∧
      (alook st.ops t = none ∨ ∃ o, alook st.ops t = some o ∧ o.pc = .done) ∧
      (l5s_op st t (.run s d shape)).1 = st) ∨
    (step st (.query t s d shape) = none ∧
      ∃ o, alook st.ops t = some o ∧ o.pc = .start ∧ L5sRan st (l5s_op st t (.run s d shape)).1 t o) ∨
    (step st (.query t s d shape) = some { st with ops := ainsert st.ops t { s := s, d := d, sql := shape } } ∧
      L5sRan st (l5s_op st t (.run s d shape)).1 t { s := s, d := d, sql := shape }) := by
  rw [l5s_op_run_eq]
  rcases l5s_query_cases st t s d shape with hq | hq
  · rw [hq]
    rcases l5s_tail_cases hs t with h | h
    · exact Or.inl ⟨rfl, h⟩
    · exact Or.inr (Or.inl ⟨rfl, h⟩)
  · rw [hq]
    refine Or.inr (Or.inr ⟨rfl, ?_⟩)
    -- the state after the `query` step differs from `st` in `ops` only, so what the four steps do to
    -- it is, field by field, what they do to `st`
    have hr := l5s_tail_start (inv_step hs.reach.inv _ hq) (t := t)
      (o := { s := s, d := d, sql := shape }) (by simp only [alook_ainsert, if_true]) rfl
    exact ⟨(L5sSet.ainsert _ _ _).trans hr.ops, hr.liveS, hr.liveD, hr.nextS, hr.nextD, hr.iters, hr.events⟩

theorem l5s_reach_op {st : St} (hr : Reachable st) (t : Nat) (op : HOp) : Reachable (l5s_op st t op).1 := by
  cases op with
  | newS => exact hr.runs [.newS]
  | newD => exact hr.runs [.newD]
  | run s d shape => rw [l5s_op_run_eq]; exact (hr.runs [_]).runs _
  | mkq q s d shape => exact hr.runs [.query (1000 + q) s d shape]
  | runq q => rw [l5s_op_runq_eq]; exact hr.runs _
  | dropS s => exact hr.runs [.dropS s]
  | dropD d => exact hr.runs [.dropD d]
  | gc => exact (l5s_gc_spec hr).1

theorem l5s_seq_op {st : St} (hs : L5sSeq st) (t : Nat) (op : HOp) : L5sSeq (l5s_op st t op).1 := by
  have hreach := l5s_reach_op hs.reach t op
  cases op with
  | newS | newD => exact ⟨hreach, hs.idle, hs.noIter⟩
  | run s d shape =>
    rcases l5s_run_cases hs t s d shape with ⟨_, _, h⟩ | ⟨_, o, _, _, h⟩ | ⟨_, h⟩
    · rw [h]; exact hs
    · exact h.seq hs hreach
    · exact h.seq hs hreach
  | mkq q s d shape =>
    rw [l5s_op_mkq] at hreach ⊢
    rcases l5s_query_cases st (1000 + q) s d shape with hq | hq
    · rw [hq]; exact hs
    · rw [hq] at hreach ⊢
      refine ⟨hreach, fun p hp => ?_, hs.noIter⟩
      rcases mem_ainsert.1 hp with e | ⟨hm, _⟩
      · rw [e]; exact Or.inl rfl
      · exact hs.idle p hm
  | runq q =>
    rw [l5s_op_runq_eq] at hreach ⊢
    rcases l5s_tail_cases hs (1000 + q) with ⟨_, h⟩ | ⟨o, _, _, h⟩
    · rw [h]; exact hs
    · exact h.seq hs hreach
  | dropS s =>
    rw [l5s_op_dropS] at hreach ⊢
    exact ⟨hreach, hs.idle, hs.noIter⟩
  | dropD d =>
    rw [l5s_op_dropD] at hreach ⊢
    exact ⟨hreach, hs.idle, hs.noIter⟩
  | gc =>
    obtain ⟨h1, _, hk⟩ := l5s_gc_spec hs.reach
    show L5sSeq (l5s_gc st)
    exact ⟨h1, by rw [L5sIdle, hk.ops]; exact hs.idle, hk.iters.trans hs.noIter⟩

theorem l5s_seq_final (h : List HOp) : ∀ {st : St} (_ : L5sSeq st) (t : Nat), L5sSeq (l5s_final h st t).1 := by
  induction h with
  | nil => intro st hs t; exact hs
  | cons op rest ih => intro st hs t; exact ih (l5s_seq_op hs t op) _

theorem l5s_seq_runHistory (h : List HOp) : L5sSeq (runHistory h {} 0 [] 1).1 := by
  rw [l5s_runHistory_fst]
  exact l5s_seq_final h l5s_seq_init 1

theorem l5s_runHistory_reachable (h : List HOp) : Reachable (runHistory h {} 0 [] 1).1 :=
  (l5s_seq_runHistory h).reach

theorem l5s_runHistoryW_reachable (h : List HOp) : Reachable (runHistoryW h {} 1 [] []).1 := by
  rw [runHistoryW_state]; exact l5s_runHistory_reachable h

end Sqlair.Cache
