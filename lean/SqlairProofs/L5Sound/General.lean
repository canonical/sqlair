/-
  The general clause of C11 (what the checker evaluates at the end of a
  history whose handles were not all dropped): right after a `gc`, no driver statement has
  two `close` events and the open driver statements are at most the cached pairs.
-/
import SqlairProofs.L5Sound.Execs
import SqlairProofs.Cache.Count

namespace Sqlair.Cache

theorem l5s_fixpoint_finCount {st : St} (hs : L5sSeq st) (he : enabledFinalizers st = []) : finCount st.ds = 0 := by
  rw [finCount_eq, List.length_eq_zero_iff, List.filter_eq_nil_iff]
  intro x hx hfin
  exact nomatch hfin.symm.trans (finalizer_false_of_fixpoint hs.reach.inv he hs.idle hs.noIter hx)

theorem l5q_openStmts_le {st : St} (hi : Inv st) (hit : st.iters = []) :
    l5s_openStmts st ≤ openCount st := by
  unfold l5s_openStmts openCount
  rw [← List.countP_eq_length_filter, ← List.countP_eq_length_filter]
  apply List.countP_mono_left
  intro x hx hc
  simp only [beq_iff_eq] at hc
  cases hcc : x.closeCalled with
  | false => rfl
  | true =>
    have hm := hi.log.logged x.id x (hi.dsOK.ids.get_of_mem hx) (hi.driverClosed_of_no_iters hit hx hcc)
    rw [l5s_closes_eq_count] at hc
    exact absurd hm (List.count_eq_zero.1 hc)

theorem l5s_pairs_length {st : St} (hi : Inv st) : st.pairs.length = entryCount st := by
  unfold St.pairs entryCount
  have := List.flatMap_eq_foldl (l := st.stmtDB)
    (f := fun (p : Nat × List (Nat × Nat)) => p.2.filterMap fun (e : Nat × Nat) => (st.getDS e.2).map fun x => (p.1, e.1, x.sql))
  rw [← this, List.length_flatMap]
  congr 1
  apply List.map_congr_left
  intro p hp
  apply List.filterMap_length_eq_length.2
  intro e he
  have hl := hi.maps.lookup2_of_mem (s := p.1) (row := p.2) hp (d := e.1) (id := e.2) he
  obtain ⟨y, hy, _⟩ := hi.cache.ok _ _ _ hl
  rw [getDS_eq, hy]
  rfl

theorem l5s_fixpoint_general {st : St} (hs : L5sSeq st) (he : enabledFinalizers st = []) :
    l5s_doubleClose st = 0 ∧ l5s_openStmts st ≤ st.pairs.length := by
  refine ⟨l5s_doubleClose_zero hs.reach.inv, ?_⟩
  have h1 := l5q_openStmts_le hs.reach.inv hs.noIter
  have h2 := open_le_of_no_prepared hs.reach.inv (by
    intro p hp
    unfold Op.isPrepared
    rcases hs.idle p hp with h | h <;> rw [h])
  have h3 := l5s_fixpoint_finCount hs he
  rw [l5s_pairs_length hs.reach.inv]
  omega

end Sqlair.Cache
