/-
  L2Sound/Exact: for a statement whose nodes are only bypass chunks, member inputs and slice
  inputs, the SQL the model renders is matched by `matchInputsOnly` (`l2s_matchInputsOnly`; the
  theorem about `holdsC01exact` is `c01_exact_model` in `Props/L2Sound.lean`).

  Structure: node `i` becomes piece `i` (`.text raw`, `.inputs n 1`, `.inputs n k`); the SQL is
  the concatenation of the renderings; a rendered placeholder `@sqlair_<n>` is read back
  exactly by `placeholderAt` because whatever follows it does not start with a digit (another
  placeholder starts with `@`, a separator with `,`, a bypass chunk with a non-digit — this is
  the `cleanForTokens` guard); the end of a rendered placeholder list is one of the offsets
  `placeholderListEnds` enumerates.
-/
import SqlairProofs.E2E.Nodes
import SqlairProofs.L2Sound.Bytes

namespace Sqlair

variable {tt : TypeTable} {segs : List OSeg}

theorem l2s_size_phPrefix : (bs "@sqlair_").size = 8 := by decide +kernel

theorem l2s_size_sep : (bs ", ").size = 2 := by decide +kernel

theorem l2s_range_map_succ {α : Type} (f : Nat → α) (k : Nat) :
    (List.range (k + 1)).map f = f 0 :: (List.range k).map (fun i => f (i + 1)) := by
  rw [List.range_succ_eq_map, List.map_cons, List.map_map]
  rfl

theorem l2s_render_inputs_one (n : Nat) : (Piece.inputs n 1).render = l2s_ph n := rfl

theorem l2s_render_inputs_succ_succ (n k : Nat) :
    (Piece.inputs n (k + 2)).render = l2s_ph n ++ bs ", " ++ (Piece.inputs (n + 1) (k + 1)).render := by
  have hf : (fun i => bs "@sqlair_" ++ natBytes (n + (i + 1))) = fun i => bs "@sqlair_" ++ natBytes (n + 1 + i) := by
    funext i
    rw [show n + (i + 1) = n + 1 + i by omega]
  simp only [Piece.render]
  rw [l2s_range_map_succ, hf, l2s_range_map_succ, l2s_joinComma_cons_cons]
  rfl

theorem l2s_render_inputs_prefix (n k : Nat) :
    ∃ t, (Piece.inputs n (k + 1)).render = bs "@sqlair_" ++ t := by
  cases k with
  | zero => exact ⟨natBytes n, rfl⟩
  | succ k =>
    rw [l2s_render_inputs_succ_succ]
    exact ⟨natBytes n ++ bs ", " ++ (Piece.inputs (n + 1) (k + 1)).render, by simp [l2s_ph, Array.append_assoc]⟩

theorem l2s_ph_size_pos (n : Nat) : 0 < (l2s_ph n).size := by
  simp only [l2s_ph, Array.size_append, l2s_size_phPrefix]
  omega

theorem l2s_render_inputs_size : ∀ (k n : Nat), k ≤ (Piece.inputs n k).render.size
  | 0, _ => Nat.zero_le _
  | 1, n => l2s_ph_size_pos n
  | k + 2, n => by
    have := l2s_render_inputs_size (k + 1) (n + 1)
    rw [l2s_render_inputs_succ_succ]
    simp only [Array.size_append, l2s_size_sep]
    omega

theorem l2s_noDigitStart_render_inputs (n k : Nat) : L2sNoDigitStart (Piece.inputs n k).render := by
  cases k with
  | zero => exact l2s_noDigitStart_empty
  | succ k =>
    obtain ⟨t, ht⟩ := l2s_render_inputs_prefix n k
    rw [ht]
    exact l2s_noDigitStart_append_of_pos (by unfold L2sNoDigitStart; decide) (by decide)

/-- Stated about the `.tail` (the ends after the start offset) because that is the part of its
    recursive call that `placeholderListEnds` keeps; `c` is what follows the list in the SQL. -/
theorem l2s_listEnds_tail : ∀ (k n : Nat) (a c : Bytes) (fuel : Nat), k + 1 ≤ fuel → L2sNoDigitStart c →
    a.size + (Piece.inputs n (k + 1)).render.size ∈
      (placeholderListEnds (a ++ (Piece.inputs n (k + 1)).render ++ c) fuel a.size).tail := by
  intro k
  induction k with
  | zero =>
    intro n a c fuel hf hc
    obtain ⟨f, rfl⟩ : ∃ f, fuel = f + 1 := ⟨fuel - 1, by omega⟩
    rw [l2s_render_inputs_one]
    simp only [placeholderListEnds]
    rw [l2s_placeholderAt a c n hc]
    simp
  | succ k ih =>
    -- the first placeholder is read back exactly (a comma follows it), the separator `, @sqlair_`
    -- is seen, and the hypothesis of the induction is used with `a ++ l2s_ph n ++ bs ", "` in front
    intro n a c fuel hf hc
    obtain ⟨f, rfl⟩ : ∃ f, fuel = f + 1 := ⟨fuel - 1, by omega⟩
    obtain ⟨t, ht⟩ := l2s_render_inputs_prefix (n + 1) k
    have hc' : L2sNoDigitStart (bs ", " ++ ((Piece.inputs (n + 1) (k + 1)).render ++ c)) :=
      l2s_noDigitStart_append_of_pos (by unfold L2sNoDigitStart; decide) (by decide)
    have hpa := l2s_placeholderAt a _ n hc'
    have hsep : bs ", @sqlair_" = bs ", " ++ bs "@sqlair_" := by decide +kernel
    have hpre : (a ++ l2s_ph n ++ (bs ", " ++ (bs "@sqlair_" ++ (t ++ c)))).hasPrefixAt (a ++ l2s_ph n).size
        (bs ", @sqlair_") = true := by
      rw [show a ++ l2s_ph n ++ (bs ", " ++ (bs "@sqlair_" ++ (t ++ c))) = a ++ l2s_ph n ++ bs ", @sqlair_" ++ (t ++ c) by
        rw [hsep]; simp only [Array.append_assoc]]
      exact l2s_hasPrefixAt_mid _ _ _
    have hih := ih (n + 1) (a ++ l2s_ph n ++ bs ", ") c f (by omega) hc
    rw [l2s_render_inputs_succ_succ]
    rw [ht] at hih hpa ⊢
    simp only [l2s_ph, Array.append_assoc, Array.size_append, l2s_size_sep] at hpa hpre hih ⊢
    simp only [placeholderListEnds, hpa, hpre, if_true, List.cons_append, List.tail_cons]
    exact List.mem_append_left _ (by simpa only [Nat.add_assoc] using hih)

theorem l2s_listEnds (k n : Nat) (a c : Bytes) (hc : L2sNoDigitStart c) :
    a.size + (Piece.inputs n k).render.size ∈
      placeholderListEnds (a ++ (Piece.inputs n k).render ++ c) (a ++ (Piece.inputs n k).render ++ c).size a.size := by
  cases k with
  | zero =>
    -- the empty list ends where it starts, and the start offset is always among the ends
    show a.size + 0 ∈ placeholderListEnds _ (a ++ #[] ++ c).size a.size
    cases (a ++ #[] ++ c).size with
    | zero => simp [placeholderListEnds]
    | succ f =>
      simp only [placeholderListEnds]
      split <;> simp
  | succ k =>
    apply List.mem_of_mem_tail
    apply l2s_listEnds_tail k n a c _ _ hc
    have := l2s_render_inputs_size (k + 1) n
    simp only [Array.size_append]
    omega

/-- `NodePiece` (E2E/Nodes.lean) with the count 1 of a member node kept, which `NodeExpr.piece` drops; the kinds other
    than bypass, member and slice are left open because `l2s_matchInputsOnly` meets none (`inputsOnly`). -/
def L2sSegPiece (s : OSeg) (p : Piece) : Prop :=
  match s.kind with
  | .bypass => p = .text s.raw
  | .member => ∃ n, p = .inputs n 1
  | .slice => ∃ n k, p = .inputs n k
  | _ => True

theorem l2s_segs_pieces {C : Cls} {samples : List (Option Nat)}
    {tes : List TExpr} {args : List GoVal} {pq : Primed}
    (hp : bindTypes C tt segs samples = .ok tes) (hb : bindInputs tt tes args = .ok pq) :
    Corr L2sSegPiece segs pq.pieces := by
  obtain ⟨infos, _, hs⟩ := bindTypes_typed hp
  refine Corr.trans (R := NodeTyped infos) (S := ExprPiece) ?_ hs (bindInputs_pieces hb)
  intro s e p h1 h2
  have hn := NodeExpr.piece h1.nodeExpr h2
  unfold L2sSegPiece
  unfold NodePiece at hn
  cases hk : s.kind <;> simp only [hk] at hn ⊢
  case bypass => exact hn
  case member =>
    obtain ⟨l, rfl, hl⟩ := h1.member_nonSlice hk
    obtain ⟨n, k, rfl, hk1⟩ := h2
    exact ⟨n, by rw [hk1 hl]⟩
  case slice => exact hn

/-- The second conjunct is carried through the induction: it is what lets `placeholderAt` read the placeholder
    before the rest back exactly. -/
theorem l2s_matchInputsOnly {ps : List Piece} (hc : Corr L2sSegPiece segs ps) (a : Bytes) :
    inputsOnly segs = true → (∀ s ∈ segs, s.kind = .bypass → L2sNoDigitStart s.raw) →
    matchInputsOnly segs (a ++ concatBytes (ps.map Piece.render)) a.size = true ∧
      L2sNoDigitStart (concatBytes (ps.map Piece.render)) := by
  induction segs, ps, hc using Corr.induction generalizing a with
  | nil => exact fun _ _ => ⟨by simp [matchInputsOnly, concatBytes_nil], l2s_noDigitStart_empty⟩
  | @cons s p rest ps' hr _ ih =>
    intro hio hclean
    simp only [inputsOnly, List.all_cons, Bool.and_eq_true] at hio
    obtain ⟨hnext, hrestND⟩ := ih (a ++ p.render) hio.2 fun s' hs' => hclean s' (List.mem_cons_of_mem _ hs')
    rw [Array.size_append] at hnext
    rw [List.map_cons, concatBytes_cons, ← Array.append_assoc]
    unfold L2sSegPiece at hr
    unfold matchInputsOnly
    cases hk : s.kind with
    | bypass =>
      simp only [hk] at hr ⊢
      subst hr
      rw [Bool.and_eq_true]
      exact ⟨⟨l2s_hasPrefixAt_mid a s.raw _, hnext⟩,
        l2s_noDigitStart_append (hclean s List.mem_cons_self hk) hrestND⟩
    | member =>
      simp only [hk] at hr ⊢
      obtain ⟨n, rfl⟩ := hr
      rw [l2s_render_inputs_one] at hnext ⊢
      rw [l2s_placeholderAt a _ n hrestND]
      exact ⟨hnext, l2s_noDigitStart_append (l2s_noDigitStart_render_inputs n 1) hrestND⟩
    | slice =>
      simp only [hk] at hr ⊢
      obtain ⟨n, k, rfl⟩ := hr
      rw [List.any_eq_true]
      exact ⟨⟨_, l2s_listEnds k n a _ hrestND, hnext⟩,
        l2s_noDigitStart_append (l2s_noDigitStart_render_inputs n k) hrestND⟩
    | _ => simp [hk] at hio

theorem l2s_clean_bypass (h : cleanForTokens segs = true) :
    ∀ s ∈ segs, s.kind = .bypass → L2sNoDigitStart s.raw := by
  intro s hs hk
  unfold cleanForTokens at h
  simp only [Bool.and_eq_true, List.all_eq_true] at h
  have := (h.2 s hs).1.1.2
  unfold L2sNoDigitStart
  simpa [hk] using this

end Sqlair
