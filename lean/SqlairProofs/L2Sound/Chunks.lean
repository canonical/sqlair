/-
  L2Sound/Chunks: `chunksInOrder` (the bypass chunks occur in the SQL in order) accepts the
  SQL the model renders, provided no two bypass nodes are adjacent (`l2s_noAdjBypass`, a
  hypothesis on the node list: that the parser never produces two is not proved).

  `chunksInOrder` matches greedily: after an expression it takes the LEFTMOST occurrence of
  the next chunk (`Bytes.findFrom`), which may lie inside the rendering of the expression,
  before the place where the chunk really stands.  That is harmless as long as the chunk
  after it is searched for again (`pendingExpr = true`), but a directly following bypass chunk
  is expected exactly behind the greedy match: with two adjacent bypass nodes the predicate
  can reject the model's own SQL (`c01_e2e_needs_noAdj`, `Props/L2Sound.lean`).
-/
import SqlairProofs.E2E.Nodes
import SqlairProofs.L2Sound.Bytes

namespace Sqlair

variable {segs : List OSeg}

def l2s_noAdjBypass : List OSeg → Bool
  | a :: b :: rest => !(a.kind == .bypass && b.kind == .bypass) && l2s_noAdjBypass (b :: rest)
  | _ => true

theorem l2s_all_bypass_render {ps : List Piece} (hc : Corr (fun s p => NodePiece s.kind s.raw p) segs ps) :
    hasExpr segs = false → ps.map Piece.render = segs.map (·.raw) := by
  induction segs, ps, hc using Corr.induction with
  | nil => exact fun _ => rfl
  | @cons s p rest ps' hr _ ih =>
    intro he
    simp only [hasExpr, List.any_cons, Bool.or_eq_false_iff, bne_eq_false_iff_eq] at he
    have hk : s.kind = .bypass := by simpa using he.1
    rw [List.map_cons, List.map_cons, (hk ▸ hr : NodePiece .bypass s.raw p).bypass, ih (by simpa [hasExpr] using he.2)]
    rfl

theorem chunksInOrder_expr {s : OSeg} (hk : s.kind ≠ .bypass) (rest : List OSeg) (sql : Bytes) (off : Nat)
    (pending : Bool) : chunksInOrder (s :: rest) sql off pending = chunksInOrder (s :: rest) sql off true := by
  cases rest <;> (unfold chunksInOrder; rw [if_neg (by simpa using hk), if_neg (by simpa using hk)])

/-- invariant of the greedy matcher along the pieces: `a` is the SQL rendered so far and
    `off ≤ a.size` the matcher's offset, which is exactly the rendering position when no expression is
    pending.  After a bypass chunk found by search the offset may lie before that position; the next node
    is then an expression (`l2s_noAdjBypass`), which sets `pending` (`chunksInOrder_expr`). -/
theorem l2s_chunksInOrder {ps : List Piece} (hc : Corr (fun s p => NodePiece s.kind s.raw p) segs ps)
    (a : Bytes) (off : Nat) (pending : Bool) : l2s_noAdjBypass segs = true → off ≤ a.size →
    (pending = false → off = a.size) →
    chunksInOrder segs (a ++ concatBytes (ps.map Piece.render)) off pending = true := by
  induction segs, ps, hc using Corr.induction generalizing a off pending with
  | nil =>
    intro _ _ hpre
    cases pending with
    | true => simp [chunksInOrder]
    | false => simp [chunksInOrder, concatBytes_nil, hpre rfl]
  | @cons s p rest ps' hr hc' ih =>
    intro hadj hle hpre
    rw [List.map_cons, concatBytes_cons, ← Array.append_assoc]
    have hadj' : l2s_noAdjBypass rest = true := by
      cases rest with
      | nil => rfl
      | cons _ _ => simp only [l2s_noAdjBypass, Bool.and_eq_true] at hadj; exact hadj.2
    have hle' : off ≤ (a ++ p.render).size := by rw [Array.size_append]; omega
    by_cases hk : s.kind = .bypass
    · have hp := (hk ▸ hr : NodePiece .bypass s.raw p).bypass
      subst hp
      show chunksInOrder (s :: rest) (a ++ s.raw ++ concatBytes (ps'.map Piece.render)) off pending = true
      have hkb : (s.kind == .bypass) = true := by simp [hk]
      have hat := l2s_hasPrefixAt_mid a s.raw (concatBytes (ps'.map Piece.render))
      cases rest with
      | nil =>
        have : ps' = [] := by simpa using hc'.1
        subst this
        have hsz : (a ++ s.raw ++ concatBytes ([].map Piece.render)).size = a.size + s.raw.size := by
          simp [concatBytes_nil, Array.size_append]
        cases pending with
        | true =>
          simp only [chunksInOrder, hkb, if_true, Bool.and_eq_true, decide_eq_true_eq]
          rw [hsz, Nat.add_sub_cancel]
          exact ⟨by omega, hat⟩
        | false =>
          cases hpre rfl
          simp only [chunksInOrder, hkb, if_true, Bool.false_eq_true, if_false, Bool.and_eq_true, beq_iff_eq]
          exact ⟨hat, hsz.symm⟩
      | cons s' rest' =>
        have hs'nb : s'.kind ≠ .bypass := by
          simp only [l2s_noAdjBypass, Bool.and_eq_true, hkb, Bool.true_and, Bool.not_eq_true', beq_eq_false_iff_ne] at hadj
          exact hadj.1
        have hnext := fun i (hia : i ≤ a.size) => (chunksInOrder_expr hs'nb rest' _ _ false).trans
          (ih (a ++ s.raw) (i + s.raw.size) true hadj' (by rw [Array.size_append]; omega) nofun)
        cases pending with
        | true =>
          obtain ⟨i, hi, _, hia⟩ := l2s_findFrom_le hle hat
          simp only [chunksInOrder, hkb, if_true, hi]
          exact hnext i hia
        | false =>
          cases hpre rfl
          simp only [chunksInOrder, hkb, if_true, Bool.false_eq_true, if_false, Bool.and_eq_true]
          exact ⟨hat, hnext a.size (Nat.le_refl _)⟩
    · rw [chunksInOrder_expr hk]
      cases rest with
      | nil => simp [chunksInOrder, hk]
      | cons s' rest' =>
        simp only [chunksInOrder, hk, beq_iff_eq, if_false]
        exact ih (a ++ p.render) off true hadj' hle' nofun

theorem l2s_chunksInOrder_model {C : Cls} {tt : TypeTable} {samples : List (Option Nat)}
    {tes : List TExpr} {args : List GoVal} {pq : Primed}
    (hp : bindTypes C tt segs samples = .ok tes) (hb : bindInputs tt tes args = .ok pq)
    (hadj : l2s_noAdjBypass segs = true) : chunksInOrder segs (renderSQL pq.pieces) 0 false = true := by
  have := l2s_chunksInOrder (bind_pieces hp hb) #[] 0 false hadj (Nat.le_refl _) (fun _ => rfl)
  rw [renderSQL_eq_concat]
  simpa using this

end Sqlair
