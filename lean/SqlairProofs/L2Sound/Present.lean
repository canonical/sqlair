/-
  L2Sound/Present: every value the model hands to the driver is the driver text of a node of
  one of the arguments (`l2s_params_in_texts`; the theorem about `holdsC03present` is
  `c03_present_model` in `Props/L2Sound.lean`).

  Route: `bindInputs` validates the arguments into the map `m = args.map argEntry` (every
  entry is an argument, dereferenced once if it is a pointer); `addToQuery` only appends
  parameters whose values are `vals` of a `locateParams` result; `Located` says which nodes
  of the entries of `m` these are.
-/
import SqlairProofs.Bind.Accept
import SqlairModel.Spec.L2
import SqlairProofs.Typed.Locate
import SqlairProofs.Bind.Fold
import SqlairProofs.NoPanic.ValWF

namespace Sqlair

/-- `L2sIn v k a`: `v` is a node of the value tree `a`, `k` levels below the root; the steps are the only ones a
    value locator takes.  The depth `k` is informative only: every statement quantifies it away, and that the tree
    fits a fuel is said by `l2s_fits`, not through `k`. -/
inductive L2sIn (v : GoVal) : Nat → GoVal → Prop
  | root : L2sIn v 0 v
  | field {k : Nat} {h : VH} {fs : List GoVal} {f : GoVal} (hf : f ∈ fs) (hin : L2sIn v k f) :
      L2sIn v (k + 1) (.struct h fs)
  | deref {k : Nat} {h : VH} {p : GoVal} (hin : L2sIn v k p) : L2sIn v (k + 1) (.ptr h (some p))
  | mapVal {k : Nat} {h : VH} {kv : List (Bytes × GoVal)} {e : Bytes × GoVal} (he : e ∈ kv)
      (hin : L2sIn v k e.2) : L2sIn v (k + 1) (.map h (some kv))
  | elem {k : Nat} {h : VH} {els : List GoVal} {e : GoVal} (he : e ∈ els) (hin : L2sIn v k e) :
      L2sIn v (k + 1) (.slice h els)

/-- the tree has height at most the fuel (a single node has height 1, as for `GoVal.texts`) and
    contains no `.invalid` node -/
def GoVal.l2s_fits : Nat → GoVal → Bool
  | 0, _ => false
  | _+1, .invalid => false
  | _+1, .leaf _ => true
  | n+1, .struct _ fs => fs.all (GoVal.l2s_fits n)
  | _+1, .ptr _ none => true
  | n+1, .ptr _ (some p) => GoVal.l2s_fits n p
  | _+1, .map _ none => true
  | n+1, .map _ (some kv) => kv.all (fun e => GoVal.l2s_fits n e.2)
  | n+1, .slice _ els => els.all (GoVal.l2s_fits n)
  | _+1, .iface _ none => true
  | n+1, .iface _ (some p) => GoVal.l2s_fits n p

variable {tt : TypeTable} {m : TypeToValue}

theorem L2sIn.trans {v b a : GoVal} {k j : Nat} (h1 : L2sIn v k b) (h2 : L2sIn b j a) :
    L2sIn v (k + j) a := by
  induction h2 with
  | root => exact h1
  | field hf _ ih => exact .field hf ih
  | deref _ ih => exact .deref ih
  | mapVal he _ ih => exact .mapVal he ih
  | elem he _ ih => exact .elem he ih

theorem l2s_texts_root {d : Nat} {v : GoVal} (h : v.l2s_fits d = true) : v.h.r ∈ GoVal.texts d v := by
  cases d with
  | zero => simp [GoVal.l2s_fits] at h
  | succ n =>
    cases v with
    | invalid => simp [GoVal.l2s_fits] at h
    | leaf hd | struct hd fs | slice hd els => simp [GoVal.texts, GoVal.h]
    | ptr hd p | map hd p | iface hd p => cases p <;> simp [GoVal.texts, GoVal.h]

theorem l2s_texts_of_in {v a : GoVal} {k : Nat} (hin : L2sIn v k a) :
    ∀ d, a.l2s_fits d = true → v.h.r ∈ GoVal.texts d a := by
  induction hin with
  | root => intro d h; exact l2s_texts_root h
  | deref _ ih =>
    rintro (_ | n) h
    · simp [GoVal.l2s_fits] at h
    · exact List.mem_cons_of_mem _ (ih n h)
  | _ =>
    -- a struct field, map value or slice element `e` (`hm : e ∈ …`): it fits the fuel below
    rename_i hm _ ih
    rintro (_ | n) h
    · simp [GoVal.l2s_fits] at h
    · simp only [GoVal.l2s_fits, List.all_eq_true] at h
      simp only [GoVal.texts, List.mem_cons, List.mem_flatMap]
      exact Or.inr ⟨_, hm, ih n (h _ hm)⟩

theorem l2s_indirect_in (a : GoVal) : ∃ k, L2sIn (indirect a) k a := by
  cases a with
  | ptr hd p =>
    cases p with
    | none => exact ⟨0, .root⟩
    | some q => exact ⟨1, .deref .root⟩
  | _ => exact ⟨0, .root⟩

theorem l2s_bulkElem_in {e s : GoVal} (h : bulkElem e = .ok s) : ∃ k, L2sIn s k e :=
  (bulkElem_ok_iff.1 h).1 ▸ l2s_indirect_in e

theorem l2s_fieldByIndex_in {idx : List Nat} {s v : GoVal} {first : Bool}
    (h : fieldByIndex s idx first = .ok v) : ∃ k, L2sIn v k s := by
  induction idx generalizing s first with
  | nil => simp [fieldByIndex] at h; subst h; exact ⟨0, .root⟩
  | cons i rest ih =>
    unfold fieldByIndex at h
    simp only at h
    split at h
    · cases h
    · rename_i hd fs hv1
      split at h
      · rename_i f hf
        obtain ⟨k, hk⟩ := ih h
        have hmem : f ∈ fs := List.mem_of_getElem? hf
        have h2 : L2sIn v (k + 1) (.struct hd fs) := .field hmem hk
        -- the struct is `s` itself or what the pointer `s` points to
        split at hv1
        · cases hv1; exact ⟨_, h2⟩
        · split at hv1
          · cases hv1
          · cases hv1; exact ⟨_, .deref h2⟩
          · cases hv1; exact ⟨_, h2⟩
      · cases h
    · cases h

theorem l2s_mapIndex_mem {kv : Option (List (Bytes × GoVal))} {key : Bytes} {v : GoVal}
    (h : mapIndex kv key = some v) : ∃ l e, kv = some l ∧ e ∈ l ∧ e.2 = v := by
  cases kv with
  | none => simp [mapIndex] at h
  | some l =>
    simp only [mapIndex, Option.map_eq_some_iff] at h
    obtain ⟨e, he, rfl⟩ := h
    exact ⟨l, e, rfl, List.mem_of_find?_eq_some he, rfl⟩

def L2sFrom (m : TypeToValue) (x : String) : Prop :=
  ∃ e ∈ m, ∃ v k, L2sIn v k e.2 ∧ x = v.h.r

theorem l2s_mapElem_in {key : Bytes} {e : GoVal} (h : (mapElemVal key e).isSome = true) :
    ∃ v k, L2sIn v k e ∧ mapElemR key e = v.h.r := by
  obtain ⟨v, hv⟩ := Option.isSome_iff_exists.1 h
  obtain ⟨hd, kv, hbe, hk⟩ := mapElemVal_eq_some_iff.1 hv
  obtain ⟨l, e', rfl, he', rfl⟩ := l2s_mapIndex_mem hk
  obtain ⟨k, hk⟩ := l2s_bulkElem_in hbe
  exact ⟨e'.2, _, L2sIn.trans (.mapVal he' .root) hk, mapElemR_of_some hv⟩

theorem l2s_fieldElem_in {f : SField} {e : GoVal} (h : (fieldElemVal f e).isSome = true) :
    ∃ v k, L2sIn v k e ∧ fieldElemR f e = v.h.r := by
  obtain ⟨v, hv⟩ := Option.isSome_iff_exists.1 h
  obtain ⟨s, hbe, hs⟩ := fieldElemVal_eq_some_iff.1 hv
  obtain ⟨k, hk⟩ := l2s_bulkElem_in hbe
  obtain ⟨j, hj⟩ := l2s_fieldByIndex_in hs
  exact ⟨v, _, hj.trans hk, fieldElemR_of_some hv⟩

theorem l2s_located_vals {l : Loc} {p : Params}
    (h : Located tt m l p) : ∀ x ∈ p.vals, L2sFrom m x := by
  cases h with
  | @slice tid n hd els hg =>
    intro x hx
    simp only [List.mem_map] at hx
    obtain ⟨el, hel, rfl⟩ := hx
    exact ⟨_, mem_of_assoc hg, el, 1, .elem hel .root, rfl⟩
  | @mapKey tid n key hd kv v hg hk =>
    intro x hx
    simp only [List.mem_singleton] at hx
    subst hx
    obtain ⟨l, e', rfl, he', rfl⟩ := l2s_mapIndex_mem hk
    exact ⟨_, mem_of_assoc hg, e'.2, 1, .mapVal he' .root, rfl⟩
  | @mapKeyBulk tid n key hd els hg hb hne hall =>
    intro x hx
    simp only [List.mem_map] at hx
    obtain ⟨el, hel, rfl⟩ := hx
    obtain ⟨_, he, _⟩ := locateBulk_some hb
    obtain ⟨v, k, hk, hr⟩ := l2s_mapElem_in (hall el hel)
    exact ⟨_, he, v, _, hk.trans (.elem hel .root), hr⟩
  | @field tid n f s v hg hv =>
    intro x hx
    simp only [List.mem_singleton] at hx
    subst hx
    obtain ⟨k, hk⟩ := l2s_fieldByIndex_in hv
    exact ⟨_, mem_of_assoc hg, v, k, hk, rfl⟩
  | @fieldBulk tid n f hd els hg hb hne hall hom =>
    intro x hx
    simp only [List.mem_map] at hx
    obtain ⟨el, hel, rfl⟩ := hx
    obtain ⟨_, he, _⟩ := locateBulk_some hb
    obtain ⟨v, k, hk, hr⟩ := l2s_fieldElem_in (hall el hel)
    exact ⟨_, he, v, _, hk.trans (.elem hel .root), hr⟩

theorem l2s_step_params {qb qb' : QB} {te : TExpr}
    (h : addToQuery tt m qb te = .ok qb') (hq : ∀ p ∈ qb.params, L2sFrom m p.2) :
    ∀ p ∈ qb'.params, L2sFrom m p.2 := by
  cases te with
  | bypass chunk => cases h; exact hq
  | output cols => cases h; exact hq
  | input loc =>
    obtain ⟨pr, s⟩ := addToQuery_input_spec h
    intro p hp
    rw [s.params] at hp
    rcases List.mem_append.1 hp with hp | hp
    · exact hq p hp
    · apply l2s_located_vals (locateParams_ok_iff.1 s.located)
      exact inputParams_snd qb.inputCount pr.vals ▸ List.mem_map_of_mem (f := (·.2)) hp
  | insert cols =>
    obtain ⟨bcs, numRows, s⟩ := addToQuery_insert_spec h
    intro p hp
    rw [s.params] at hp
    rcases List.mem_append.1 hp with hp | hp
    · exact hq p hp
    · obtain ⟨r, _, bc, hbc, _, hpa⟩ := mem_insParams.1 hp
      obtain ⟨n, v⟩ := p
      have hv : v ∈ bc.vals := List.mem_of_getElem? (BCol.paramAt_eq_some.1 hpa).2
      obtain ⟨c, _, hcb⟩ := (ColsBound.corr s.cols).mem_right hbc
      cases c with
      | literal column lit =>
        obtain ⟨hnil, _⟩ := hcb
        rw [hnil] at hv; cases hv
      | insert loc column explicit =>
        obtain ⟨pr, hl, hvals, _⟩ := hcb
        rw [hvals] at hv
        exact l2s_located_vals (locateParams_ok_iff.1 hl) v hv

/-- C03 at the value level, without fuel (`c03_present_fuelfree`, `Props/L2Sound.lean`). -/
theorem l2s_params_from_args {tes : List TExpr} {args : List GoVal} {pq : Primed}
    (hb : bindInputs tt tes args = .ok pq) :
    ∀ p ∈ pq.params, ∃ a ∈ args, ∃ v k, L2sIn v k a ∧ p.2 = v.h.r := by
  obtain ⟨m, qb, hm, hq, _, rfl⟩ := bindInputs_ok_unfold hb
  have hinv : ∀ p ∈ qb.params, L2sFrom m p.2 :=
    foldlM_except_inv (addToQuery tt m) (fun qb => ∀ p ∈ qb.params, L2sFrom m p.2) tes
      (fun b a b' _ hP hs => l2s_step_params hs hP) {} qb (by intro p hp; cases hp) hq
  intro p hp
  obtain ⟨e, he, v, k, hk, hr⟩ := hinv p hp
  rw [((validateInputs_nil_ok_iff tt args m).1 hm).1] at he
  obtain ⟨a, ha, rfl⟩ := List.mem_map.1 he
  obtain ⟨j, hj⟩ := l2s_indirect_in a
  exact ⟨a, ha, v, _, hk.trans hj, hr⟩

theorem l2s_params_in_texts {tes : List TExpr} {args : List GoVal} {pq : Primed}
    (hb : bindInputs tt tes args = .ok pq) {d : Nat} (hd : args.all (GoVal.l2s_fits d) = true) :
    ∀ p ∈ pq.params, ∃ a ∈ args, p.2 ∈ GoVal.texts d a := by
  intro p hp
  obtain ⟨a, ha, v, k, hk, hr⟩ := l2s_params_from_args hb p hp
  exact ⟨a, ha, by rw [hr]; exact l2s_texts_of_in hk d (List.all_eq_true.1 hd a ha)⟩

theorem l2s_fits_of_valWF : ∀ (d : Nat) (v : GoVal), valWF tt d v = true → v.l2s_fits d = true := by
  intro d
  induction d with
  | zero => intro v h; simp [valWF] at h
  | succ n ih =>
    intro v h
    cases v with
    | invalid => simp [valWF] at h
    | leaf hd => rfl
    | struct hd fs => exact List.all_eq_true.2 fun f hf => ih _ (valWF_struct_mem h hf)
    | ptr hd p =>
      cases p with
      | none => rfl
      | some q => exact ih _ (valWF_ptr_some h)
    | iface hd p =>
      cases p with
      | none => rfl
      | some q => exact ih _ (valWF_iface_some h)
    | map hd kv =>
      cases kv with
      | none => rfl
      | some l => exact List.all_eq_true.2 fun e he => ih _ (valWF_map_mem h he)
    | slice hd els => exact List.all_eq_true.2 fun e he => ih _ (valWF_slice_mem h he)

end Sqlair
