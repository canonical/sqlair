/-
  L2Sound/MemberInputs: a statement whose expressions are member inputs only (the statements `holdsC03vals` and the
  driver clause `inputsCounted` speak of): its typed expressions (`MemSeg`) and the one induction over the fold of
  `bindInputs` on them (`foldlM_memSegs`), shared by `holdsC03vals_model` (Props/L2C03Vals.lean) and
  `inputsCounted_model` (Props/DriverClauses.lean).
-/
import SqlairProofs.E2E.Nodes
import SqlairProofs.L2Sound.Defs

namespace Sqlair

def MemSeg (infos : List (Bytes × ArgInfo)) (s : OSeg) (e : TExpr) : Prop :=
  (s.kind = .bypass ∧ e = .bypass s.raw) ∨
  (s.kind = .member ∧ ∃ a l, s.types = [a] ∧ memberRes infos a.ty a.member = .ok l ∧ e = .input l)

theorem bindTypes_memSegs {C : Cls} {tt : TypeTable} {segs : List OSeg} {samples : List (Option Nat)}
    {tes : List TExpr} (hall : (segs.filter (·.kind != .bypass)).all (·.kind == .member) = true)
    (h : bindTypes C tt segs samples = .ok tes) :
    ∃ infos, generateArgInfo C tt samples [] = .ok infos ∧ Corr (MemSeg infos) segs tes := by
  obtain ⟨infos, hg, hc⟩ := bindTypes_typed h
  refine ⟨infos, hg, hc.imp_mem fun x hx e hr => ?_⟩
  by_cases hb : x.kind = .bypass
  · exact .inl ⟨hb, hr.bypass hb⟩
  · have hk : x.kind = .member := by
      simpa using List.all_eq_true.1 hall x (List.mem_filter.2 ⟨hx, by simpa using hb⟩)
    obtain ⟨a, l, hty, hl, rfl⟩ := hr.member hk
    exact .inr ⟨hk, a, l, hty, hl, rfl⟩

/-- The fold over the typed expressions appends one parameter per member input, numbered from the input counter, its
    value the single one the locator finds.  `chk` is what a caller wants of each (number, node, parameter as the
    driver receives it): `c03valsCheck` for `holdsC03vals`, nothing for the count. -/
theorem foldlM_memSegs {tt : TypeTable} {m : TypeToValue} {infos : List (Bytes × ArgInfo)}
    {chk : Nat × OSeg × (String × String) → Bool} {segs : List OSeg} {es : List TExpr}
    (hms : Corr (MemSeg infos) segs es) :
    (∀ s ∈ segs, s.kind = .member → ∀ (a : Acc) (l : Loc) (p : Params) (c : Nat) (v : String), s.types = [a] →
      memberRes infos a.ty a.member = .ok l → locateParams tt m l = .ok p → p.bulk = false → p.vals = [v] →
      chk (c, s, modelParam (c, v)) = true) →
    ∀ (qb qb' : QB), es.foldlM (addToQuery tt m) qb = .ok qb' →
    ∃ ps, qb'.params = qb.params ++ ps ∧ (segs.filter (·.kind != .bypass)).length = ps.length ∧
      ((List.range' qb.inputCount (segs.filter (·.kind != .bypass)).length).zip
        ((segs.filter (·.kind != .bypass)).zip (ps.map modelParam))).all chk = true := by
  induction segs, es, hms using Corr.induction with
  | nil =>
    intro _ qb qb' h
    cases h
    exact ⟨[], (List.append_nil _).symm, rfl, rfl⟩
  | @cons x e rest es hr _ ih =>
    intro hpt qb qb' h
    rw [foldlM_cons_bind] at h
    replace ih := ih fun s hs => hpt s (List.mem_cons_of_mem _ hs)
    rcases hr with ⟨hx, rfl⟩ | ⟨hx, a, l, hty, hmem, rfl⟩
    · rw [List.filter_cons_of_neg (by simp [hx])]
      exact ih { qb with pieces := qb.pieces ++ [.text x.raw] } qb' h
    · rw [List.filter_cons_of_pos (by rw [hx]; decide)]
      obtain ⟨q1, hs, h⟩ := bind_ok_inv h
      obtain ⟨p, st⟩ := addToQuery_input_spec hs
      obtain ⟨_, _, hgm⟩ := memberRes_ok.1 hmem
      obtain ⟨v, hv⟩ := List.length_eq_one_iff.1 (locateParams_single st.located st.not_bulk (getMember_nonSlice hgm))
      obtain ⟨ps, h1, h2, h3⟩ := ih q1 qb' h
      rw [st.inputCount, hv] at h3
      refine ⟨(qb.inputCount, v) :: ps, ?_, congrArg (· + 1) h2, ?_⟩
      · rw [h1, st.params, hv, inputParams_one, List.append_assoc]; rfl
      · rw [List.length_cons, List.range'_succ, List.map_cons, List.zip_cons_cons, List.zip_cons_cons,
          List.all_cons, Bool.and_eq_true]
        exact ⟨hpt x List.mem_cons_self hx a l p _ v hty hmem st.located st.not_bulk hv, h3⟩

end Sqlair
