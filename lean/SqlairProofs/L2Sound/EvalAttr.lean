/-
  L2Sound/EvalAttr: the simp set `l2s_eval`.

  The kernel evaluates `Array UInt8` through its list model: `push` is `List.concat`, `a[i]` is
  `List.get`, so `Bytes.hasPrefixAt` costs `p.size * off` steps at offset `off`, a scan of the SQL
  text is cubic and `==` on arrays quadratic.  `simp only [l2s_eval]` unfolds a closed instance of
  a predicate of `Spec/L2.lean` down to those leaf operations and replaces them by their list
  forms (`L2Sound/Bytes.lean`); `decide +kernel` then evaluates the list forms.
-/
import Lean.Meta.Tactic.Simp.RegisterCommand

register_simp_attr l2s_eval
