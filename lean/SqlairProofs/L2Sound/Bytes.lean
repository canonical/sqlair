/-
  L2Sound/Bytes.  Evaluation: the list forms of the scanners of `Spec/L2.lean` (one generic one-pass
  scanner `l2s_scanFrom`), to which the simp set `l2s_eval` rewrites, and the tactic `l2s_decide`.  Then the
  byte-string lemmas the soundness proofs use.
-/
import SqlairModel.Spec.L2
import SqlairProofs.Basics
import SqlairProofs.E2E.Render
import SqlairProofs.L2Sound.EvalAttr
import SqlairProofs.L2Sound.Defs

namespace Sqlair

variable {b s : Bytes}

theorem l2s_hasPrefixAt_eq (b p : Bytes) (off : Nat) :
    b.hasPrefixAt off p = (off + p.size ≤ b.size && p.toList.isPrefixOf (b.toList.drop off)) := by
  obtain ⟨l⟩ := b
  obtain ⟨q⟩ := p
  rw [Bool.eq_iff_iff]
  simp [Bytes.hasPrefixAt, List.prefix_iff_eq_take]
  intro _
  exact eq_comm

theorem l2s_toList_extract_size (b : Bytes) (i : Nat) : (b.extract i b.size).toList = b.toList.drop i := by
  simp [List.take_of_length_le]

theorem l2s_hasPrefixAt_of_le {b p : Bytes} {off : Nat} (h : off ≤ b.size) :
    b.hasPrefixAt off p = p.toList.isPrefixOf (b.toList.drop off) := by
  rw [l2s_hasPrefixAt_eq]
  cases hp : p.toList.isPrefixOf (b.toList.drop off) with
  | false => rw [Bool.and_false]
  | true =>
    have := (List.isPrefixOf_iff_prefix.1 hp).length_le
    simp only [List.length_drop, Array.length_toList] at this
    simp only [Bool.and_true, decide_eq_true_eq]
    omega

/-- The list form of "try every offset": `f i t` is given an offset `i` and the text `t` from that offset on; the hits
    of `n` consecutive offsets are collected.  `findFrom` also tries the offset `b.size` (the empty rest), hence
    `b.size + 1 - off` steps in `l2s_findFrom_eq`, where `countOcc` and `numbersAfter` take `b.size`. -/
def l2s_scanFrom {α β : Type} (f : Nat → List α → Option β) : Nat → Nat → List α → List β
  | 0, _, _ => []
  | n + 1, i, t => (f i t).toList ++ l2s_scanFrom f n (i + 1) t.tail

theorem l2s_scanFrom_drop {α β : Type} (f : Nat → List α → Option β) (l : List α) :
    ∀ (n off : Nat) (g : Nat → Option β), (∀ i < n, f (off + i) (l.drop (off + i)) = g i) →
    l2s_scanFrom f n off (l.drop off) = (List.range n).filterMap g := by
  intro n
  induction n with
  | zero => intro _ _ _; rfl
  | succ n ih =>
    intro off g h
    rw [l2s_scanFrom, List.tail_drop, ih (off + 1) (fun i => g (i + 1)), List.range_succ_eq_map, List.filterMap_cons,
      List.filterMap_map, ← h 0 (Nat.succ_pos n)]
    · cases f (off + 0) (l.drop (off + 0)) <;> rfl
    · intro i hi
      rw [← h (i + 1) (Nat.succ_lt_succ hi), Nat.add_assoc, Nat.add_comm 1]

def l2s_occAt (p : List UInt8) (i : Nat) (t : List UInt8) : Option Nat := if p.isPrefixOf t then some i else none

@[l2s_eval] theorem l2s_findFrom_eq (b p : Bytes) (off : Nat) :
    b.findFrom p off = (l2s_scanFrom (l2s_occAt p.toList) (b.size + 1 - off) off (b.toList.drop off)).head? := by
  rw [l2s_scanFrom_drop _ _ _ _ _ fun i hi => ?_, List.head?_filterMap, Bytes.findFrom]
  rw [l2s_hasPrefixAt_of_le (by omega), l2s_occAt]

@[l2s_eval] theorem l2s_countOcc_eq (pre b : Bytes) :
    countOcc pre b = (l2s_scanFrom (l2s_occAt pre.toList) b.size 0 b.toList).length := by
  rw [← b.toList.drop_zero, l2s_scanFrom_drop _ _ _ _ (Option.guard fun i => b.hasPrefixAt i pre) fun i hi => ?_,
    List.filterMap_eq_filter, countOcc]
  rw [Option.guard, l2s_hasPrefixAt_of_le (Nat.le_of_lt hi), l2s_occAt, Nat.zero_add]

def l2s_leadingNum (t : List UInt8) : Option Nat :=
  let ds := t.takeWhile isDigitB
  if ds.isEmpty then none else some (ds.foldl (fun n d => n * 10 + (d.toNat - 48)) 0)

@[l2s_eval] theorem l2s_numbersAfter_eq (pre b : Bytes) : numbersAfter pre b =
    l2s_scanFrom (fun _ t => if pre.toList.isPrefixOf t then l2s_leadingNum (t.drop pre.size) else none)
      b.size 0 b.toList := by
  rw [← b.toList.drop_zero, l2s_scanFrom_drop _ _ _ _ _ fun i hi => ?_, numbersAfter]
  rw [Nat.zero_add, l2s_hasPrefixAt_of_le (Nat.le_of_lt hi), List.drop_drop, l2s_toList_extract_size]
  rfl

@[l2s_eval] theorem l2s_renderSQL_toList (ps : List Piece) : (renderSQL ps).toList = ps.flatMap (·.render.toList) := by
  rw [renderSQL_eq_concat, concatBytes_toList, List.flatMap_def, List.map_map]
  rfl

@[l2s_eval] theorem l2s_eq_iff_toList (a b : Bytes) : a = b ↔ a.toList = b.toList := Array.toList_inj.symm

@[l2s_eval] theorem l2s_map_eq_some_iff_toList {α : Type} (f : α → Bytes) (x : Option α) (s : Bytes) :
    x.map f = some s ↔ x.map (fun a => (f a).toList) = some s.toList := by
  cases x <;> simp

/-- `rw` unifies the left-hand side with `bs "…"`; `simp` does not (a literal is not indexed as
    `String.ofList`).  The right-hand side avoids the quadratic `List.toByteArray`. -/
theorem l2s_bs_ofList (cs : List Char) : bs (String.ofList cs) = (cs.flatMap String.utf8EncodeChar).toArray := by
  simp [bs, String.toUTF8, List.utf8Encode]

/-- List forms first, then the kernel.  A whole conjunction goes into one call: the kernel remembers
    what it has reduced, so the SQL of a fixture is rendered once for all conjuncts. -/
macro "l2s_decide" : tactic => `(tactic| (simp only [l2s_eval]; decide +kernel))

attribute [l2s_eval] List.toList_toArray Array.size_eq_length_toList containsSub cleanForTokens tagsClean holdsC03
  holdsC05 literalsVerbatim modelBindObs

/-! ### byte-string lemmas of the soundness proofs -/

theorem l2s_hasPrefixAt_mid (a w c : Bytes) : (a ++ w ++ c).hasPrefixAt a.size w = true := by
  rw [l2s_hasPrefixAt_of_le (by simp [Array.size_append])]
  simp

def L2sInfix (b s : Bytes) : Prop := ∃ p q, s = p ++ b ++ q

theorem L2sInfix.refl (b : Bytes) : L2sInfix b b := ⟨#[], #[], by simp⟩

theorem L2sInfix.append_left (h : L2sInfix b s) (x : Bytes) : L2sInfix b (x ++ s) := by
  obtain ⟨p, q, rfl⟩ := h
  exact ⟨x ++ p, q, by simp [Array.append_assoc]⟩

theorem L2sInfix.append_right (h : L2sInfix b s) (x : Bytes) : L2sInfix b (s ++ x) := by
  obtain ⟨p, q, rfl⟩ := h
  exact ⟨p, q ++ x, by simp [Array.append_assoc]⟩

theorem L2sInfix.trans {a b c : Bytes} (h1 : L2sInfix a b) (h2 : L2sInfix b c) : L2sInfix a c := by
  obtain ⟨p, q, rfl⟩ := h2
  exact (h1.append_left p).append_right q

theorem l2s_findFrom_le {sql w : Bytes} {off p : Nat} (hop : off ≤ p) (h : sql.hasPrefixAt p w = true) :
    ∃ i, sql.findFrom w off = some i ∧ off ≤ i ∧ i ≤ p := by
  have hsz : p + w.size ≤ sql.size := by
    have := l2s_hasPrefixAt_eq sql w p ▸ h
    simp only [Bool.and_eq_true, decide_eq_true_eq] at this
    exact this.1
  unfold Bytes.findFrom
  rw [show sql.size + 1 - off = (p - off + 1) + (sql.size - p) by omega, List.range_add, List.findSome?_append]
  have hsome : ((List.range (p - off + 1)).findSome? fun i =>
      if sql.hasPrefixAt (off + i) w then some (off + i) else none).isSome = true := by
    rw [List.findSome?_isSome_iff]
    exact ⟨p - off, by rw [List.mem_range]; omega, by rw [show off + (p - off) = p by omega, h]; rfl⟩
  obtain ⟨i, hi⟩ := Option.isSome_iff_exists.1 hsome
  obtain ⟨j, hj, hji⟩ := List.exists_of_findSome?_eq_some hi
  rw [List.mem_range] at hj
  split at hji
  · cases hji
    exact ⟨_, by rw [hi]; rfl, by omega, by omega⟩
  · cases hji

theorem l2s_findFrom_isSome_of_infix (h : L2sInfix b s) : (s.findFrom b 0).isSome = true := by
  obtain ⟨p, q, rfl⟩ := h
  obtain ⟨i, hi, _⟩ := l2s_findFrom_le (Nat.zero_le _) (l2s_hasPrefixAt_mid p b q)
  rw [hi]; rfl

theorem l2s_joinFold (sep : Bytes) : ∀ (xs : List Bytes) (p x : Bytes),
    xs.foldl (fun acc y => acc ++ sep ++ y) (p ++ x) = p ++ xs.foldl (fun acc y => acc ++ sep ++ y) x := by
  intro xs
  induction xs with
  | nil => intro p x; rfl
  | cons y ys ih =>
    intro p x
    simp only [List.foldl_cons]
    rw [Array.append_assoc, Array.append_assoc, ih, ← Array.append_assoc (xs := x)]

theorem l2s_joinComma_single (x : Bytes) : joinComma [x] = x := rfl

theorem l2s_joinComma_cons_cons (x y : Bytes) (ys : List Bytes) :
    joinComma (x :: y :: ys) = x ++ bs ", " ++ joinComma (y :: ys) := by
  show ys.foldl _ (x ++ bs ", " ++ y) = x ++ bs ", " ++ ys.foldl _ y
  exact l2s_joinFold (bs ", ") ys (x ++ bs ", ") y

theorem l2s_infix_joinComma {b : Bytes} : ∀ {l : List Bytes}, b ∈ l → L2sInfix b (joinComma l) := by
  intro l
  induction l with
  | nil => intro h; cases h
  | cons x xs ih =>
    intro h
    cases xs with
    | nil =>
      rw [List.mem_singleton] at h
      subst h; exact .refl _
    | cons y ys =>
      rw [l2s_joinComma_cons_cons]
      rcases List.mem_cons.1 h with rfl | h
      · exact ((L2sInfix.refl _).append_right _).append_right _
      · exact (ih h).append_left _

theorem l2s_infix_concat {b : Bytes} : ∀ {l : List Bytes} {x : Bytes}, x ∈ l → L2sInfix b x →
    L2sInfix b (concatBytes l) := by
  intro l
  induction l with
  | nil => intro x h; cases h
  | cons y ys ih =>
    intro x h hb
    rw [concatBytes_cons]
    rcases List.mem_cons.1 h with rfl | h
    · exact hb.append_right _
    · exact (ih h hb).append_left _

def L2sNoDigitStart (c : Bytes) : Prop := isDigitB (c.getD 0 0) = false

theorem l2s_noDigitStart_empty : L2sNoDigitStart #[] := by unfold L2sNoDigitStart; decide

theorem l2s_noDigitStart_append_of_pos {x y : Bytes} (hx : L2sNoDigitStart x) (hpos : 0 < x.size) :
    L2sNoDigitStart (x ++ y) := by
  unfold L2sNoDigitStart at *
  have : (x ++ y).getD 0 0 = x.getD 0 0 := by
    simp [Array.getD, Array.size_append, hpos, Array.getElem_append_left hpos]
    intro hx0; subst hx0; simp at hpos
  rw [this]; exact hx

theorem l2s_noDigitStart_append {x y : Bytes} (hx : L2sNoDigitStart x) (hy : L2sNoDigitStart y) :
    L2sNoDigitStart (x ++ y) := by
  by_cases h : 0 < x.size
  · exact l2s_noDigitStart_append_of_pos hx h
  · have hx0 : x = #[] := Array.eq_empty_of_size_eq_zero (by omega)
    subst hx0
    simpa using hy

theorem l2s_noDigitStart_concat : ∀ (l : List Bytes), (∀ b ∈ l, L2sNoDigitStart b) →
    L2sNoDigitStart (concatBytes l) := by
  intro l
  induction l with
  | nil => intro _; exact l2s_noDigitStart_empty
  | cons x xs ih =>
    intro h
    rw [concatBytes_cons]
    exact l2s_noDigitStart_append (h x List.mem_cons_self) (ih fun b hb => h b (List.mem_cons_of_mem _ hb))

theorem l2s_takeWhile_noDigitStart {c : Bytes} (h : L2sNoDigitStart c) : c.toList.takeWhile isDigitB = [] := by
  obtain ⟨l⟩ := c
  cases l with
  | nil => rfl
  | cons x xs =>
    have : isDigitB x = false := by simpa [L2sNoDigitStart] using h
    simp [List.takeWhile, this]

theorem l2s_takeWhile_digits {ds : List UInt8} {c : Bytes} (hd : ∀ d ∈ ds, isDigitB d = true)
    (hc : L2sNoDigitStart c) : (ds ++ c.toList).takeWhile isDigitB = ds := by
  rw [List.takeWhile_append_of_pos hd, l2s_takeWhile_noDigitStart hc, List.append_nil]

theorem l2s_extract_tail (x y : Bytes) : (x ++ y).extract x.size (x ++ y).size = y := by
  apply Array.ext'
  simp

def l2s_ph (n : Nat) : Bytes := bs "@sqlair_" ++ natBytes n

theorem l2s_placeholderAt (a c : Bytes) (n : Nat) (hc : L2sNoDigitStart c) :
    placeholderAt (a ++ l2s_ph n ++ c) a.size = some (a.size + (l2s_ph n).size) := by
  unfold l2s_ph placeholderAt
  simp only
  have hsql : a ++ (bs "@sqlair_" ++ natBytes n) ++ c = a ++ bs "@sqlair_" ++ (natBytes n ++ c) := by
    simp [Array.append_assoc]
  have hpre : (a ++ (bs "@sqlair_" ++ natBytes n) ++ c).hasPrefixAt a.size (bs "@sqlair_") = true := by
    rw [hsql]; exact l2s_hasPrefixAt_mid _ _ _
  rw [if_pos hpre]
  have hex : (a ++ (bs "@sqlair_" ++ natBytes n) ++ c).extract (a.size + (bs "@sqlair_").size)
      (a ++ (bs "@sqlair_" ++ natBytes n) ++ c).size = natBytes n ++ c := by
    rw [hsql]
    have := l2s_extract_tail (a ++ bs "@sqlair_") (natBytes n ++ c)
    rwa [Array.size_append] at this
  rw [hex, Array.toList_append, l2s_takeWhile_digits (ds := (natBytes n).toList) (List.all_eq_true.1 (repr_all_digits n)) hc]
  have hne : (natBytes n).toList.isEmpty = false := by
    have : 0 < (natBytes n).size := repr_size_pos n
    cases h : (natBytes n).toList with
    | nil => rw [← Array.length_toList, h] at this; cases this
    | cons _ _ => rfl
  rw [hne]
  simp [Array.size_append, Nat.add_assoc]

end Sqlair
