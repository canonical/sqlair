/-
  L2Sound/Agree: for `affected_model` (`Props/L2Sound.lean`): every piece is found at its place in the model's SQL
  (`l2s_firstBadPiece_model`).  The list form `l2s_firstBadPieceL` serves the example there that evaluates `affected`
  on a tampered observation.
-/
import SqlairProofs.L2Sound.Defs
import SqlairProofs.L2Sound.Bytes

namespace Sqlair

theorem l2s_firstBadPiece (ps : List Piece) (a : Bytes) :
    firstBadPiece ps (a ++ concatBytes (ps.map Piece.render)) a.size = none := by
  induction ps generalizing a with
  | nil => simp [firstBadPiece, concatBytes_nil]
  | cons p rest ih =>
    have hnext := ih (a ++ p.render)
    rw [Array.size_append] at hnext
    rw [List.map_cons, concatBytes_cons, ← Array.append_assoc]
    unfold firstBadPiece
    simp only [l2s_hasPrefixAt_mid, if_true]
    exact hnext

theorem l2s_firstBadPiece_model (pq : Primed) :
    firstBadPiece pq.pieces (modelBindObs pq).sql 0 = none := by
  have := l2s_firstBadPiece pq.pieces #[]
  rw [modelBindObs_sql, renderSQL_eq_concat]
  simpa using this

def l2s_firstBadPieceL : List Piece → List UInt8 → Option String
  | [], t => if t.isEmpty then none else some "C01"
  | p :: rest, t =>
    if p.render.toList.isPrefixOf t then l2s_firstBadPieceL rest (t.drop p.render.size) else some p.prop

theorem l2s_firstBadPiece_eq (sql : Bytes) : ∀ (ps : List Piece) (off : Nat), off ≤ sql.size →
    firstBadPiece ps sql off = l2s_firstBadPieceL ps (sql.toList.drop off)
  | [], off, h => by
    have : (off == sql.size) = (sql.toList.drop off).isEmpty := by
      rw [Bool.eq_iff_iff]
      simp [List.drop_eq_nil_iff]
      omega
    simp only [firstBadPiece, l2s_firstBadPieceL, this]
  | p :: rest, off, h => by
    rw [firstBadPiece, l2s_firstBadPieceL]
    simp only [l2s_hasPrefixAt_of_le h]
    split
    · rename_i hp
      have := (List.isPrefixOf_iff_prefix.1 hp).length_le
      simp only [List.length_drop, Array.length_toList] at this
      rw [l2s_firstBadPiece_eq sql rest _ (by omega), List.drop_drop]
    · rfl

end Sqlair
