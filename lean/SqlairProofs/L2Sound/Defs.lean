/-
  L2Sound/Defs: the observation the MODEL produces for a successful Prepare + Query (`modelBindObs`); the soundness
  theorems of the observation-level predicates of `Spec/L2.lean` speak about it.
-/
import SqlairModel.Spec.L2

namespace Sqlair

/-- the observation of a run that behaves exactly like the model: Prepare and Query succeed, the
    driver receives the rendered SQL and the parameters named `sqlair_<n>` (`sql.Named` in
    `/repo/internal/expr/querybuilder.go`), through `QueryContext` iff `HasOutputs`, else `ExecContext`
    (the closure built by `DB.Query` in `/repo/sqlair.go`); two driver calls (prepare + query/exec) -/
def modelBindObs (pq : Primed) : BindObs :=
  { prepOk := true
    bindOk := true
    sql := renderSQL pq.pieces
    params := pq.params.map (fun (n, v) => (s!"sqlair_{n}", v))
    mode := if pq.outputs.isEmpty then "exec" else "query"
    events := 2 }

def modelParam : Nat × String → String × String := fun (n, v) => (s!"sqlair_{n}", v)

theorem modelBindObs_params (pq : Primed) : (modelBindObs pq).params = pq.params.map modelParam := rfl

theorem modelBindObs_sql (pq : Primed) : (modelBindObs pq).sql = renderSQL pq.pieces := rfl

theorem modelBindObs_mode (pq : Primed) :
    (modelBindObs pq).mode = if pq.outputs.isEmpty then "exec" else "query" := rfl

theorem modelBindObs_vals (pq : Primed) : (modelBindObs pq).params.map (·.2) = pq.params.map (·.2) := by
  simp [modelBindObs, List.map_map, Function.comp_def]

theorem modelBindObs_names (pq : Primed) :
    (modelBindObs pq).params.map (·.1) = (pq.params.map (·.1)).map fun n : Nat => s!"sqlair_{n}" := by
  simp [modelBindObs, List.map_map, Function.comp_def]

theorem l2s_mode_ne_none (pq : Primed) : ((modelBindObs pq).mode == "none") = false := by
  rw [modelBindObs_mode]
  split <;> decide

theorem l2s_guard (pq : Primed) :
    (!((modelBindObs pq).prepOk && (modelBindObs pq).bindOk) || (modelBindObs pq).mode == "none") = false := by
  rw [l2s_mode_ne_none]; rfl

theorem l2s_runModel {C : Cls} {tt : TypeTable} {segs : List OSeg} {samples : List (Option Nat)}
    {tes : List TExpr} {args : List GoVal} {pq : Primed}
    (hp : bindTypes C tt segs samples = .ok tes) (hb : bindInputs tt tes args = .ok pq) :
    runModel C tt segs samples args = { prep := .ok tes, bind := .ok pq } := by
  unfold runModel
  rw [hp]
  simp only [hb]

theorem runModel_bind_ok {C : Cls} {tt : TypeTable} {segs : List OSeg} {samples : List (Option Nat)} {args : List GoVal}
    {pq : Primed} (h : (runModel C tt segs samples args).bind = .ok pq) :
    ∃ tes, bindTypes C tt segs samples = .ok tes ∧ bindInputs tt tes args = .ok pq := by
  unfold runModel at h
  split at h
  · cases h
  · exact ⟨_, ‹_›, h⟩

end Sqlair
