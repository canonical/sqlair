/-
  L2Sound/C03Vals: `holdsC03vals` (C03, value level: "the k-th argument the driver receives is
  named sqlair_k and is the value of the member the k-th expression names", members found by tag)
  against the model, which finds the members through the index paths of `getStructFields`.  For a
  statement whose expressions are member inputs only (`MemSeg`, `L2Sound/MemberInputs.lean`), what
  `foldlM_memSegs` asks of one member input (`c03vals_point`: the single value the model locates is the
  value the search by tag finds in the only argument carrying the type name).  The theorem on the model,
  under the guard `c03valsGuards` (`L2Sound/C03ValsGuard.lean`), is `holdsC03vals_model`
  (`Props/L2C03Vals.lean`).
-/
import SqlairProofs.L2Sound.C03ValsGuard
import SqlairProofs.L2Sound.MemberInputs
import SqlairProofs.L2Rows.Rows
import SqlairProofs.L2Sound.Defs
import SqlairProofs.Typed.Args
import SqlairProofs.Bind.Accept

namespace Sqlair

def c03valsCheck (C : Cls) (tt : TypeTable) (args : List GoVal) : Nat × OSeg × (String × String) → Bool :=
  fun (k, s, p) =>
    match s.types with
    | [a] =>
      if (args.filter (fun v => v.typeName tt == a.ty)).length != 1 then true else
      match args.find? (fun v => v.typeName tt == a.ty) with
      | some v =>
        match valueByTag C tt 8 v a.member with
        | some fv => p.1 == s!"sqlair_{k}" && p.2 == fv.h.r
        | none => false
      | none => false
    | _ => true

theorem holdsC03vals_eq (C : Cls) (tt : TypeTable) (segs : List OSeg) (args : List GoVal) (o : BindObs) :
    holdsC03vals C tt segs args o =
      (if !(o.prepOk && o.bindOk) || o.mode == "none" then true else
       if !(segs.filter (·.kind != .bypass)).all (·.kind == .member) then true else
       (segs.filter (·.kind != .bypass)).length == o.params.length &&
       ((List.range (segs.filter (·.kind != .bypass)).length).zip
          ((segs.filter (·.kind != .bypass)).zip o.params)).all (c03valsCheck C tt args)) := rfl

theorem typeName_eq_indirect (tt : TypeTable) (v : GoVal) : v.typeName tt = (tt.get (indirect v).tid).name := by
  cases v with
  | ptr h p => cases p <;> rfl
  | _ => rfl

/-- a map argument is looked up by key on both sides (`valueByTag_map_arg`); for a struct argument
    `row_by_tag`, under the guard, equates the value at the field's index path with the member found by tag -/
theorem c03vals_point {C : Cls} {tt : TypeTable} {samples : List (Option Nat)} {infos : List (Bytes × ArgInfo)}
    {args : List GoVal} {m : TypeToValue}
    (hg : generateArgInfo C tt samples [] = .ok infos) (hm : validateInputs tt args [] = .ok m)
    {s : OSeg} {a : Acc} {l : Loc} {p : Params} (c : Nat) {v : String}
    (hty : s.types = [a]) (hmem : memberRes infos a.ty a.member = .ok l)
    (hloc : locateParams tt m l = .ok p) (hb : p.bulk = false) (hv : p.vals = [v])
    (hguard : ∀ v ∈ args, v.typeName tt = a.ty → c03valsArgOK C tt v = true) :
    c03valsCheck C tt args (c, s, modelParam (c, v)) = true := by
  obtain ⟨ai, hl, hgm⟩ := memberRes_ok.1 hmem
  obtain ⟨tid, _, hname, hinfo, _⟩ := generateArgInfo_mem_sample hg (lookupRes_mem hl)
  rw [← getArgInfo_ok_iff] at hinfo
  obtain ⟨rfl, _⟩ := (validateInputs_nil_ok_iff tt args m).1 hm
  have hnm : ∀ {arg : GoVal}, (indirect arg).tid = tid → arg.typeName tt = a.ty := fun h => by
    rw [typeName_eq_indirect, h]; exact hname.symm
  have finish : ∀ (arg fv : GoVal), arg ∈ args → (indirect arg).tid = tid →
      valueByTag C tt 8 arg a.member = some fv →
      c03valsCheck C tt args (c, s, modelParam (c, fv.h.r)) = true := by
    intro arg fv harg htid hv
    unfold c03valsCheck
    simp only [hty]
    split
    · rfl
    · rename_i hcount
      have hcount : (args.filter (fun v => v.typeName tt == a.ty)).length = 1 := by simpa using hcount
      rw [find?_of_filter_one _ args arg hcount harg (by simpa using hnm htid)]
      simp [hv, modelParam]
  rcases getMember_ok_iff.1 hgm with ⟨t, n, fields, tags, f, rfl, hf, rfl⟩ | ⟨t, n, rfl, rfl⟩
  · obtain ⟨rfl, _, hkind, _, _⟩ := getArgInfo_struct hinfo
    have hfmem : f ∈ fields := List.mem_of_find?_eq_some hf
    have hftag : f.tag = a.member := by simpa using List.find?_some hf
    cases locateParams_ok_iff.1 hloc with
    | fieldBulk => cases hb
    | @field _ _ _ s0 v0 hget hidx =>
      obtain ⟨arg, harg, (htid : (indirect arg).tid = t), hs⟩ := ttvGet_args_some hget
      have hok := hguard arg harg (hnm htid)
      unfold c03valsArgOK at hok
      rw [htid, hkind] at hok
      simp only [Bool.or_eq_true, Bool.and_eq_true, beq_iff_eq, reduceCtorEq, false_or] at hok
      obtain ⟨⟨hemb, hwf⟩, htags⟩ := hok
      obtain ⟨tgs, htgs⟩ := Option.isSome_iff_exists.1 htags
      obtain ⟨fv, h1, h2⟩ := (row_by_tag hemb hinfo (rowOf_of_indirect (valWF_sound 64 arg hwf) htid) htgs).2 f hfmem
      obtain rfl : fv = v0 := by
        rw [rowStruct_eq, hs, hidx] at h1
        cases h1; rfl
      cases hv
      exact finish arg fv harg htid (hftag ▸ h2)
  · obtain rfl : t = tid := by
      rcases getArgInfo_ok_iff.1 hinfo with ⟨_, _, h⟩ | ⟨_, h⟩ | ⟨_, _, _, _, h⟩ <;> cases h
      rfl
    cases locateParams_ok_iff.1 hloc with
    | mapKeyBulk => cases hb
    | @mapKey _ _ _ hd kv v0 hget hidx =>
      obtain ⟨arg, harg, htid, hs⟩ := ttvGet_args_some hget
      cases hv
      exact finish arg v0 harg htid (by rw [valueByTag_map_arg hs]; exact hidx)

end Sqlair
