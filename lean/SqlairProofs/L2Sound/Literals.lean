/-
  L2Sound/Literals: the literal values of a `(cols) VALUES (…)` node occur in the SQL the
  model renders, byte for byte (the step lemma of `literals_verbatim_model`, `Props/L2Sound.lean`:
  `literalsVerbatim`, part of the driver's C02 and C04 verdicts).

  Route: `bindSeg` turns a literal value into a `TCol.literal` column with the same text
  (`NodeTyped.lits`); `TCol.bind` turns it into a bound column without values, which is
  never omitted and whose cell is `.lit text` in every row; an insert has at least one row;
  `Cell.render (.lit t) = t`, and rendering only concatenates.
-/
import SqlairProofs.L2Sound.Bytes
import SqlairProofs.Bind.Step

namespace Sqlair

theorem l2s_insert_step_literal {tt : TypeTable} {m : TypeToValue} {qb qb' : QB} {cols : List TCol}
    (h : addToQuery tt m qb (.insert cols) = .ok qb') {c b : Bytes} (hc : TCol.literal c b ∈ cols) :
    ∃ p, qb'.pieces = qb.pieces ++ [p] ∧ L2sInfix b p.render := by
  obtain ⟨bcs, numRows, s⟩ := addToQuery_insert_spec h
  refine ⟨_, s.pieces, ?_⟩
  obtain ⟨bc, hbc, hcb⟩ := (ColsBound.corr s.cols).mem hc
  obtain ⟨hvals, hom, _, hlit, _, _⟩ := hcb
  have hkept : bc ∈ keptCols bcs := mem_keptCols.2 ⟨hbc, hom⟩
  have hcell : bc.cellAt 0 = .lit b := by rw [(BCol.cellAt_lit hvals).1, hlit]
  have hrow : (keptCols bcs).map (·.cellAt 0) ∈ insRows bcs numRows :=
    List.mem_of_getElem? (insRows_getElem? bcs s.rows_pos)
  have hb : b ∈ ((keptCols bcs).map (·.cellAt 0)).map Cell.render := by
    simp only [List.mem_map]
    exact ⟨.lit b, ⟨bc, hkept, hcell⟩, rfl⟩
  have h1 : L2sInfix b (bs "(" ++ joinComma (((keptCols bcs).map (·.cellAt 0)).map Cell.render) ++ bs ")") :=
    ((l2s_infix_joinComma hb).append_left _).append_right _
  have h2 : L2sInfix b (joinComma ((insRows bcs numRows).map
      fun r => bs "(" ++ joinComma (r.map Cell.render) ++ bs ")")) :=
    h1.trans (l2s_infix_joinComma (List.mem_map.2 ⟨_, hrow, rfl⟩))
  show L2sInfix b (bs "(" ++ joinComma (insNames bcs) ++ bs ") VALUES " ++ _)
  exact h2.append_left _

end Sqlair
