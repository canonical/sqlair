/-
  L2Sound/Tokens: two projections of the guard `tokensGuards` (`Spec/L2Tokens.lean`) under which the token-scanning
  predicates `holdsC03` / `holdsC05` of `Spec/L2.lean` are evaluated (`cleanForTokens segs && tagsClean tt`
  alone is not enough: `Props/L2Tokens.lean` has kernel-checked false alarms), and the half of `holdsC05` that
  does not scan the text: an output node with at least one type is bound to at least one output column
  (`NodeTyped.output_ne`; needs that every tag of a struct info names a field, `TokInfosOK`, true of `generateArgInfo`).
-/
import SqlairModel.Spec.L2Tokens
import SqlairProofs.L2Sound.EvalAttr
import SqlairProofs.E2E.Nodes
import SqlairProofs.Typed.Samples

namespace Sqlair

variable {tt : TypeTable} {segs : List OSeg} {samples : List (Option Nat)} {C : Cls}

attribute [l2s_eval] tokensGuards tokNoWord

theorem tok_outputsTyped_of_guards (h : tokensGuards tt segs = true) :
    outputsTyped segs = true := by
  unfold tokensGuards at h
  unfold outputsTyped
  simp only [Bool.and_eq_true, List.all_eq_true, Bool.or_eq_true] at h ⊢
  exact fun s hs => (h.2 s hs).imp id (·.1.1)

theorem tok_clean_of_guards {tt : TypeTable} {segs : List OSeg} (h : tokensGuards tt segs = true) :
    cleanForTokens segs = true ∧ tagsClean tt = true := by
  unfold tokensGuards at h
  simp only [Bool.and_eq_true] at h
  exact h.1.1.1

def TokInfosOK (infos : List (Bytes × ArgInfo)) : Prop :=
  ∀ p ∈ infos, ∀ tid n fields tags, p.2 = .struct tid n fields tags → ∀ t ∈ tags, ∃ f ∈ fields, f.tag = t

theorem tok_infosOK {infos : List (Bytes × ArgInfo)}
    (h : generateArgInfo C tt samples [] = .ok infos) : TokInfosOK infos := by
  intro p hp tid n fields tags he t ht
  obtain ⟨tid', _, _, hg, _⟩ := generateArgInfo_mem_sample h hp
  rw [← getArgInfo_ok_iff, he] at hg
  obtain ⟨_, _, _, _, rfl, _⟩ := getArgInfo_struct hg
  have := mem_sortBytes ht
  simpa [List.mem_map] using this

theorem starRes_ne {infos : List (Bytes × ArgInfo)} {ty : Bytes} {ms : List (Loc × Bytes)}
    (h : starRes infos ty = .ok ms) (hok : TokInfosOK infos) : ms ≠ [] := by
  obtain ⟨a, hl, hga⟩ := starRes_ok.1 h
  unfold ArgInfo.getAll at hga
  split at hga
  · rename_i tid n fields tags
    split at hga
    · cases hga
    · rename_i hne
      cases hga
      cases tags with
      | nil => simp at hne
      | cons t rest =>
        -- the first tag names a field, so the first lookup succeeds
        obtain ⟨f, hf, hft⟩ := hok _ (lookupRes_mem hl) _ _ _ _ rfl t (by simp)
        obtain ⟨f', hf'⟩ := Option.isSome_iff_exists.1
          (List.find?_isSome.2 ⟨f, hf, by simp [hft]⟩ : (fields.find? (fun f => f.tag == t)).isSome = true)
        intro hnil
        simp [hf'] at hnil
  · cases hga
  · cases hga

/-- in each of the three forms of `NodeTyped.output` the list mapped over is not empty and the result for its first
    element has a column: the first type (`starRes_ne` for `&T.*`), else a written column, which gives exactly one -/
theorem NodeTyped.output_ne {infos : List (Bytes × ArgInfo)} {s : OSeg} {e : TExpr} (h : NodeTyped infos s e)
    (hk : s.kind = .output) (hok : TokInfosOK infos) (ht : s.types ≠ []) :
    ∃ cols, e = .output cols ∧ cols ≠ [] := by
  have first : ∀ {α β : Type} {f : α → Except String (List (Bytes × Loc) × β)} {l : List α} {rs}, l.mapM f = .ok rs →
      l ≠ [] → (∀ c r, f c = .ok r → r.1 ≠ []) → rs.flatMap (·.1) ≠ [] := by
    intro α β f l rs hm hne hf
    obtain ⟨c, l', rfl⟩ := List.exists_cons_of_ne_nil hne
    obtain ⟨r, rs', hr, _, rfl⟩ := mapM_cons_ok_iff.1 hm
    exact fun hn => hf c r hr (List.append_eq_nil_iff.1 hn).1
  have one : ∀ {β : Type} {x : Except String Loc} {g : Loc → List (Bytes × Loc) × β} {r}, x.map g = .ok r →
      (∀ l, (g l).1 ≠ []) → r.1 ≠ [] := fun hr hg => by
    obtain ⟨l, _, rfl⟩ := map_ok_inv hr
    exact hg l
  rcases h.output hk with ⟨_, rs, hm, rfl⟩ | ⟨hne, t, rs, _, hm, rfl⟩ | ⟨hne, hl, rs, hm, rfl⟩
  · refine ⟨_, rfl, first hm ht fun t r hr => ?_⟩
    rcases accRes_ok.1 hr with ⟨_, ms, hms, rfl⟩ | ⟨_, l, _, rfl⟩
    · simpa using starRes_ne hms hok
    · exact List.cons_ne_nil _ _
  · exact ⟨_, rfl, first hm hne fun c r hr => one hr fun _ => List.cons_ne_nil _ _⟩
  · refine ⟨_, rfl, first hm (fun hz => ?_) fun c r hr => one hr fun _ => List.cons_ne_nil _ _⟩
    have := congrArg List.length hz
    rw [List.length_zip, ← hl, Nat.min_self] at this
    exact hne (List.length_eq_zero_iff.1 this)

theorem tok_bindTypes_output
    {tes : List TExpr} (h : bindTypes C tt segs samples = .ok tes) (hty : outputsTyped segs = true)
    (hex : hasOutputSeg segs = true) : ∃ cols, TExpr.output cols ∈ tes ∧ cols ≠ [] := by
  obtain ⟨s, hs, hk⟩ := List.any_eq_true.1 hex
  have hk : s.kind = .output := by simpa using hk
  have ht : s.types ≠ [] := fun hnil => by
    have := List.all_eq_true.1 hty s hs
    simp [hk, hnil] at this
  obtain ⟨infos, hg, hc⟩ := bindTypes_typed h
  obtain ⟨e, he, hn⟩ := hc.mem hs
  obtain ⟨cols, rfl, hne⟩ := hn.output_ne hk (tok_infosOK hg) ht
  exact ⟨cols, he, hne⟩

theorem tok_output_node
    {tes : List TExpr} (h : bindTypes C tt segs samples = .ok tes) {cols : List (Bytes × Loc)}
    (hm : TExpr.output cols ∈ tes) : hasOutputSeg segs = true := by
  obtain ⟨s, hs, hn⟩ := (bindTypes_exprs h).mem_right hm
  refine List.any_eq_true.2 ⟨s, hs, ?_⟩
  cases hk : s.kind <;> simp [NodeExpr, hk] at hn ⊢

end Sqlair
