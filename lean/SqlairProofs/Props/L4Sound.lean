/-
  L4Sound: the observation-level predicates of Spec/L4 are theorems of the model.

  For EVERY well-formed case `c` (all strings, all numbers, all call sequences) the observation
  the model itself predicts, `predObs c (predict c)`, satisfies `holdsC13`, `holdsC14`,
  `holdsC15`, `holdsC12`, `holdsC20`, `holdsC09tx`, and `diffs` reports no disagreement.
  Hence no predicate can raise a false alarm on an implementation that agrees with the model.

  `CaseWF` (SqlairProofs/L4Sound/Defs.lean) asks far less than the harness generator (`genL4` /
  `genL4Pair`, harness/cmd/harness/l4.go) guarantees; `l4s_genWF`, also in Defs.lean, describes the generator's
  cases (short of the destination forms "validdeep", "validnil" and, with `iter`, "validmap" / "validraw"; `CaseWF`
  does not look at `dests`) and is shown to imply it (`l4s_genWF_caseWF`).  `holdsC15`, `holdsC09tx` and `diffs`
  hold without well-formedness (`holdsC15_model`, `holdsC09tx_model` take the hypothesis only to have the shape of
  the others and do not use it).

  Every clause of `CaseWF` is needed: the `…_counterexample_illformed…` theorems below give,
  for each clause, an ill-formed case (none of which the generator can produce) on which a
  predicate is FALSE of the model's own prediction.

  Where the model leaves something open — with concurrent finishers it does not predict which
  one reaches the driver — the theorems hold for every admissible completion (`predObsW win`,
  `win` any finisher event); `predObs` is the completion with `commit`.
-/
import SqlairProofs.L4Sound.C13
import SqlairProofs.L4Sound.C14
import SqlairProofs.L4Sound.C15
import SqlairProofs.L4Sound.C20

namespace Sqlair.Rt

theorem l4s_genWF_caseWF (c : Case) (h : l4s_genWF c = true) : CaseWF c := by
  unfold l4s_genWF at h
  unfold CaseWF l4s_caseWF
  simp only [Bool.or_eq_true] at h
  rcases h with h | h
  · unfold l4s_genPair at h
    simp only [Bool.and_eq_true, and_assoc] at h
    obtain ⟨hop, hpath, _, _, hout, _⟩ := h
    simp only [beq_iff_eq] at hop hpath
    simp only [Bool.or_eq_true, beq_iff_eq] at hout
    have htx : c.onTx = false := by unfold Case.onTx; rw [hpath]; decide +kernel
    simp only [hop, beq_self_eq_true, if_true, htx, Bool.not_false, Bool.true_and, Bool.or_eq_true,
      Bool.and_eq_true, bne_iff_ne, ne_eq]
    rcases hout with h | h
    · exact .inl h
    · right; rw [h]; exact ⟨by decide, by decide⟩
  · unfold l4s_genSingle at h
    simp only [Bool.and_eq_true, and_assoc] at h
    -- of the conjuncts of `l4s_genSingle`: the transaction block (6th), the operation (7th), `beginCancel` (15th)
    obtain ⟨_, _, _, _, _, htx, hop, _, _, _, _, _, _, _, hbc, _⟩ := h
    simp only [Bool.or_eq_true, beq_iff_eq] at hop
    have hnp : (c.op == "pair") = false := by
      rcases hop with ((h | h) | h) | h <;> rw [h] <;> decide
    have hop' : (c.op == "run" || c.op == "get" || c.op == "getall" || c.op == "iter") = true := by
      rcases hop with ((h | h) | h) | h <;> rw [h] <;> decide
    simp only [hnp, Bool.false_eq_true, if_false, hop', Bool.true_and]
    cases hon : c.onTx
    · rfl
    · simp only [hon, if_true, Bool.and_eq_true, Bool.not_eq_true', bne_iff_ne, ne_eq, and_assoc] at htx
      obtain ⟨hte, hfin, _, _⟩ := htx
      simp only [Bool.not_true, Bool.false_or, Bool.and_eq_true]
      refine ⟨⟨hte, by simp [hfin]⟩, ?_⟩
      cases hb : c.beginCancel
      · rfl
      · simp only [hb, Bool.not_true, Bool.false_or, Bool.and_eq_true, and_assoc] at hbc
        simp only [Bool.not_true, Bool.false_or, Bool.or_eq_true]
        exact .inl hbc.2.1

/-! ## the predicates are theorems of the model -/

theorem holdsC13_modelW (win : String) (hwin : isFinisher win = true) (c : Case) (hwf : CaseWF c) :
    holdsC13 c (predObsW win c (predict c)) = true :=
  l4s_predict_cases (motive := fun p => holdsC13 c (predObsW win c p) = true) c (l4s_holdsC13_pair win)
    (l4s_holdsC13_single hwin hwf)

theorem holdsC14_modelW (win : String) (hwin : isFinisher win = true) (c : Case) (hwf : CaseWF c) :
    holdsC14 c (predObsW win c (predict c)) = true :=
  l4s_predict_cases (motive := fun p => holdsC14 c (predObsW win c p) = true) c (fun h => l4s_holdsC14_pair win h _)
    (fun _ => l4s_holdsC14_single hwin hwf)

theorem holdsC15_modelW (win : String) (c : Case) : holdsC15 c (predObsW win c (predict c)) = true :=
  l4s_predict_cases (motive := fun p => holdsC15 c (predObsW win c p) = true) c (fun h => l4s_holdsC15_pair win h _)
    (fun _ => l4s_holdsC15_single win c)

theorem holdsC12_modelW (win : String) (hwin : isFinisher win = true) (c : Case) (hwf : CaseWF c) :
    holdsC12 c (predObsW win c (predict c)) = true :=
  l4s_predict_cases (motive := fun p => holdsC12 c (predObsW win c p) = true) c (l4s_holdsC12_pair win hwf)
    (l4s_holdsC12_single hwin hwf)

theorem holdsC20_modelW (win : String) (hwin : isFinisher win = true) (c : Case) (hwf : CaseWF c) :
    holdsC20 c (predObsW win c (predict c)) = true :=
  l4s_predict_cases (motive := fun p => holdsC20 c (predObsW win c p) = true) c (l4s_holdsC20_pair win hwf)
    (l4s_holdsC20_single hwin hwf)

theorem holdsC09tx_modelW (win : String) (c : Case) : holdsC09tx c (predObsW win c (predict c)) = true :=
  l4s_holdsC09tx win c _

theorem diffs_modelW (win : String) (hwin : isFinisher win = true) (c : Case) :
    diffs c (predict c) (predObsW win c (predict c)) = [] :=
  l4s_predict_cases (motive := fun p => diffs c p (predObsW win c p) = []) c (l4s_diffs_pair win)
    (fun h => l4s_diffs_single hwin h _)

/-- C13: the predicate the harness evaluates on observations, `holdsC13`, holds of the observation the
    model itself predicts (`predObs c (predict c)`), for every well-formed case (`CaseWF`). -/
theorem holdsC13_model (c : Case) (hwf : CaseWF c) : holdsC13 c (predObs c (predict c)) = true :=
  holdsC13_modelW "commit" (by decide) c hwf

theorem holdsC14_model (c : Case) (hwf : CaseWF c) : holdsC14 c (predObs c (predict c)) = true :=
  holdsC14_modelW "commit" (by decide) c hwf

theorem holdsC15_model (c : Case) (_hwf : CaseWF c) : holdsC15 c (predObs c (predict c)) = true :=
  holdsC15_modelW "commit" c

theorem holdsC12_model (c : Case) (hwf : CaseWF c) : holdsC12 c (predObs c (predict c)) = true :=
  holdsC12_modelW "commit" (by decide) c hwf

theorem holdsC20_model (c : Case) (hwf : CaseWF c) : holdsC20 c (predObs c (predict c)) = true :=
  holdsC20_modelW "commit" (by decide) c hwf

theorem holdsC09tx_model (c : Case) (_hwf : CaseWF c) : holdsC09tx c (predObs c (predict c)) = true :=
  holdsC09tx_modelW "commit" c

theorem diffs_model (c : Case) : diffs c (predict c) (predObs c (predict c)) = [] :=
  diffs_modelW "commit" (by decide) c

theorem l4_model_passes (c : Case) (hwf : CaseWF c) :
    diffs c (predict c) (predObs c (predict c)) = [] ∧
    holdsC09tx c (predObs c (predict c)) = true ∧ holdsC12 c (predObs c (predict c)) = true ∧
    holdsC13 c (predObs c (predict c)) = true ∧ holdsC14 c (predObs c (predict c)) = true ∧
    holdsC15 c (predObs c (predict c)) = true ∧ holdsC20 c (predObs c (predict c)) = true :=
  ⟨diffs_model c, holdsC09tx_model c hwf, holdsC12_model c hwf, holdsC13_model c hwf, holdsC14_model c hwf,
    holdsC15_model c hwf, holdsC20_model c hwf⟩

/-- C13: on every case the harness generator can produce (`l4s_genWF`) the model's own observation shows
    no `diffs` and passes `holdsC09tx`, `holdsC12`, `holdsC13`, `holdsC14`, `holdsC15`, `holdsC20`. -/
theorem l4_model_passes_generated (c : Case) (h : l4s_genWF c = true) :
    diffs c (predict c) (predObs c (predict c)) = [] ∧
    holdsC09tx c (predObs c (predict c)) = true ∧ holdsC12 c (predObs c (predict c)) = true ∧
    holdsC13 c (predObs c (predict c)) = true ∧ holdsC14 c (predObs c (predict c)) = true ∧
    holdsC15 c (predObs c (predict c)) = true ∧ holdsC20 c (predObs c (predict c)) = true :=
  l4_model_passes c (l4s_genWF_caseWF c h)

/-! ## every clause of `CaseWF` is needed -/

def l4s_base : Case :=
  { hasOutputs := true, path := "db", ctx := "marker", nrows := 0, badRow := none, fetchErrAt := none,
    closeErr := false, prepareErr := false, runErr := false, txEnd := "", finishers := [], concurrent := 0,
    op := "run", dests := "", calls := [], cancelAt := none }

/-- a transaction nobody ends: the connection stays in use (C13) and there is no finisher
    event (C12).  The generator always gives a transaction 1–3 finishers. -/
def l4s_illNoFinisher : Case := { l4s_base with path := "tx", txEnd := "after" }

theorem holdsC13_counterexample_illformed :
    ¬ CaseWF l4s_illNoFinisher ∧ l4s_genWF l4s_illNoFinisher = false ∧
    holdsC13 l4s_illNoFinisher (predObs l4s_illNoFinisher (predict l4s_illNoFinisher)) = false ∧
    holdsC12 l4s_illNoFinisher (predObs l4s_illNoFinisher (predict l4s_illNoFinisher)) = false := by
  decide +kernel

/-- an operation name the model does not know is treated as an iteration that is never closed -/
def l4s_illOp : Case := { l4s_base with op := "bogus", nrows := 1 }

theorem holdsC13_counterexample_illformed_op :
    ¬ CaseWF l4s_illOp ∧ l4s_genWF l4s_illOp = false ∧
    holdsC13 l4s_illOp (predObs l4s_illOp (predict l4s_illOp)) = false := by
  decide +kernel

/-- beginCancel together with a transaction ended before the operation: the first finisher
    succeeds although C12 then expects every finisher to fail.  The generator sets beginCancel
    only with txEnd = "after". -/
def l4s_illBeginCancel : Case :=
  { l4s_base with
    path := "tx", txEnd := "between", finishers := ["commit"]
    beginCancel := true }

theorem holdsC12_counterexample_illformed :
    ¬ CaseWF l4s_illBeginCancel ∧ l4s_genWF l4s_illBeginCancel = false ∧
    holdsC12 l4s_illBeginCancel (predObs l4s_illBeginCancel (predict l4s_illBeginCancel)) = false := by
  decide +kernel

/-- a transaction whose end is not placed: the finishers are never called, so there is no
    finisher event (C12) and the connection stays in use (C13) -/
def l4s_illTxEnd : Case := { l4s_base with path := "tx", finishers := ["commit"] }

theorem holdsC12_counterexample_illformed_txEnd :
    ¬ CaseWF l4s_illTxEnd ∧ l4s_genWF l4s_illTxEnd = false ∧
    holdsC12 l4s_illTxEnd (predObs l4s_illTxEnd (predict l4s_illTxEnd)) = false ∧
    holdsC13 l4s_illTxEnd (predObs l4s_illTxEnd (predict l4s_illTxEnd)) = false := by
  decide +kernel

/-- a pair case on a transaction path: the pair scenario has no transaction, C12 finds no
    `begin`.  The generator fixes the path of pair cases to "db". -/
def l4s_illPairTx : Case := { l4s_base with op := "pair", path := "tx", pairOp := "run", aEnd := "cancel" }

theorem holdsC12_counterexample_illformed_pair :
    ¬ CaseWF l4s_illPairTx ∧ l4s_genWF l4s_illPairTx = false ∧
    holdsC12 l4s_illPairTx (predObs l4s_illPairTx (predict l4s_illPairTx)) = false := by
  decide +kernel

/-- a pair case whose B is a Get on a statement without outputs: the Get is refused before
    anything runs, so B makes no driver call and C20 misses B's prepare / exec.  The generator
    turns B into a Run when the statement has no outputs. -/
def l4s_illPairGet : Case :=
  { l4s_base with op := "pair", hasOutputs := false, pairOp := "get", aEnd := "cancel" }

theorem holdsC20_counterexample_illformed_pair :
    ¬ CaseWF l4s_illPairGet ∧ l4s_genWF l4s_illPairGet = false ∧
    holdsC20 l4s_illPairGet (predObs l4s_illPairGet (predict l4s_illPairGet)) = false := by
  refine ⟨by decide +kernel, by decide +kernel, ?_⟩
  have hop : l4s_illPairGet.op = "pair" := rfl
  have hk := (l4s_pair_kindsWith "commit" hop).2
  have hevB : (predictPair l4s_illPairGet).evB = [] := by decide +kernel
  rw [hevB] at hk
  rw [l4s_predict_pair hop]
  unfold holdsC20
  have hk' : (predObs l4s_illPairGet (predictPair l4s_illPairGet)).kindsWith l4s_illPairGet.markB = [] := hk
  simp only [hop, beq_self_eq_true, if_true, hk']
  decide +kernel

/-! ## non-vacuity: concrete well-formed cases, and wrong observations the predicates reject -/

def l4s_exGetAll : Case := { l4s_base with op := "getall", dests := "valid", nrows := 3, fetchErrAt := some 2 }

def l4s_exIter : Case :=
  { l4s_base with
    op := "iter", nrows := 2, closeErr := true
    calls := ["next", "get", "next", "getinvalid", "close", "close"] }

def l4s_exTx : Case :=
  { l4s_base with
    path := "txcached", op := "get", dests := "valid", nrows := 1, txEnd := "after"
    finishers := ["commit", "rollback"] }

def l4s_exCtx : Case := { l4s_base with ctx := "cancelled-before", hasOutputs := false }

def l4s_exNoRows : Case := { l4s_base with op := "get", dests := "valid" }

def l4s_exPair : Case := { l4s_base with op := "pair", pairOp := "getall", aEnd := "cancel", nrows := 2 }

theorem l4s_ex_wf : CaseWF l4s_exGetAll ∧ CaseWF l4s_exIter ∧ CaseWF l4s_exTx ∧ CaseWF l4s_exCtx ∧ CaseWF l4s_exNoRows ∧
    CaseWF l4s_exPair := by decide +kernel

example : CaseWF l4s_exGetAll ∧ CaseWF l4s_exIter ∧ CaseWF l4s_exTx ∧ CaseWF l4s_exCtx ∧ CaseWF l4s_exNoRows ∧
    CaseWF l4s_exPair := l4s_ex_wf
example : l4s_genWF l4s_exGetAll = true ∧ l4s_genWF l4s_exIter = true ∧ l4s_genWF l4s_exTx = true ∧
    l4s_genWF l4s_exCtx = true ∧ l4s_genWF l4s_exNoRows = true ∧ l4s_genWF l4s_exPair = true := by decide +kernel

/-! What the model predicts for each fixture and which deviations each predicate rejects, stated per fixture so that
    the kernel evaluates `predict` on it once; the examples further down are projections. -/

theorem l4s_exGetAll_evals :
    ((predict l4s_exGetAll).returns = ["inj:3"] ∧
      (predict l4s_exGetAll).appended = [] ∧
      (predict l4s_exGetAll).log = [.prepare, .query, .next, .next, .next, .rowsClose]) ∧
    (holdsC13 l4s_exGetAll { predObs l4s_exGetAll (predict l4s_exGetAll) with inUse := 1 } = false) ∧
    (holdsC13 l4s_exGetAll { predObs l4s_exGetAll (predict l4s_exGetAll)
      with events := ["prepare", "query", "next", "next", "next"] } = false) ∧
    (holdsC14 l4s_exGetAll { predObs l4s_exGetAll (predict l4s_exGetAll) with returns := [""] } = false) ∧
    (holdsC15 l4s_exGetAll { predObs l4s_exGetAll (predict l4s_exGetAll) with appended := [1, 2] } = false) := by
  decide +kernel

theorem l4s_exIter_evals :
    ((predict l4s_exIter).returns = ["true", "row:1", "true", "wrapped(sqlair:scan-args)", "inj:4", "inj:4"]) ∧
    (holdsC14 l4s_exIter { predObs l4s_exIter (predict l4s_exIter)
      with returns := ["true", "row:1", "true", "wrapped(sqlair:scan-args)", "inj:4", ""] } = false) ∧
    (holdsC14 l4s_exIter { predObs l4s_exIter (predict l4s_exIter)
      with returns := ["true", "row:2", "true", "wrapped(sqlair:scan-args)", "inj:4", "inj:4"] } = false) ∧
    (diffs l4s_exIter (predict l4s_exIter) { predObs l4s_exIter (predict l4s_exIter)
      with events := ["prepare", "query", "next", "next", "rowsClose", "rowsClose"] } ≠ []) := by
  decide +kernel

theorem l4s_exTx_evals :
    ((predict l4s_exTx).log = [.begin, .query, .next, .rowsClose, .commit] ∧
      (predict l4s_exTx).finish = ["", "txDone"] ∧
      (predict l4s_exTx).stored = 1) ∧
    (holdsC12 l4s_exTx { predObs l4s_exTx (predict l4s_exTx)
      with events := ["begin", "query", "next", "rowsClose", "commit", "rollback"] } = false) ∧
    (holdsC12 l4s_exTx { predObs l4s_exTx (predict l4s_exTx) with finish := ["", ""] } = false) ∧
    (holdsC09tx l4s_exTx { predObs l4s_exTx (predict l4s_exTx) with eventConn := [1, 2, 2, 2, 1] } = false) ∧
    (diffs l4s_exTx (predict l4s_exTx) { predObs l4s_exTx (predict l4s_exTx) with stored := 2 } ≠ []) := by
  decide +kernel

theorem l4s_exCtx_evals :
    (holdsC20 l4s_exCtx { predObs l4s_exCtx (predict l4s_exCtx) with events := ["prepare", "exec"] } = false) ∧
    (holdsC20 l4s_exCtx { predObs l4s_exCtx (predict l4s_exCtx) with returns := [""] } = false) := by
  decide +kernel

example : (predict l4s_exGetAll).returns = ["inj:3"] ∧ (predict l4s_exGetAll).appended = [] ∧
    (predict l4s_exGetAll).log = [.prepare, .query, .next, .next, .next, .rowsClose] :=
  l4s_exGetAll_evals.1
example : (predict l4s_exIter).returns =
    ["true", "row:1", "true", "wrapped(sqlair:scan-args)", "inj:4", "inj:4"] :=
  l4s_exIter_evals.1
example : (predict l4s_exTx).log = [.begin, .query, .next, .rowsClose, .commit] ∧
    (predict l4s_exTx).finish = ["", "txDone"] ∧ (predict l4s_exTx).stored = 1 :=
  l4s_exTx_evals.1

-- C13: a connection left in use; a result set never closed
example : holdsC13 l4s_exGetAll (predObs l4s_exGetAll (predict l4s_exGetAll)) = true :=
  holdsC13_model _ l4s_ex_wf.1
example : holdsC13 l4s_exGetAll { predObs l4s_exGetAll (predict l4s_exGetAll) with inUse := 1 } = false :=
  l4s_exGetAll_evals.2.1
example : holdsC13 l4s_exGetAll
    { predObs l4s_exGetAll (predict l4s_exGetAll) with events := ["prepare", "query", "next", "next", "next"] } = false :=
  l4s_exGetAll_evals.2.2.1

-- C14: a second Close returning something else, a row out of order, a fetch error reported as success
example : holdsC14 l4s_exIter (predObs l4s_exIter (predict l4s_exIter)) = true :=
  holdsC14_model _ l4s_ex_wf.2.1
example : holdsC14 l4s_exIter { predObs l4s_exIter (predict l4s_exIter) with
    returns := ["true", "row:1", "true", "wrapped(sqlair:scan-args)", "inj:4", ""] } = false :=
  l4s_exIter_evals.2.1
example : holdsC14 l4s_exIter { predObs l4s_exIter (predict l4s_exIter) with
    returns := ["true", "row:2", "true", "wrapped(sqlair:scan-args)", "inj:4", "inj:4"] } = false :=
  l4s_exIter_evals.2.2.1
example : holdsC14 l4s_exGetAll { predObs l4s_exGetAll (predict l4s_exGetAll) with returns := [""] } = false :=
  l4s_exGetAll_evals.2.2.2.1

-- C15: an empty result reported as success; rows appended although GetAll failed
example : holdsC15 l4s_exNoRows (predObs l4s_exNoRows (predict l4s_exNoRows)) = true :=
  holdsC15_model _ l4s_ex_wf.2.2.2.2.1
example : holdsC15 l4s_exNoRows { predObs l4s_exNoRows (predict l4s_exNoRows) with returns := [""] } = false := by
  decide +kernel
example : holdsC15 l4s_exGetAll { predObs l4s_exGetAll (predict l4s_exGetAll) with appended := [1, 2] } = false :=
  l4s_exGetAll_evals.2.2.2.2

-- C12: two finisher events; a second finisher that succeeds
example : holdsC12 l4s_exTx (predObs l4s_exTx (predict l4s_exTx)) = true :=
  holdsC12_model _ l4s_ex_wf.2.2.1
example : holdsC12 l4s_exTx { predObs l4s_exTx (predict l4s_exTx) with
    events := ["begin", "query", "next", "rowsClose", "commit", "rollback"] } = false :=
  l4s_exTx_evals.2.1
example : holdsC12 l4s_exTx { predObs l4s_exTx (predict l4s_exTx) with finish := ["", ""] } = false :=
  l4s_exTx_evals.2.2.1

-- C09: an event on another connection
example : holdsC09tx l4s_exTx (predObs l4s_exTx (predict l4s_exTx)) = true :=
  holdsC09tx_model _ l4s_ex_wf.2.2.1
example : holdsC09tx l4s_exTx { predObs l4s_exTx (predict l4s_exTx) with eventConn := [1, 2, 2, 2, 1] } = false :=
  l4s_exTx_evals.2.2.2.1

-- C20: a statement executed although the context was done, or success reported; B reporting A's context error
example : holdsC20 l4s_exCtx (predObs l4s_exCtx (predict l4s_exCtx)) = true :=
  holdsC20_model _ l4s_ex_wf.2.2.2.1
example : holdsC20 l4s_exCtx { predObs l4s_exCtx (predict l4s_exCtx) with events := ["prepare", "exec"] } = false :=
  l4s_exCtx_evals.1
example : holdsC20 l4s_exCtx { predObs l4s_exCtx (predict l4s_exCtx) with returns := [""] } = false :=
  l4s_exCtx_evals.2
example : holdsC20 l4s_exPair (predObs l4s_exPair (predict l4s_exPair)) = true :=
  holdsC20_model _ l4s_ex_wf.2.2.2.2.2
example : holdsC20 l4s_exPair { predObs l4s_exPair (predict l4s_exPair) with returns := ["ctx", "ctx"] } = false := by
  decide +kernel

-- diffs: a wrong stored row, a result set closed twice
example : diffs l4s_exTx (predict l4s_exTx) (predObs l4s_exTx (predict l4s_exTx)) = [] := diffs_model _
example : diffs l4s_exTx (predict l4s_exTx) { predObs l4s_exTx (predict l4s_exTx) with stored := 2 } ≠ [] :=
  l4s_exTx_evals.2.2.2.2
example : diffs l4s_exIter (predict l4s_exIter) { predObs l4s_exIter (predict l4s_exIter) with
    events := ["prepare", "query", "next", "next", "rowsClose", "rowsClose"] } ≠ [] :=
  l4s_exIter_evals.2.2.2

end Sqlair.Rt
