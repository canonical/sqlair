/-
  Runtime properties of the model of sqlair.go (SqlairModel/Runtime.lean):
  C14 (iterator protocol), C15 (Get / GetAll), C13 (release on every path),
  C12 (transactions), C20 (context), and for C18 that the fuel of the `GetAll` loop never runs out
  (`getAll_fuel_never_exhausted`).  The statements hold for every script, world and call sequence; of an iterator
  in mid-use at most `Iter.WF` is assumed, which every reachable state has (`reachable_WF`).
-/
import SqlairProofs.Runtime.Get
import SqlairProofs.Runtime.GetAll
import SqlairProofs.Runtime.Tx

namespace Sqlair.Rt

/-! ### scripts of the non-vacuity examples -/

def sMixed : Script :=
  { hasOutputs := true, fetch := [.ok { id := 1 }, .error (.inj 3), .ok { id := 2 }], closeErr := some (.inj 4) }
def sGood : Script :=
  { hasOutputs := true, fetch := [.ok { id := 1 }, .ok { id := 2 }, .ok { id := 3 }] }
def sBadScan : Script :=
  { hasOutputs := true, fetch := [.ok { id := 1 }, .ok { id := 2, scanOK := false }, .ok { id := 3 }] }
def sEmpty : Script := { hasOutputs := true }
def sExecTx : Script := { hasOutputs := false, onTx := true, result := 7 }
def sCtx : Script := { hasOutputs := true, ctxDone := true, fetch := [.ok { id := 1 }] }
def sTxDone : Script := { hasOutputs := true, onTx := true, txDone := true, fetch := [.ok { id := 1 }] }

def it0 (s : Script) : Iter := (iterOpen s {}).1
def w0 (s : Script) : World := (iterOpen s {}).2

/-! ## C14 — iterator protocol -/

/-- C14: after a `Close` returning `e`, whatever is called afterwards, every later `Close`
    returns `e` again and the world (driver log, connections) stays exactly as the first
    `Close` left it.  No well-formedness of the iterator state is assumed. -/
theorem close_idempotent {it it1 it2 : Iter} {w w1 w2 : World} {e : Option Err} {cs : List Call}
    {outs : List Out} (h1 : it.close w = (it1, w1, e)) (h2 : run it1 w1 cs = (it2, w2, outs)) :
    (it2.close w2).2.2 = e ∧ (it2.close w2).2.1 = w1 ∧ (∀ e', Out.closed e' ∈ outs → e' = e) := by
  have hr : it1.rows = none := by have := Iter.close_rows it w; rwa [h1] at this
  have he : it1.err = e := by have := Iter.close_err it w; rwa [h1] at this
  obtain ⟨r1, r2, r3⟩ := run_of_rows_none hr w1 cs
  have hfin := run_closed_eq_final it1 w1 cs
  rw [h2] at r1 r2 r3 hfin
  rw [Iter.close_of_rows_none r1, r2, he] at hfin ⊢
  exact ⟨rfl, r3, hfin⟩

/-- C14: all `Close` calls of one call sequence return the same error, whatever the iterator state
    and whatever is called in between. -/
theorem close_results_agree (it : Iter) (w : World) (cs : List Call) (e1 e2 : Option Err)
    (h1 : Out.closed e1 ∈ (run it w cs).2.2) (h2 : Out.closed e2 ∈ (run it w cs).2.2) : e1 = e2 :=
  (run_closed_eq_final it w cs e1 h1).trans (run_closed_eq_final it w cs e2 h2).symm

example :
    (run (it0 sMixed) (w0 sMixed)
        [.next, .get .valid, .next, .close, .next, .get .valid, .close, .cancel, .close]).2.2 =
      [.bool true, .got (.row 1), .bool false, .closed (some (.inj 3)), .bool false,
       .got (.err (.inj 3)), .closed (some (.inj 3)), .none, .closed (some (.inj 3))] := by
  rfl

/-- C14: after a `Close` no call sequence changes the world: no driver event is logged and no
    connection moves. -/
theorem no_events_after_end {it it1 : Iter} {w w1 : World} {e : Option Err}
    (h1 : it.close w = (it1, w1, e)) (cs : List Call) :
    (run it1 w1 cs).2.1 = w1 ∧ (run it1 w1 cs).2.1.log = w1.log := by
  have hr : it1.rows = none := by have := Iter.close_rows it w; rwa [h1] at this
  have := (run_of_rows_none hr w1 cs).2.2
  exact ⟨this, by rw [this]⟩

example :
    (run (it0 sGood) (w0 sGood) [.next, .close]).2.1.log = [.prepare, .query, .next, .rowsClose] ∧
    (run (it0 sGood) (w0 sGood) [.next, .close, .next, .get .valid, .cancel, .close, .next]).2.1.log =
      [.prepare, .query, .next, .rowsClose] := by
  exact ⟨rfl, rfl⟩

/-- C14: once `Next` has returned false, every later `Next` returns false, whatever is
    called in between. -/
theorem next_false_sticky {it it1 it2 : Iter} {w w1 w2 : World} {cs : List Call} {outs : List Out}
    (h1 : it.next w = (it1, w1, false)) (h2 : run it1 w1 cs = (it2, w2, outs)) :
    (it2.next w2).2.2 = false ∧ (∀ b, Out.bool b ∈ outs → b = false) := by
  have hend : it1.ended = true := by
    have := Iter.ended_of_next_false it w (by rw [h1])
    rwa [h1] at this
  have r := run_ended hend w1 cs
  rw [h2] at r
  exact ⟨by rw [Iter.next_of_ended r.1], r.2⟩

example :
    (run (it0 sMixed) (w0 sMixed) [.next, .next, .next, .get .valid, .cancel, .next, .close, .next]).2.2 =
      [.bool true, .bool false, .bool false, .got (.err (.wrapped (.inj 3))), .none, .bool false,
       .closed (some (.inj 3)), .bool false] := by
  rfl

/-- C14: the rows made current by the successful `Next` calls of ANY call sequence
    (cancellations included) on a fresh iterator are a prefix of the rows the driver delivers
    before its first failure — in driver order, each at most once — which in turn are a
    prefix of all `.ok` rows of the script. -/
theorem rows_in_order_once (s : Script) (w : World) (cs : List Call) :
    delivered (iterOpen s w).1 (iterOpen s w).2 cs <+: (leadRows s.fetch).map (fun r => some r.id) ∧
      leadRows s.fetch <+: okRows s.fetch := by
  refine ⟨?_, leadRows_prefix_okRows _⟩
  cases hop : s.opensRows
  · rw [delivered_eq_nil (by rw [iterOpen_remaining, hop]; rfl)]; exact List.nil_prefix
  · simpa [iterOpen_remaining, hop] using delivered_prefix (iterOpen s w).1 (iterOpen s w).2 cs

/-- C14, completeness: if the statement ran, nothing closes or cancels the iteration and
    there are enough `Next` calls, every row before the driver's first failure is delivered;
    when no fetch fails these are all rows. -/
theorem rows_in_order_complete (s : Script) (w : World) (cs : List Call) (hs : s.opensRows = true)
    (hc : ∀ c ∈ cs, c ≠ .cancel ∧ c ≠ .close) (hn : (leadRows s.fetch).length ≤ cs.count .next) :
    delivered (iterOpen s w).1 (iterOpen s w).2 cs = (leadRows s.fetch).map (fun r => some r.id) := by
  have hrem := iterOpen_remaining s w
  simp only [hs, if_true] at hrem
  have := delivered_complete (iterOpen s w).1 (iterOpen s w).2 cs hc (by rw [hrem]; exact hn)
  rw [this, hrem]

theorem rows_in_order_all (s : Script) (w : World) (cs : List Call) (rows : List Row)
    (hs : s.opensRows = true) (hf : s.fetch = rows.map .ok)
    (hc : ∀ c ∈ cs, c ≠ .cancel ∧ c ≠ .close) (hn : rows.length ≤ cs.count .next) :
    delivered (iterOpen s w).1 (iterOpen s w).2 cs = rows.map (fun r => some r.id) := by
  have := rows_in_order_complete s w cs hs hc (by rw [hf, leadRows_map_ok]; exact hn)
  rw [this, hf, leadRows_map_ok]

theorem get_row_is_current {it : Iter} {a : GetArgs} {id : Nat} (h : it.get a = .row id) :
    it.curId = some id :=
  Iter.get_row_cur h

/-- C14: on a fresh iterator, whenever `Get` (after any call sequence, cancellations included)
    stores a row, it is the row made current by the last successful `Next` of that sequence. -/
theorem got_row_is_last_delivered (s : Script) (w : World) (cs : List Call) (a : GetArgs) (id : Nat)
    (h : (run (iterOpen s w).1 (iterOpen s w).2 cs).1.get a = .row id) :
    (delivered (iterOpen s w).1 (iterOpen s w).2 cs).getLast? = some (some id) := by
  have hcur := Iter.get_row_cur h
  rcases cur_is_last_delivered (iterOpen_WF s w) (iterOpen s w).2 cs [] (.inl (iterOpen_curId s w)) with h' | h'
  · rw [hcur] at h'; simp at h'
  · rw [hcur] at h'; simpa using h'

example : delivered (it0 sGood) (w0 sGood) [.next, .get .valid, .next, .next, .next, .next] = [some 1, some 2, some 3] := by
  rfl
example : delivered (it0 sMixed) (w0 sMixed) [.next, .next, .next, .next] = [some 1] := by rfl
example : delivered (it0 sGood) (w0 sGood) [.next, .cancel, .next, .next] = [some 1] := by rfl

/-- C14: on the iterator returned by `Query.Iter`, before any `Next`, `Get` with destinations
    (valid or not) or a nil Outcome is an error (the statement's error if it failed, else one
    of sqlair's own); `Get(&Outcome)` succeeds iff the statement ran. -/
theorem get_before_next_is_error (s : Script) (w : World) :
    (iterOpen s w).1.get .valid = .err (s.openErr.getD (.wrapped (.sqlair "get-before-next"))) ∧
    (iterOpen s w).1.get .invalid = .err (s.openErr.getD (.wrapped (.sqlair "get-before-next"))) ∧
    (iterOpen s w).1.get .nilOutcome = .err (s.openErr.getD (.wrapped (.sqlair "nil-outcome"))) ∧
    (s.runsOK = true →
      (iterOpen s w).1.get .outcome = .outcome (if s.hasOutputs then none else some s.result)) ∧
    (∀ e, s.openErr = some e → (iterOpen s w).1.get .outcome = .err e) := by
  have he := iterOpen_err s w
  have hs := iterOpen_started s w
  cases hoe : s.openErr with
  | none =>
    rw [hoe] at he
    have hro : s.runsOK = true := Script.runsOK_iff_openErr.2 hoe
    cases hout : s.hasOutputs <;> simp [Iter.get_of_not_started he hs, iterOpen_result, hro, hout]
  | some e =>
    rw [hoe] at he
    simp [Iter.get_of_err he, Script.runsOK_iff_openErr, hoe]

example : (it0 sGood).get .valid = .err (.wrapped (.sqlair "get-before-next")) ∧
    (it0 sExecTx).get .outcome = .outcome (some 7) ∧ (it0 sGood).get .outcome = .outcome none ∧
    (it0 sCtx).get .outcome = .err .ctx := ⟨rfl, rfl, rfl, rfl⟩

/-- C14, fetch failure: if a `Next` on a well-formed iterator consumes a driver fetch
    failure `e`, that `Next` returns false and — whatever is called afterwards — every `Close`
    returns `some e`.  (A well-formed iterator holding rows has no stored error, so `e` itself
    is reported.) -/
theorem early_end_reported_fetch {it it1 it2 : Iter} {w w1 w2 : World} {r : Rows} {e : Err}
    {rest : List (Except Err Row)} {b : Bool} {cs : List Call} {outs : List Out}
    (hwf : it.WF) (hr : it.rows = some r) (ho : r.closed = false) (hf : r.fetch = .error e :: rest)
    (h1 : it.next w = (it1, w1, b)) (h2 : run it1 w1 cs = (it2, w2, outs)) :
    b = false ∧ (it2.close w2).2.2 = some e ∧ (∀ e', Out.closed e' ∈ outs → e' = some e) := by
  have he := hwf.err_none hr
  obtain ⟨hb, hp⟩ := Iter.next_fetch_error he hr ho hf w
  have hwf1 := Iter.next_WF hwf w
  rw [h1] at hb hp hwf1
  have hc := run_closed_of_pending hwf1 hp w1 cs
  rw [h2] at hc
  exact ⟨hb, hc⟩

/-- C14, cancellation: if the context is cancelled while the rows of a well-formed
    iterator are open, every later `Close` returns the context's error. -/
theorem early_end_reported_cancel {it it1 it2 : Iter} {w w1 w2 : World} {r : Rows}
    {cs : List Call} {outs : List Out}
    (hwf : it.WF) (hr : it.rows = some r) (ho : r.closed = false)
    (h1 : it.cancel w = (it1, w1)) (h2 : run it1 w1 cs = (it2, w2, outs)) :
    (it2.close w2).2.2 = some .ctx ∧ (∀ e', Out.closed e' ∈ outs → e' = some .ctx) := by
  have he := hwf.err_none hr
  have hp := Iter.cancel_open he hr ho ((hwf.rows_wf r hr).lasterr_none ho) w
  have hwf1 := Iter.cancel_WF hwf w
  rw [h1] at hp hwf1
  have hc := run_closed_of_pending hwf1 hp w1 cs
  rw [h2] at hc
  exact hc

/-- the hypotheses of `early_end_reported_fetch` and `early_end_reported_cancel` are met by a reachable state:
    `sMixed` after its first `Next` -/
example :
    (run (it0 sMixed) (w0 sMixed) [.next]).1.WF ∧
    ∃ r rest, (run (it0 sMixed) (w0 sMixed) [.next]).1.rows = some r ∧ r.closed = false ∧
      r.fetch = .error (.inj 3) :: rest :=
  ⟨reachable_WF sMixed {} [.next], _, _, rfl, rfl, rfl⟩

/-- C14, from the script: if the driver fails with `e` after `oks.length` rows and a call
    sequence `cs1` without `Close`/cancel contains more than that many `Next`s, then after any
    further calls `cs2` a `Close` returns `some e`, as does every `Close` within `cs2`. -/
theorem early_end_reported_script (s : Script) (w : World) (oks : List Row) (e : Err)
    (rest : List (Except Err Row)) (cs1 cs2 : List Call)
    (hs : s.opensRows = true) (hf : s.fetch = oks.map .ok ++ .error e :: rest)
    (hc : ∀ c ∈ cs1, c ≠ .cancel ∧ c ≠ .close) (hn : oks.length < cs1.count .next) :
    (run (iterOpen s w).1 (iterOpen s w).2 (cs1 ++ cs2 ++ [.close])).2.2.getLast? = some (.closed (some e)) ∧
    (∀ e', Out.closed e' ∈ (run (iterOpen s w).1 (iterOpen s w).2 (cs1 ++ cs2)).2.2 → e' = some e) := by
  obtain ⟨he, hrows⟩ := iterOpen_of_opensRows hs w
  have hp := run_reaches_error (iterOpen_WF s w) he hrows rfl hf (iterOpen s w).2 cs1 hc hn
  obtain ⟨hfin, hall⟩ := run_closed_of_pending (run_WF (iterOpen_WF s w) (iterOpen s w).2 cs1) hp
    (run (iterOpen s w).1 (iterOpen s w).2 cs1).2.1 cs2
  have hfin' : ((run (iterOpen s w).1 (iterOpen s w).2 (cs1 ++ cs2)).1.close
      (run (iterOpen s w).1 (iterOpen s w).2 (cs1 ++ cs2)).2.1).2.2 = some e := by
    rw [run_append]; exact hfin
  constructor
  · rw [run_append _ _ (cs1 ++ cs2)]
    simp [run_cons, hfin']
  · exact fun e' he' => (run_closed_eq_final _ _ _ e' he').trans hfin'

example :
    (run (it0 sMixed) (w0 sMixed) [.next, .get .valid, .next, .next, .get .valid, .cancel, .close]).2.2.getLast?
      = some (.closed (some (.inj 3))) := by rfl
example :
    (run (it0 sGood) (w0 sGood) [.next, .cancel, .get .valid, .next, .close, .close]).2.2 =
      [.bool true, .none, .got (.err (.wrapped .ctx)), .bool false, .closed (some .ctx), .closed (some .ctx)] := by
  rfl

/-! ## C15 — Get / GetAll -/

theorem getAll_all_or_nothing (s : Script) (n : Nat) (v : Bool) (w : World) :
    (queryGetAll s n v w).1.err ≠ none → (queryGetAll s n v w).1.appended = [] := by
  rw [queryGetAll_result]; exact getAllSpec_all_or_nothing s n v

example : (queryGetAll sMixed 1 true {}).1 = { err := some (.inj 3), appended := [] } := by rfl
example : (queryGetAll sBadScan 1 true {}).1 = { err := some (.wrapped .scan), appended := [] } := by rfl

/-- C18, the row loop of `GetAll`: the fuel `queryGetAll` gives `getAllLoop` is never exhausted and the loop's
    "unreachable" branch is never taken (either would leave an unwrapped `.sqlair` error): the loop ends without
    error or with a wrapped `Get` error. -/
theorem getAll_fuel_never_exhausted (s : Script) (v : Bool) (w : World) :
    (getAllLoop (s.fetch.length + 2) (iterOpen s w).1 (iterOpen s w).2 [] v).2.2.2 = none ∨
    ∃ e, (getAllLoop (s.fetch.length + 2) (iterOpen s w).1 (iterOpen s w).2 [] v).2.2.2 = some (.wrapped e) :=
  (gaLoop_exit s v w).imp id fun ⟨e, h, _⟩ => ⟨e, h⟩

/-- C15: if `GetAll` on a statement with outputs reports success, then the statement
    ran without error, EVERY fetch succeeded, EVERY row converted, `Close` reported nothing,
    there was at least one row, and exactly the ids of all rows were appended, in order.
    (So a fetch failure at any row, a scan failure at any row, or a close error is never
    presented as success.) -/
theorem getAll_success_complete (s : Script) (n : Nat) (v : Bool) (w : World)
    (h : (queryGetAll s n v w).1.err = none) (ho : s.hasOutputs = true) :
    s.runsOK = true ∧ (∀ x ∈ s.fetch, ∃ row, x = .ok row ∧ row.scanOK = true) ∧ s.fetch ≠ [] ∧
      s.closeErr = none ∧ v = true ∧
      (queryGetAll s n v w).1.appended = (okRows s.fetch).map (·.id) := by
  rw [queryGetAll_result] at h ⊢
  rw [Script.runsOK_iff_openErr]; exact getAllSpec_success h ho

/-- C15, converse: the all-good case does succeed (so `getAll_success_complete` is not vacuous) -/
theorem getAll_success_of_all_ok (s : Script) (n : Nat) (w : World) (rows : List Row)
    (hs : s.opensRows = true) (hf : s.fetch = rows.map .ok) (hne : rows ≠ [])
    (hk : ∀ r ∈ rows, r.scanOK = true) (hce : s.closeErr = none) :
    (queryGetAll s n true w).1 = { err := none, appended := rows.map (·.id) } := by
  rw [queryGetAll_result, getAllSpec_all_ok hs hf hk, hce]; exact if_neg hne

/-- C14 / C15 (GetAll): a driver fetch failure reached after rows that all convert is
    returned by `GetAll` (instead of success or `ErrNoRows`). -/
theorem getAll_fetch_error_reported (s : Script) (n : Nat) (v : Bool) (w : World) (oks : List Row)
    (e : Err) (rest : List (Except Err Row))
    (hs : s.opensRows = true) (hf : s.fetch = oks.map .ok ++ .error e :: rest)
    (hk : ∀ r ∈ oks, r.scanOK = true) (hv : oks ≠ [] → v = true) :
    (queryGetAll s n v w).1 = { err := some e, appended := [] } := by
  rw [queryGetAll_result]; exact getAllSpec_fetch_error hs hf hk hv n

/-- C15 (GetAll): when the statement opens rows, every row is fetched and converts, and closing the
    rows fails with `e`, `GetAll` with valid destinations returns `e` and appends nothing. -/
theorem getAll_close_error_reported (s : Script) (n : Nat) (w : World) (rows : List Row) (e : Err)
    (hs : s.opensRows = true) (hf : s.fetch = rows.map .ok)
    (hk : ∀ r ∈ rows, r.scanOK = true) (hce : s.closeErr = some e) :
    (queryGetAll s n true w).1 = { err := some e, appended := [] } := by
  rw [queryGetAll_result, getAllSpec_all_ok hs hf hk, hce]

example : (queryGetAll sGood 1 true {}).1 = { err := none, appended := [1, 2, 3] } := by rfl
example : (queryGetAll { sGood with closeErr := some (.inj 4) } 1 true {}).1 = { err := some (.inj 4) } := by rfl

/-- C15, exact: all the ways `Get`/`Run` can return `ErrNoRows` in the model — the genuine
    one (statement with outputs ran, no row, nothing reported by close), or a driver that
    itself injects `ErrNoRows` at prepare/run/first fetch/close. -/
theorem get_noRows_iff_exact (s : Script) (c : GetCall) (w : World) :
    (queryGet s c w).1.err = some .noRows ↔
      ¬ (s.hasOutputs = false ∧ c.dests > 0) ∧
      (s.openErr = some .noRows ∨
       (s.openErr = none ∧ s.hasOutputs = true ∧
        ((s.fetch = [] ∧ (s.closeErr = none ∨ s.closeErr = some .noRows)) ∨
         (∃ rest, s.fetch = .error .noRows :: rest) ∨
         (∃ row rest, s.fetch = .ok row :: rest ∧ c.dests ≠ 0 ∧ c.destsValid = true ∧
            row.scanOK = true ∧ s.closeErr = some .noRows)))) := by
  rw [queryGet_result]; exact getSpec_noRows_iff_exact s c

/-- C15: with a driver that never injects `ErrNoRows` itself, `Get`/`Run` returns
    `ErrNoRows` iff the statement has outputs, ran without error, delivered no row at all
    (not even a failing fetch) and closing reported nothing; and then nothing is stored.
    GAP (hence `_partial`): without `NoInjectedNoRows` the equivalence is false — an injected
    `ErrNoRows` (prepare/run/first fetch/close) is passed on unchanged, see the counterexample
    below; `get_noRows_iff_exact` is the unconditional truth. -/
theorem get_noRows_iff_partial (s : Script) (c : GetCall) (w : World) (hinj : s.NoInjectedNoRows) :
    (queryGet s c w).1.err = some .noRows ↔
      s.hasOutputs = true ∧ s.runsOK = true ∧ s.fetch = [] ∧ s.closeErr = none := by
  rw [queryGet_result, Script.runsOK_iff_openErr]; exact getSpec_noRows_iff hinj c

theorem get_noRows_stores_nothing (s : Script) (c : GetCall) (w : World) (hinj : s.NoInjectedNoRows)
    (h : (queryGet s c w).1.err = some .noRows) : (queryGet s c w).1.stored = none := by
  rw [queryGet_result] at h ⊢; exact getSpec_noRows_stored hinj h

example : (queryGet sEmpty { dests := 1 } {}).1 = { err := some .noRows } := by rfl
example : sEmpty.NoInjectedNoRows := ⟨by decide, by decide, by decide, by simp [sEmpty]⟩
/-- the counterexample without `NoInjectedNoRows`: a close error equal to `ErrNoRows` is passed on although a row
    was fetched and stored -/
example : (queryGet { hasOutputs := true, fetch := [.ok { id := 1 }], closeErr := some .noRows } { dests := 1 } {}).1
    = { err := some .noRows, stored := some 1 } := by rfl
/-- a failing first fetch is not "no rows" -/
example : (queryGet { hasOutputs := true, fetch := [.error (.inj 3)] } { dests := 1 } {}).1 = { err := some (.inj 3) } := by
  rfl

/-- C15 (Get): if the statement opens rows, the first fetch delivers a row that converts and there are
    destinations, all valid, `Get` stores that row and returns exactly the close error. -/
theorem get_first_row (s : Script) (c : GetCall) (w : World) (row : Row) (rest : List (Except Err Row))
    (hs : s.opensRows = true) (hf : s.fetch = .ok row :: rest) (hk : row.scanOK = true)
    (hd : c.dests > 0) (hv : c.destsValid = true) :
    (queryGet s c w).1.stored = some row.id ∧ (queryGet s c w).1.err = s.closeErr ∧
      (queryGet s c w).1.outcome = (if c.outcome then some none else none) := by
  obtain ⟨ho, hoe⟩ := Script.opensRows_iff.1 hs
  have hd' : c.dests ≠ 0 := Nat.ne_of_gt hd
  rw [queryGet_result]
  simp [getSpec, ho, hoe, hf, hk, hv, hd']

/-- C14 / C15 (Get): a failing first fetch is what `Get`/`Run` returns -/
theorem get_fetch_error_reported (s : Script) (c : GetCall) (w : World) (e : Err)
    (rest : List (Except Err Row)) (hs : s.opensRows = true) (hf : s.fetch = .error e :: rest) :
    (queryGet s c w).1.err = some e ∧ (queryGet s c w).1.stored = none := by
  rw [queryGet_result, getSpec_fetch_error hs hf]; exact ⟨rfl, rfl⟩

example : (queryGet sMixed { dests := 1 } {}).1 = { err := some (.inj 4), stored := some 1 } := by rfl
example : (queryGet sGood { outcome := true, dests := 1 } {}).1 = { err := none, stored := some 1, outcome := some none } := by
  rfl

/-! ## C13 — release on every path -/

/-- what "a result set was opened" means: `Query.Iter` returns rows iff `opensRows`, i.e. iff the
    driver's Query was called (the `query` event is among those `Query.Iter` emits) and succeeded -/
theorem opens_rows_iff (s : Script) (w : World) :
    (iterOpen s w).1.rows.isSome = s.opensRows ∧
    (iterOpen s w).2.log = w.log ++ s.openEvents ∧
    (s.opensRows = true ↔ Ev.query ∈ s.openEvents ∧ s.runErr = none) := by
  refine ⟨?_, by rw [iterOpen_eq], Script.opensRows_iff_query s⟩
  rw [iterOpen_rows]
  cases h : s.opensRows
  · rw [Script.openRows_of_not_opensRows h]; rfl
  · rw [Script.openRows_of_opensRows h]; rfl

/-- C13 (Get/Run): on every path `Get` returns with as many connections in use as
    before, the driver log only grew, and the number of `rowsClose` events emitted equals the
    number of result sets opened: 1 if the driver's Query was called and succeeded
    (`Script.opensRows_iff_query`), else 0. -/
theorem queryGet_releases (s : Script) (c : GetCall) (w : World) :
    (queryGet s c w).2.inUse = w.inUse ∧
    ∃ evs, (queryGet s c w).2.log = w.log ++ evs ∧
      evs.count .rowsClose = if s.opensRows then 1 else 0 := by
  rcases queryGet_world s c w with ⟨h, ho, _⟩ | ⟨n, h, _⟩ <;> rw [h]
  · exact ⟨rfl, [], by simp, by simp [Script.not_opensRows_of_no_outputs ho]⟩
  · exact s.worldAt_released w n

/-- C13 (GetAll): on every path `GetAll` returns with as many connections in use as before, the driver
    log only grew, and it emitted one `rowsClose` event if a result set was opened, else none. -/
theorem queryGetAll_releases (s : Script) (n : Nat) (v : Bool) (w : World) :
    (queryGetAll s n v w).2.inUse = w.inUse ∧
    ∃ evs, (queryGetAll s n v w).2.log = w.log ++ evs ∧
      evs.count .rowsClose = if s.opensRows then 1 else 0 := by
  rcases queryGetAll_world s n v w with ⟨h, ho, _⟩ | ⟨k, h, _⟩ <;> rw [h]
  · exact ⟨rfl, [], by simp, by simp [Script.not_opensRows_of_no_outputs ho]⟩
  · exact s.worldAt_released w k

/-- C13 (Iterator): any call sequence containing a `Close` (anywhere — calls after it
    change nothing) leaves as many connections in use as before `Query.Iter`, and closes
    the result set exactly once if one was opened. -/
theorem iter_close_releases (s : Script) (w : World) (cs : List Call) (h : Call.close ∈ cs) :
    (run (iterOpen s w).1 (iterOpen s w).2 cs).2.1.inUse = w.inUse ∧
    ∃ evs, (run (iterOpen s w).1 (iterOpen s w).2 cs).2.1.log = w.log ++ evs ∧
      evs.count .rowsClose = if s.opensRows then 1 else 0 := by
  obtain ⟨n, hw, _⟩ := run_world_of_ended s w cs (run_ended_of_close _ _ cs h)
  rw [hw]
  exact s.worldAt_released w n

/-- C13 (Iterator): no call sequence after `Query.Iter` closes a result set twice, or closes one that
    was not opened: at most one `rowsClose` event if a result set was opened, else none. -/
theorem iter_closes_at_most_once (s : Script) (w : World) (cs : List Call) :
    ∃ evs, (run (iterOpen s w).1 (iterOpen s w).2 cs).2.1.log = w.log ++ evs ∧
      evs.count .rowsClose ≤ if s.opensRows then 1 else 0 := by
  obtain ⟨n, hw, _⟩ := (reach_run (iterOpen_reach s w) cs).world
  obtain ⟨evs, h1, h2⟩ := s.worldAt_closes w n (!(run (iterOpen s w).1 (iterOpen s w).2 cs).1.ended)
  exact ⟨evs, hw ▸ h1, by
    rw [h2]; cases s.opensRows <;> cases (run (iterOpen s w).1 (iterOpen s w).2 cs).1.ended <;> decide⟩

example : (queryGetAll sMixed 1 true { log := [.begin], inUse := 5 }).2.inUse = 5 ∧
    (queryGetAll sMixed 1 true {}).2.log = [.prepare, .query, .next, .next, .rowsClose] ∧
    sMixed.opensRows = true := ⟨rfl, rfl, rfl⟩
example : (run (it0 sGood) (w0 sGood) [.next]).2.1.inUse = 1 ∧
    (run (it0 sGood) (w0 sGood) [.next, .close, .close]).2.1.inUse = 0 := ⟨rfl, rfl⟩

/-! ## C12 — transactions -/

/-- C12, any sequence of Commit/Rollback calls on a live transaction: the first call
    alone reaches the driver (one event, connection released, the driver's answer returned);
    every later call returns `ErrTxDone` and does nothing. -/
theorem tx_finish_once (w : World) (c : FinCall) (rest : List FinCall) :
    runFinish {} w (c :: rest) =
      ({ done := true }, { log := w.log ++ [finEv c.1], inUse := w.inUse - 1 },
       c.2 :: rest.map fun _ => some .txDone) :=
  runFinish_fresh rfl w c rest

/-- C12: any non-empty sequence of Commit/Rollback calls on a live transaction emits exactly one
    driver event, a finisher (`commit` or `rollback`). -/
theorem tx_finish_one_event (w : World) (l : List FinCall) (hne : l ≠ []) :
    ∃ ev, ev.isFin = true ∧ (runFinish {} w l).2.1.log = w.log ++ [ev] := by
  cases l with
  | nil => exact absurd rfl hne
  | cons c rest => exact ⟨finEv c.1, finEv_isFin _, by rw [tx_finish_once]⟩

example : runFinish {} { log := [.begin], inUse := 1 } [(false, none), (true, none), (false, some (.inj 9))] =
    ({ done := true }, { log := [.begin, .rollback], inUse := 0 }, [none, some .txDone, some .txDone]) := by
  rw [tx_finish_once]; rfl

/-- C12: a statement on a finished transaction runs nothing: the world is untouched and
    the iterator carries `ErrTxDone` (or the context's error when that is looked at first). -/
theorem tx_done_runs_nothing (s : Script) (w : World) (h1 : s.onTx = true) (h2 : s.txDone = true) :
    (iterOpen s w).2 = w ∧ (iterOpen s w).1.rows = none ∧
      ((iterOpen s w).1.err = some .txDone ∨ ((iterOpen s w).1.err = some .ctx ∧ s.ctxDone = true)) := by
  have he := Script.openErr_of_txDone h1 h2
  refine ⟨iterOpen_world_of_no_events (Script.openEvents_of_txDone h1 h2) he w, ?_, ?_⟩
  · exact iterOpen_rows_none (Script.not_opensRows_of_openErr he) w
  · rw [iterOpen_err, he]
    cases s.cached <;> cases hc : s.ctxDone <;> simp

example : (iterOpen sTxDone { log := [.begin, .commit], inUse := 0 }).2.log = [.begin, .commit] ∧
    (it0 sTxDone).err = some .txDone := ⟨rfl, rfl⟩

/-- C12, n concurrent finishers, each one atomic compare-and-swap step (`TX.setDone`): in ANY order
    (any permutation `l'` of the calls `l`) exactly one finisher event is emitted, by one of
    the calls, which gets the driver's answer; all others get `ErrTxDone`. -/
theorem tx_finish_perm (w : World) (l l' : List FinCall) (hp : l'.Perm l) (hne : l ≠ []) :
    ∃ c ∈ l,
      (runFinish {} w l').2.1.log = w.log ++ [finEv c.1] ∧
      (runFinish {} w l').2.1.inUse = w.inUse - 1 ∧
      (runFinish {} w l').2.2 = c.2 :: List.replicate (l.length - 1) (some .txDone) := by
  cases l' with
  | nil => exact absurd (List.Perm.nil_eq hp) (fun h => hne h.symm)
  | cons c rest =>
    refine ⟨c, hp.subset (by simp), ?_⟩
    rw [tx_finish_once]
    refine ⟨rfl, rfl, ?_⟩
    have hlen : l.length = rest.length + 1 := by rw [← hp.length_eq]; simp
    simp only [hlen, Nat.add_sub_cancel]
    congr 1
    exact List.map_const' ..

/-- C12: exactly one call does not return `ErrTxDone`, provided the driver itself never
    answers a Commit/Rollback with `ErrTxDone`; without that proviso: at most one.
    GAP (hence `_partial`): if the driver answers the winner with `ErrTxDone`, every call
    returns `ErrTxDone` (the counterexample below); `tx_finish_perm` is the unconditional truth. -/
theorem tx_finish_perm_winner_partial (w : World) (l l' : List FinCall) (hp : l'.Perm l) (hne : l ≠ []) :
    ((runFinish {} w l').2.2.filter (fun e => decide (e ≠ some .txDone))).length ≤ 1 ∧
    ((∀ c ∈ l, c.2 ≠ some .txDone) →
      ((runFinish {} w l').2.2.filter (fun e => decide (e ≠ some .txDone))).length = 1) := by
  obtain ⟨c, hc, _, _, h3⟩ := tx_finish_perm w l l' hp hne
  rw [h3]
  have hrep : (List.replicate (l.length - 1) (some Err.txDone)).filter (fun e => decide (e ≠ some .txDone)) = [] := by
    rw [List.filter_eq_nil_iff]; intro a ha; simp [(List.mem_replicate.1 ha).2]
  constructor
  · rw [List.filter_cons, hrep]; split <;> simp
  · intro hall
    rw [List.filter_cons, hrep]; simp [hall c hc]

example : (runFinish {} {} [(true, some (.inj 9)), (false, none), (true, none)]).2.2 = [some (.inj 9), some .txDone, some .txDone] ∧
    (runFinish {} {} [(false, none), (true, none), (true, some (.inj 9))]).2.1.log = [.rollback] := by
  constructor <;> (rw [tx_finish_once]; rfl)
/-- the counterexample: a driver answering `ErrTxDone` to the winner leaves no visible winner -/
example : ((runFinish {} {} [(true, some .txDone), (false, none)]).2.2.filter (fun e => decide (e ≠ some .txDone))).length = 0 := by
  rw [tx_finish_once]; decide

/-! ## C20 — context -/

/-- C20: with a done context `Query.Iter` runs nothing: the world is untouched (no driver
    event at all) and the iterator carries the context's error (or `ErrTxDone` on the
    cached-statement path of a finished transaction, which is checked first). -/
theorem cancelled_runs_nothing (s : Script) (w : World) (h : s.ctxDone = true) :
    (iterOpen s w).2 = w ∧ (iterOpen s w).1.rows = none ∧
      ((iterOpen s w).1.err = some .ctx ∨
       ((iterOpen s w).1.err = some .txDone ∧ s.onTx = true ∧ s.txDone = true ∧ s.cached = true)) := by
  have he := Script.openErr_of_ctxDone h
  refine ⟨iterOpen_world_of_no_events (Script.openEvents_of_ctxDone h) he w, ?_, ?_⟩
  · exact iterOpen_rows_none (Script.not_opensRows_of_openErr he) w
  · rw [iterOpen_err, he]
    cases hg : (s.onTx && s.txDone && s.cached)
    · exact .inl rfl
    · simp only [Bool.and_eq_true] at hg
      exact .inr ⟨rfl, hg.1.1, hg.1.2, hg.2⟩

/-- C20 (Get/Run): the world is untouched — in particular no `exec`/`query` event — and
    the error is the iterator's (unless the call was rejected before running anything). -/
theorem cancelled_get (s : Script) (c : GetCall) (w : World) (h : s.ctxDone = true) :
    (queryGet s c w).2 = w ∧
      ((queryGet s c w).1.err = (iterOpen s w).1.err ∨
       (queryGet s c w).1.err = some (.sqlair "outputs-not-referenced")) ∧
      ((queryGet s c w).1.err = some .ctx ∨ (queryGet s c w).1.err = some .txDone ∨
       (queryGet s c w).1.err = some (.sqlair "outputs-not-referenced")) ∧
      (queryGet s c w).1.stored = none := by
  have he := Script.openErr_of_ctxDone h
  rw [queryGet_of_not_run he (Script.openEvents_of_ctxDone h), iterOpen_err, he]
  cases (!s.hasOutputs && decide (c.dests > 0))
  · cases (s.onTx && s.txDone && s.cached) <;> simp
  · simp

/-- C20 (GetAll): with the context already done the world is untouched, nothing is appended, and the
    error is the iterator's (unless the call was rejected before running anything). -/
theorem cancelled_getAll (s : Script) (n : Nat) (v : Bool) (w : World) (h : s.ctxDone = true) :
    (queryGetAll s n v w).2 = w ∧
      ((queryGetAll s n v w).1.err = (iterOpen s w).1.err ∨
       (queryGetAll s n v w).1.err = some (.sqlair "outputs-not-referenced")) ∧
      ((queryGetAll s n v w).1.err = some .ctx ∨ (queryGetAll s n v w).1.err = some .txDone ∨
       (queryGetAll s n v w).1.err = some (.sqlair "outputs-not-referenced")) ∧
      (queryGetAll s n v w).1.appended = [] := by
  have he := Script.openErr_of_ctxDone h
  rw [queryGetAll_of_not_run he (Script.openEvents_of_ctxDone h), iterOpen_err, he]
  cases (!s.hasOutputs && decide (n > 0))
  · cases (s.onTx && s.txDone && s.cached) <;> simp
  · simp

/-- C12: on a finished transaction `Get` runs nothing either -/
theorem tx_done_get (s : Script) (c : GetCall) (w : World) (h1 : s.onTx = true) (h2 : s.txDone = true) :
    (queryGet s c w).2 = w ∧ (queryGet s c w).1.err ≠ none := by
  rw [queryGet_of_not_run (Script.openErr_of_txDone h1 h2) (Script.openEvents_of_txDone h1 h2)]
  exact ⟨rfl, nofun⟩

example : (queryGet sCtx { dests := 1 } { log := [.begin], inUse := 1 }).2.log = [.begin] ∧
    (queryGet sCtx { dests := 1 } {}).1 = { err := some .ctx } ∧
    (queryGetAll sCtx 1 true {}).1 = { err := some .ctx } := ⟨rfl, rfl, rfl⟩

end Sqlair.Rt
