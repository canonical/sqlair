/-
  Property C02, metamorphic form: what a literal or a comment contains does not matter.

  `blankRegions inp regions` overwrites the interior of every literal / comment region of the
  reference lexer with the letter `x` (newline bytes are kept).  The model of `Parser.Parse`
  (internal/expr/parser.go) produces the same node kinds and node sizes — or rejects at the same
  line and column — on the query and on the blanked query; the texts of the nodes are not
  compared.  Error columns are byte offsets from the start of the line (`colNum`), not rune counts, so
  replacing a multi-byte rune by several `x` bytes does not move them.

  Assumptions: `ClassAscii`, and `OpqDec` (the decoder is a UTF-8 style decoder on every input;
  `decodeRune_OpqDec`).  With the `DecOK`, `AsciiDec` of the other C02 theorems in its place the statement
  is false for the abstract decoder of `Env`: `c02_blank_needs_OpqDec`.
-/
import SqlairProofs.Props.C02
import SqlairProofs.Opaque.Main
import SqlairProofs.Opaque.Lex
import SqlairProofs.Opaque.Blank

namespace Sqlair

/-- C02, relational form.  For two inputs related by `OpqEnv` (same length, same newlines,
    same bytes and same lexer steps at the code offsets of the reference lexer) `parse` yields
    nodes of the same kinds and spans, or errors at the same line and column. -/
theorem c02_opaque_relational (E : Env) (inp' : Bytes) (R : OpqEnv E inp') :
    OpqParse (parse E) (parse { E with inp := inp' }) :=
  opq_parse R

/-- C02, metamorphic form.  `holdsC02opaque` compares the shapes of the two observations: node kinds
    and node sizes, or line and column of the error. -/
theorem c02_blank_invariant (E : Env) (hd : OpqDec E) (hc : ClassAscii E)
    (regions : List Region) (hr : lexRegions E = .ok regions) :
    holdsC02opaque (modelObs E) (modelObs { E with inp := blankRegions E.inp regions }) = true :=
  opq_holds (opq_blank_env E hd hc regions hr)

/-- The reference lexer finds the same literals and comments in the blanked query. -/
theorem c02_blank_regions (E : Env) (hd : OpqDec E) (hc : ClassAscii E)
    (regions : List Region) (hr : lexRegions E = .ok regions) :
    lexRegions { E with inp := blankRegions E.inp regions } = .ok regions := by
  rw [← hr]
  exact opq_lexRegions (opq_blank_env E hd hc regions hr)

/-- `c02_blank_invariant` under the assumptions `DecOK`, `AsciiDec`, `ClassAscii` of the other C02
    theorems together with `OpqDec` -/
theorem c02_blank_invariant' (E : Env) (_h : DecOK E) (_ha : AsciiDec E) (hc : ClassAscii E)
    (hd : OpqDec E) (regions : List Region) (hr : lexRegions E = .ok regions) :
    holdsC02opaque (modelObs E) (modelObs { E with inp := blankRegions E.inp regions }) = true :=
  c02_blank_invariant E hd hc regions hr

/-- C02, metamorphic form, for `decodeRune` (the port of Go's decoder) and any classifier that
    agrees with the ASCII tables below 128 -/
theorem c02_blank_invariant_go (inp : Bytes) (letter digit : Nat → Bool)
    (hl : ∀ c, c < 128 → letter c = asciiLetter c) (hd : ∀ c, c < 128 → digit c = asciiDigit c)
    (regions : List Region)
    (hr : lexRegions { inp := inp, dec := decodeRune, letter := letter, digit := digit } = .ok regions) :
    holdsC02opaque (modelObs { inp := inp, dec := decodeRune, letter := letter, digit := digit })
      (modelObs { inp := blankRegions inp regions, dec := decodeRune, letter := letter, digit := digit }) = true :=
  c02_blank_invariant _ (decodeRune_OpqDec _ _ _) (ClassAscii.of_ascii _ hl hd) regions hr

theorem asciiEnv_OpqDec (s : String) : OpqDec (asciiEnv s) := decodeRune_OpqDec _ _ _

/-- decidable view of a shape (`Except` has no `DecidableEq`) -/
def opqView {ε α : Type} : Except ε α → Sum ε α
  | .ok a => .inr a
  | .error e => .inl e

def opqBlanked (E : Env) : Option Bytes :=
  match lexRegions E with
  | .ok rs => some (blankRegions E.inp rs)
  | .error _ => none

def opqBlankedShape (E : Env) : Option (Sum (Option Nat × Option Nat) (List (SegKind × Nat))) :=
  match lexRegions E with
  | .ok rs => some (opqView (modelObs { E with inp := blankRegions E.inp rs }).shape)
  | .error _ => none

theorem opq_lexRegions_of_check {E : Env} {regions : List Region}
    (h : (match lexRegions E with | .ok rs => decide (rs = regions) | .error _ => false) = true) :
    lexRegions E = .ok regions := by
  split at h
  · next rs heq => rw [heq, of_decide_eq_true h]
  · cases h

theorem opqView_of_holds {o b : ParseObs} (h : holdsC02opaque o b = true) :
    opqView b.shape = opqView o.shape := by
  unfold holdsC02opaque at h
  split at h
  · next ho hb => rw [ho, hb, eq_of_beq h]
  · next ho hb => rw [ho, hb, eq_of_beq h]
  · cases h

/-- A test vector for `c02_blank_invariant`.  Given the regions, one kernel evaluation yields the
    blanked bytes (compared as lists) and the run on the query; the shape of the run on the
    blanked query is the theorem's. -/
theorem opq_vector {E : Env} {rs : List Region} {b : Bytes}
    {sh : Sum (Option Nat × Option Nat) (List (SegKind × Nat))} (hd : OpqDec E) (hc : ClassAscii E)
    (hr : lexRegions E = .ok rs)
    (h : opqBlankList (rs.map (·.interior E.inp)) E.inp.toList 0 = b.toList ∧ opqView (modelObs E).shape = sh) :
    lexSpans E = some (rs.map fun r => (r.kind, r.a, r.b)) ∧ opqBlanked E = some b ∧
      opqView (modelObs E).shape = sh ∧ opqBlankedShape E = some sh := by
  obtain ⟨hb, hs⟩ := h
  have hv := opqView_of_holds (c02_blank_invariant E hd hc rs hr)
  unfold lexSpans opqBlanked opqBlankedShape
  rw [hr]
  exact ⟨rfl, congrArg some (Array.toList_inj.mp ((opq_blank_toList _ _).trans hb)), hs,
    congrArg some (hv.trans hs)⟩

theorem opqEx1_regions : lexRegions (asciiEnv "SELECT 'a$T.x' /* &T.* */ FROM t WHERE c=$T.c") =
    .ok [⟨.lit, 7, 14⟩, ⟨.comment, 15, 25⟩] :=
  opq_lexRegions_of_check (by decide +kernel)

/-- a literal containing expression-like text and a comment containing an output expression -/
example :
    lexSpans (asciiEnv "SELECT 'a$T.x' /* &T.* */ FROM t WHERE c=$T.c") =
      some [(.lit, 7, 14), (.comment, 15, 25)] ∧
    opqBlanked (asciiEnv "SELECT 'a$T.x' /* &T.* */ FROM t WHERE c=$T.c") =
      some (Bytes.ofString "SELECT 'xxxxx' /*xxxxxx*/ FROM t WHERE c=$T.c") ∧
    opqView (modelObs (asciiEnv "SELECT 'a$T.x' /* &T.* */ FROM t WHERE c=$T.c")).shape =
      .inr [(.bypass, 41), (.member, 4)] ∧
    opqBlankedShape (asciiEnv "SELECT 'a$T.x' /* &T.* */ FROM t WHERE c=$T.c") =
      some (.inr [(.bypass, 41), (.member, 4)]) :=
  opq_vector (asciiEnv_OpqDec _) (asciiEnv_ClassAscii _) opqEx1_regions (by decide +kernel)

/-- the hypotheses of `c02_blank_invariant` are satisfiable (and the conclusion above is about
    two non-empty shapes) -/
example : ∃ regions, lexRegions (asciiEnv "SELECT 'a$T.x' /* &T.* */ FROM t WHERE c=$T.c") = .ok regions ∧
    regions.length = 2 ∧
    holdsC02opaque (modelObs (asciiEnv "SELECT 'a$T.x' /* &T.* */ FROM t WHERE c=$T.c"))
      (modelObs { asciiEnv "SELECT 'a$T.x' /* &T.* */ FROM t WHERE c=$T.c" with
        inp := blankRegions (asciiEnv "SELECT 'a$T.x' /* &T.* */ FROM t WHERE c=$T.c").inp regions }) = true := by
  exact ⟨_, opqEx1_regions, rfl, c02_blank_invariant _ (asciiEnv_OpqDec _) (asciiEnv_ClassAscii _) _ opqEx1_regions⟩

/-- a multi-byte rune inside a literal (replaced by two `x` bytes), a line comment, a block
    comment with a quote inside, and a rejected query; columns are byte offsets, so the rune count
    inside the literal does not move the error -/
example :
    opqBlanked (asciiEnv "SELECT 'é$T.x' -- &T.*\n, (a, b) AS (&T.*) /* 'q */ FROM t WHERE c = $T") =
      some (Bytes.ofString "SELECT 'xxxxxx' --xxxxx\n, (a, b) AS (&T.*) /*xxxx*/ FROM t WHERE c = $T") ∧
    opqView (modelObs (asciiEnv "SELECT 'é$T.x' -- &T.*\n, (a, b) AS (&T.*) /* 'q */ FROM t WHERE c = $T")).shape =
      .inl (some 2, some 46) ∧
    opqBlankedShape (asciiEnv "SELECT 'é$T.x' -- &T.*\n, (a, b) AS (&T.*) /* 'q */ FROM t WHERE c = $T") =
      some (.inl (some 2, some 46)) :=
  (opq_vector (rs := [⟨.lit, 7, 15⟩, ⟨.comment, 16, 23⟩, ⟨.comment, 43, 51⟩]) (asciiEnv_OpqDec _)
    (asciiEnv_ClassAscii _) (opq_lexRegions_of_check (by decide +kernel)) (by decide +kernel)).2

/-! ### the decoder assumption is needed

  `DecOK` and `AsciiDec` constrain the abstract decoder on the input `E.inp` only.  Blanking
  produces another input, on which such a decoder may behave differently. -/

/-- a decoder that decodes the byte 0x80 as `$` when the input contains the letter `a`
    somewhere, and is Go's decoder otherwise -/
def opqFarDec (inp : Bytes) (p : Nat) : Nat × Nat :=
  if bAt inp p = 128 ∧ inp.any (· == 97) = true then (36, 1) else decodeRune inp p

theorem opqFarDec_DecOK (inp : Bytes) (letter digit : Nat → Bool) :
    DecOK { inp := inp, dec := opqFarDec, letter := letter, digit := digit } :=
  .of_ite_decodeRune (c := fun p => bAt inp p = 128 ∧ inp.any (· == 97) = true) (fun _ => rfl) (by decide)
    (Nat.le_refl 1) (fun _ hp _ => hp)
    fun p hc i hi hi' => by rw [Nat.le_antisymm (Nat.le_of_lt_succ hi') hi, hc.1]; decide

theorem opqFarDec_AsciiDec (inp : Bytes) (letter digit : Nat → Bool) :
    AsciiDec { inp := inp, dec := opqFarDec, letter := letter, digit := digit } where
  ascii := fun p hp =>
    iteInduction (motive := fun r => bAt inp p < 128 → r = (bAt inp p, 1))
      (fun hc hb => absurd (hc.1 ▸ hb) (by decide))
      fun _ => (decodeRune_AsciiDec inp letter digit).ascii p hp

def c02BlankBadEnv : Env :=
  { inp := #[128] ++ Bytes.ofString "T.x 'a'", dec := opqFarDec, letter := asciiLetter, digit := asciiDigit }

/-- On the query the byte 0x80 decodes as `$` (the literal `'a'` contains an `a`) and `$T.x` is a
    member expression; blanking the literal to `'x'` removes the only `a`, the byte 0x80 becomes
    an invalid byte and the whole blanked query is one bypass node. -/
theorem c02_blank_needs_OpqDec :
    ∃ (E : Env) (regions : List Region), DecOK E ∧ AsciiDec E ∧ ClassAscii E ∧
      lexRegions E = .ok regions ∧
      holdsC02opaque (modelObs E) (modelObs { E with inp := blankRegions E.inp regions }) = false :=
  ⟨c02BlankBadEnv, [⟨.lit, 5, 8⟩], opqFarDec_DecOK _ _ _, opqFarDec_AsciiDec _ _ _,
    ClassAscii.of_ascii _ (fun _ _ => rfl) (fun _ _ => rfl),
    opq_lexRegions_of_check (by decide +kernel), by decide +kernel⟩

example : opqView (modelObs c02BlankBadEnv).shape = .inr [(.member, 4), (.bypass, 4)] ∧
    opqBlankedShape c02BlankBadEnv = some (.inr [(.bypass, 8)]) := by
  decide +kernel

end Sqlair
