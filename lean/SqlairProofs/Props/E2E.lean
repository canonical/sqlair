/-
  Props/E2E: the layer theorems composed along the path of a statement (lemmas in `SqlairProofs/E2E/*.lean`).  C01 over
  `parse`, `bindTypes`, `bindInputs`, `renderSQL` (`prepareAndBind`, E2E/C01.lean): every byte outside a SQLair
  expression reaches the SQL exactly once and in order, and a query without SQLair expressions is sent unchanged.  C17
  over `bindInputs`, `execInsert`, `selectRow`, `scanGet`: what `(*) VALUES ($T.*)` inserts comes back through `&T.*`;
  the engine is the store model SqlairModel/Store.lean.  C07, the direction from a successful `bindTypes` to what holds
  of samples and nodes, is a corollary of `prepare_ok_reading`, Props/Typed.lean, and stands here because
  `parse_bindTypes_ok_imp` joins it with the parser.
-/
import SqlairProofs.E2E.C01
import SqlairProofs.E2E.RoundTrip
import SqlairProofs.E2E.InsertStore
import SqlairProofs.E2E.Prepared
import SqlairProofs.E2E.Samples
import SqlairProofs.E2E.Uses
import SqlairProofs.E2E.NodeShape
import SqlairProofs.Props.Fixtures.Parser
import SqlairProofs.Props.Fixtures.Bind
import SqlairProofs.Props.Bind
import SqlairProofs.Props.Typed

namespace Sqlair

/-! The C01 fixture: `SELECT &U.* FROM t WHERE c=$U.c` against `PrepExample.tt` (Props/Fixtures/Bind.lean: struct `U` with
  field `C` tagged `c`), sample `U`, argument `U{C: "c"}`. -/
namespace E2EEx

-- What `decide +kernel` needs to evaluate the fixtures.  The instances are declared in this namespace so that their
-- names cannot clash; they are global all the same, and `C17Ex.bind` below uses them.
instance {ε α : Type} [DecidableEq α] (x : Except ε α) (a : α) : Decidable (x = .ok a) :=
  match x with
  | .ok b => if h : b = a then isTrue (h ▸ rfl) else isFalse fun h' => h (Except.ok.inj h')
  | .error _ => isFalse nofun
deriving instance DecidableEq for Loc, Piece, Primed

def E : Env := asciiEnv "SELECT &U.* FROM t WHERE c=$U.c"

def segs : List Seg := [
  { kind := .bypass, a := 0, b := 7 },
  { kind := .output, a := 7, b := 11, types := [{ ty := #[85], member := star }] },
  { kind := .bypass, a := 11, b := 27 },
  { kind := .member, a := 27, b := 31, types := [{ ty := #[85], member := #[99] }] } ]

theorem parse_E : parse E = .ok segs := by decide +kernel

def args : List GoVal := [.struct { t := 2, zero := false, r := "" } [.leaf { t := 3, zero := false, r := "c" }]]

def pq : Primed :=
  { pieces := [.text (Bytes.ofString "SELECT "), .outputs 0 [#[99]],
      .text (Bytes.ofString " FROM t WHERE c="), .inputs 0 1],
    params := [(0, "c")],
    outputs := [.field 2 #[85] PrepExample.fc] }

theorem prepare_E : prepareAndBind E PrepExample.C PrepExample.tt [some 2] args = some pq := by
  rw [prepareAndBind, parse_E]; decide +kernel

/-- no SQLair expression: the `$` stands inside a string literal, the `&T.*` inside a comment -/
def E0 : Env := asciiEnv "SELECT 'a$b' FROM t -- &T.*\n"

theorem parse_E0 : parseNodes E0 = some [(.bypass, 0, 28)] := by decide +kernel

end E2EEx

/-- C01: a piece is one write to `sqlBuilder` (querybuilder.go), and the SQL text is what the writes leave in its
    buffer, one after the other -/
theorem sql_is_concat_of_piece_renders (ps : List Piece) :
    renderSQL ps = (ps.map Piece.render).foldl (· ++ ·) #[] :=
  renderSQL_eq_concat ps

theorem sql_is_flatten_of_piece_renders (ps : List Piece) :
    (renderSQL ps).toList = (ps.map fun p => p.render.toList).flatten := by
  rw [renderSQL_eq_concat, concatBytes_toList, List.map_map]; rfl

example : renderSQL E2EEx.pq.pieces = Bytes.ofString "SELECT c AS _sqlair_0 FROM t WHERE c=@sqlair_0" := by
  apply Array.ext'; decide +kernel

/-- C01: piece `i` of the generated SQL comes from node `i` of the parse (`NodePiece`, E2E/Nodes.lean): a bypass node
    becomes the text piece holding its raw text `inp[a:b)`, an expression node a piece of its kind and never a text
    piece. -/
theorem c01_sql_structure {E : Env} {C : Cls} {tt : TypeTable} {samples : List (Option Nat)}
    {args : List GoVal} {pq : Primed} {segs : List Seg}
    (h : prepareAndBind E C tt samples args = some pq) (hp : parse E = .ok segs) :
    pq.pieces.length = segs.length ∧
    ∀ (i : Nat) (hi : i < segs.length) (hi' : i < pq.pieces.length),
      NodePiece segs[i].kind (E.inp.extract segs[i].a segs[i].b) pq.pieces[i] ∧
      (segs[i].kind = .bypass → pq.pieces[i] = .text (E.inp.extract segs[i].a segs[i].b)) ∧
      (segs[i].kind ≠ .bypass → pq.pieces[i].isText = false) := by
  obtain ⟨segs', tes, hp', hb, hq⟩ := prepareAndBind_some h
  rw [hp] at hp'; cases hp'
  have hc := parse_bind_pieces hb hq
  refine ⟨hc.1, fun i hi hi' => ?_⟩
  have := hc.getElem i hi hi'
  exact ⟨this, fun hk => by rw [hk] at this; exact this.bypass, fun hk => this.not_text hk⟩

example : E2EEx.pq.pieces.length = 4 ∧
    E2EEx.pq.pieces[2]? = some (.text (E2EEx.E.inp.extract 11 27)) :=
  ⟨(c01_sql_structure E2EEx.prepare_E E2EEx.parse_E).1, by
    have := ((c01_sql_structure E2EEx.prepare_E E2EEx.parse_E).2 2 (by decide) (by decide)).2.1 rfl
    rw [List.getElem?_eq_getElem (by decide), this]; rfl⟩

/-- C01, first sentence, for a statement that prepares and binds.  The nodes tile the input (consecutive spans from
    `0` to `len`), so the input is the concatenation of their raw texts `inp[a_i:b_i)`; the SQL is the same
    concatenation with the raw text of every expression node replaced by the rendering of the piece at its position
    and every bypass text kept; an offset lies in a bypass span iff it lies in no expression span.
    `DecOK E` is the assumption on the decoder under which the parser tiles its input (`parse_ok`); it holds of
    `decodeRune` (`decodeRune_DecOK`, Utf8.lean).  The spans are taken as the parser gives them: that an expression
    span holds the expression and nothing in front of or behind it is `c01_expr_spans_exact`, Props/Exact.lean. -/
theorem c01_end_to_end {E : Env} (hd : DecOK E) {C : Cls} {tt : TypeTable} {samples : List (Option Nat)}
    {args : List GoVal} {pq : Primed} {segs : List Seg}
    (h : prepareAndBind E C tt samples args = some pq) (hp : parse E = .ok segs) :
    SpansChain 0 E.len segs ∧
    E.inp = concatBytes (segs.map fun s => E.inp.extract s.a s.b) ∧
    pq.pieces.length = segs.length ∧
    renderSQL pq.pieces = concatBytes ((segs.zip pq.pieces).map fun sp =>
      if sp.1.kind = .bypass then E.inp.extract sp.1.a sp.1.b else sp.2.render) ∧
    (∀ x, x < E.len →
      ((∃ s ∈ segs, s.kind = .bypass ∧ s.a ≤ x ∧ x < s.b) ↔
        ¬ ∃ s ∈ segs, s.kind ≠ .bypass ∧ s.a ≤ x ∧ x < s.b)) := by
  obtain ⟨segs', tes, hp', hb, hq⟩ := prepareAndBind_some h
  rw [hp] at hp'; cases hp'
  have hchain := parse_ok hd hp
  have hc := parse_bind_pieces hb hq
  refine ⟨hchain, (concat_spans hchain (Nat.le_refl _)).symm, hc.1, ?_, hchain.bypass_complement⟩
  rw [renderSQL_eq_concat, expansion_eq hc]

example : renderSQL E2EEx.pq.pieces = concatBytes
    [E2EEx.E.inp.extract 0 7, (Piece.outputs 0 [#[99]]).render, E2EEx.E.inp.extract 11 27,
      (Piece.inputs 0 1).render] := by
  have h := (c01_end_to_end (asciiEnv_DecOK _) E2EEx.prepare_E E2EEx.parse_E).2.2.2.1
  simp only [E2EEx.segs, E2EEx.pq, List.zip_cons_cons, List.map_cons, List.zip_nil_right, List.map_nil,
    reduceIte, reduceCtorEq] at h
  exact h

/-- C01, second sentence: a query all of whose nodes are bypass nodes prepares without samples and binds without
    arguments, and the SQL sent is the query text. -/
theorem c01_no_expression_unchanged {E : Env} (hd : DecOK E) (C : Cls) (tt : TypeTable) {segs : List Seg}
    (hp : parse E = .ok segs) (hall : ∀ s ∈ segs, s.kind = .bypass) :
    ∃ tes pq, bindTypes C tt (segs.map (Seg.toOSeg E.inp)) [] = .ok tes ∧
      bindInputs tt tes [] = .ok pq ∧ prepareAndBind E C tt [] [] = some pq ∧
      renderSQL pq.pieces = E.inp ∧ pq.params = [] ∧ pq.outputs = [] := by
  have hall' : ∀ s ∈ segs.map (Seg.toOSeg E.inp), s.kind = .bypass := List.forall_mem_map.2 hall
  have hb : bindTypes C tt (segs.map (Seg.toOSeg E.inp)) [] =
      .ok ((segs.map fun s => E.inp.extract s.a s.b).map TExpr.bypass) := by
    rw [bindTypes_all_bypass C tt _ hall']
    simp [List.map_map, Function.comp_def, Seg.toOSeg]
  have hq := bindInputs_all_bypass tt (segs.map fun s => E.inp.extract s.a s.b)
  refine ⟨_, _, hb, hq, prepareAndBind_of hp hb hq, ?_, rfl, rfl⟩
  show renderSQL (List.map Piece.text _) = _
  rw [renderSQL_texts]
  exact concat_spans (parse_ok hd hp) (Nat.le_refl _)

theorem c01_no_expression_unchanged' {E : Env} (hd : DecOK E) {C : Cls} {tt : TypeTable} {segs : List Seg}
    {tes : List TExpr} (hp : parse E = .ok segs) (hall : ∀ s ∈ segs, s.kind = .bypass)
    (hb : bindTypes C tt (segs.map (Seg.toOSeg E.inp)) [] = .ok tes) :
    ∃ pq, bindInputs tt tes [] = .ok pq ∧ renderSQL pq.pieces = E.inp ∧ pq.params = [] ∧ pq.outputs = [] := by
  obtain ⟨tes', pq, hb', hq, _, h1, h2, h3⟩ := c01_no_expression_unchanged hd C tt hp hall
  rw [hb] at hb'; cases hb'
  exact ⟨pq, hq, h1, h2, h3⟩

example : ∃ pq, prepareAndBind E2EEx.E0 PrepExample.C PrepExample.tt [] [] = some pq ∧
    renderSQL pq.pieces = E2EEx.E0.inp := by
  obtain ⟨segs, hp, hl⟩ := parse_of_parseNodes E2EEx.parse_E0
  have hall : ∀ s ∈ segs, s.kind = .bypass := by
    intro s hs
    have := List.mem_map_of_mem (f := fun s => (s.kind, s.a, s.b)) hs
    rw [hl, List.mem_singleton] at this
    exact congrArg Prod.fst this
  obtain ⟨_, pq, _, _, h3, h4, _⟩ := c01_no_expression_unchanged (asciiEnv_DecOK _) PrepExample.C PrepExample.tt hp hall
  exact ⟨pq, h3, h4⟩

/-! ## C17: insert, store, select, scan

  `fieldCols tid n fields` are the typed columns of `(*) VALUES ($T.*)`, `fieldOutputs tid n fields` the outputs of
  `&T.*` (the locators of the same fields in the same order), `aliasCols k` the result columns
  `_sqlair_0 … _sqlair_(k-1)`, `selectRow tags srow` the values the store model returns for
  `SELECT tag_0 AS _sqlair_0, …` on the stored row `srow`, `p.rowVal r` row `r` of the values `locateParams` produced
  (element `r` of a bulk slice, the single value otherwise). -/

/-- C17, in part: the bind, store and scan layers composed.  If `bindInputs` accepts a statement whose typed
    expressions contain the insert expression of `(*) VALUES ($T.*)` for a struct with pairwise distinct tags, then its
    piece is an `.insert names rows` with at least one row, `names` being the tags of the members that are not omitted.
    After that piece is executed with the parameters of the statement there is one stored row per tuple, and a
    successful `Get` of the row that the select of all tags returns for stored row `r` leaves in the destination of type
    `T`: for a member that is not omitted `p.rowVal r`, the text inserted for that member and row; for an omitted
    member the zero value (plain field), nil (pointer field) or what the field's `Scan` makes of NULL.
    Assumed, and so not covered: (1) the typed columns and outputs have the shape `bindTypes` gives to
    `(*) VALUES ($T.*)` and `&T.*`; `c17_roundtrip_prepared_partial` derives this for prepared statements.  (2) The
    engine is the store model (SqlairModel/Store.lean), which returns the columns in select order under their aliases;
    SQLite is not modelled, and that it accepts the generated statements and agrees with hand-written SQL is observed by
    the harness (sqlitelayer.go), not proved.  (3) `Get` succeeds, and `WFOut` holds: no two outputs designate the same
    member, and the field paths of each destination are distinct.  (4) The conversion of a non-NULL value is the
    identity; it stands for `convertAssign` of database/sql, so nothing is said about the field kinds of the C17 text. -/
theorem c17_roundtrip_partial {tt : TypeTable} {tid : Nat} {n : Bytes} {fields : List SField}
    {pre post : List TExpr} {args : List GoVal} {pq : Primed}
    (htags : (fields.map (·.tag)).Nodup)
    (hq : bindInputs tt (pre ++ .insert (fieldCols tid n fields) :: post) args = .ok pq) :
    ∃ m names rows, validateInputs tt args [] = .ok m ∧
      pq.pieces[pre.length]? = some (.insert names rows) ∧ 1 ≤ rows.length ∧
      (∀ f ∈ fields, ∃ p, locateParams tt m (.field tid n f) = .ok p ∧
        (p.bulk = true → p.vals.length = rows.length) ∧ (f.tag ∈ names ↔ p.om = false)) ∧
      ∀ stored, execInsert names rows pq.params = some stored →
        stored.length = rows.length ∧
        ∀ (r : Nat) (srow : SRow), stored[r]? = some srow →
        ∀ (E : ScanEnv) (dests dests' : List Dest) (di : Nat) (d : Dest),
          (∀ v t, E.conv (some v) t = some v) →
          scanGet E tt (fieldOutputs tid n fields) (aliasCols fields.length)
            (selectRow (fields.map (·.tag)) srow) dests = (dests', none) →
          WFOut (fieldOutputs tid n fields) dests → dests[di]? = some d → d.tid = tid →
          ∃ d', dests'[di]? = some d' ∧
            ∀ f ∈ fields, ∀ p, locateParams tt m (.field tid n f) = .ok p →
              (p.om = false → ∃ v, p.rowVal r = some v ∧ d'.fieldVal f.index = some (some v)) ∧
              (p.om = true →
                match fieldCat tt (fieldTypeOf tt tid f.index true) with
                | .proxy => d'.fieldVal f.index = some (some (E.zeroText (fieldTypeOf tt tid f.index true)))
                | .directPtr _ => d'.fieldVal f.index = some (some E.nilText)
                | .directScanner => ∃ txt, E.conv none (fieldTypeOf tt tid f.index true) = some txt ∧
                    d'.fieldVal f.index = some (some txt)) := by
  have hi : (pre ++ .insert (fieldCols tid n fields) :: post)[pre.length]? = some (.insert (fieldCols tid n fields)) := by
    simp
  obtain ⟨m, names, rows, hm, hpiece, hst⟩ := insert_store_bindInputs htags hi hq
  exact ⟨m, names, rows, hm, hpiece, hst.rows_pos, hst.located, fun stored hexec =>
    ⟨(hst.stored stored hexec).1, fun r srow hr E dests dests' di d hconv hget hwf hd htid =>
      hst.roundtrip hexec hr hconv hget hwf hd htid⟩⟩

/-- C17 for a struct none of whose fields is a pointer or implements `sql.Scanner`, so that all are scanned through a
    `ScanProxy` (`LocateScanTarget`, valuelocator.go): an omitted member comes back as the zero value of its type.
    The statement is that of `c17_roundtrip_partial` with the hypothesis `hproxy` added and, in the last conjunct
    (`p.om = true → …`), the `match` on the field's category replaced by its `.proxy` branch. -/
theorem c17_roundtrip_proxy_partial {tt : TypeTable} {tid : Nat} {n : Bytes} {fields : List SField}
    {pre post : List TExpr} {args : List GoVal} {pq : Primed}
    (htags : (fields.map (·.tag)).Nodup)
    (hproxy : ∀ f ∈ fields, fieldCat tt (fieldTypeOf tt tid f.index true) = .proxy)
    (hq : bindInputs tt (pre ++ .insert (fieldCols tid n fields) :: post) args = .ok pq) :
    ∃ m names rows, validateInputs tt args [] = .ok m ∧
      pq.pieces[pre.length]? = some (.insert names rows) ∧ 1 ≤ rows.length ∧
      (∀ f ∈ fields, ∃ p, locateParams tt m (.field tid n f) = .ok p ∧
        (p.bulk = true → p.vals.length = rows.length) ∧ (f.tag ∈ names ↔ p.om = false)) ∧
      ∀ stored, execInsert names rows pq.params = some stored →
        stored.length = rows.length ∧
        ∀ (r : Nat) (srow : SRow), stored[r]? = some srow →
        ∀ (E : ScanEnv) (dests dests' : List Dest) (di : Nat) (d : Dest),
          (∀ v t, E.conv (some v) t = some v) →
          scanGet E tt (fieldOutputs tid n fields) (aliasCols fields.length)
            (selectRow (fields.map (·.tag)) srow) dests = (dests', none) →
          WFOut (fieldOutputs tid n fields) dests → dests[di]? = some d → d.tid = tid →
          ∃ d', dests'[di]? = some d' ∧
            ∀ f ∈ fields, ∀ p, locateParams tt m (.field tid n f) = .ok p →
              (p.om = false → ∃ v, p.rowVal r = some v ∧ d'.fieldVal f.index = some (some v)) ∧
              (p.om = true →
                d'.fieldVal f.index = some (some (E.zeroText (fieldTypeOf tt tid f.index true)))) := by
  obtain ⟨m, names, rows, h1, h2, h3, h4, h5⟩ := c17_roundtrip_partial htags hq
  refine ⟨m, names, rows, h1, h2, h3, h4, fun stored hexec => ⟨(h5 stored hexec).1,
    fun r srow hr E dests dests' di d hconv hget hwf hd htid => ?_⟩⟩
  obtain ⟨d', hd', h8⟩ := (h5 stored hexec).2 r srow hr E dests dests' di d hconv hget hwf hd htid
  refine ⟨d', hd', fun f hf p hp => ⟨(h8 f hf p hp).1, fun hp1 => ?_⟩⟩
  have := (h8 f hf p hp).2 hp1
  rwa [hproxy f hf] at this

/-- `p.rowVal r` of `c17_roundtrip_partial` in terms of the Go arguments: either an argument of type `T` is given, and
    `p.rowVal r` is the text of its member `f`, which is omitted iff it is zero and tagged `omitempty`; or there is
    none, a bulk slice `[]T` / `[]*T` is given, and `p.rowVal r` is the text of member `f` of its element `r`.  So what
    comes back in row `r` is member `f` of the `r`-th inserted struct. -/
theorem c17_rowVal_is_argument_member {tt : TypeTable} {m : TypeToValue} {tid : Nat} {n : Bytes} {f : SField}
    {p : Params} (hp : locateParams tt m (.field tid n f) = .ok p) :
    (∃ s v, ttvGet m tid = some s ∧ fieldByIndex s f.index true = .ok v ∧ p.bulk = false ∧
      p.om = (v.h.zero && f.omitEmpty) ∧ ∀ r, p.rowVal r = some v.h.r) ∨
    (∃ h els, ttvGet m tid = none ∧ locateBulk tt m tid = some (.slice h els) ∧ p.bulk = true ∧
      ∀ (r : Nat) (e : GoVal), els[r]? = some e → ∃ s v, bulkElem e = .ok s ∧
        fieldByIndex s f.index true = .ok v ∧ p.rowVal r = some v.h.r) := by
  cases locateParams_ok_iff.1 hp with
  | field hg hv => exact .inl ⟨_, _, hg, hv, rfl, rfl, fun _ => rfl⟩
  | fieldBulk hg hb _ hall _ =>
    refine .inr ⟨_, _, hg, hb, rfl, fun r e he => ?_⟩
    obtain ⟨v, hv⟩ := Option.isSome_iff_exists.1 (hall e (List.mem_of_getElem? he))
    obtain ⟨s, hs, hfv⟩ := fieldElemVal_eq_some_iff.1 hv
    simp only [Params.rowVal, if_true, List.getElem?_map, he, Option.map_some, Option.some.injEq]
    exact ⟨s, v, hs, hfv, fieldElemR_of_some hv⟩

/-- C17 for prepared statements, without assumption (1) of `c17_roundtrip_partial`: an INSERT statement whose node `i`
    is `(*) VALUES ($T.*)` and a SELECT statement whose only output node is `&T.*`, both prepared by `bindTypes` with the
    same type `tid` among their samples.  Then `T` is a struct; with `fs = starFieldsOf fields tags`, its members in the
    sorted order of their tags, the column list of the SELECT (`pqS.pieces.flatMap Piece.outCols`) is the tags of `fs`,
    its aliases are `0 … fs.length-1`, and the conclusion of `c17_roundtrip_partial` holds of the row the store model
    returns for this SELECT (columns named by the aliases, values `selectRow` of the column list).  That the tags are
    pairwise distinct is proved (`starFields_tags_nodup`); assumptions (2) to (4) remain. -/
theorem c17_roundtrip_prepared_partial {C : Cls} {tt : TypeTable} {tid : Nat}
    {segsI segsS : List OSeg} {samplesI samplesS : List (Option Nat)} {tesI tesS : List TExpr}
    (hbI : bindTypes C tt segsI samplesI = .ok tesI) (hbS : bindTypes C tt segsS samplesS = .ok tesS)
    (hsI : some tid ∈ samplesI) (hsS : some tid ∈ samplesS)
    {i j : Nat} {sI sS : OSeg}
    (hi : segsI[i]? = some sI) (hkI : sI.kind = .astInsert)
    (htI : sI.types = [{ ty := (tt.get tid).name, member := star }])
    (hj : segsS[j]? = some sS) (hkS : sS.kind = .output)
    (htS : sS.types = [{ ty := (tt.get tid).name, member := star }]) (hcS : sS.cols = [])
    (honly : ∀ j' s', segsS[j']? = some s' → s'.kind = .output → j' = j)
    {argsI argsS : List GoVal} {pqI pqS : Primed}
    (hqI : bindInputs tt tesI argsI = .ok pqI) (hqS : bindInputs tt tesS argsS = .ok pqS) :
    ∃ fields tags m names rows,
      getArgInfo C tt tid = .ok (.struct tid (tt.get tid).name fields tags) ∧
      validateInputs tt argsI [] = .ok m ∧
      pqI.pieces[i]? = some (.insert names rows) ∧ 1 ≤ rows.length ∧
      (∀ f ∈ starFieldsOf fields tags, ∃ p, locateParams tt m (.field tid (tt.get tid).name f) = .ok p ∧
        (p.bulk = true → p.vals.length = rows.length) ∧ (f.tag ∈ names ↔ p.om = false)) ∧
      pqS.pieces.flatMap Piece.outCols = (starFieldsOf fields tags).map (·.tag) ∧
      aliasesOf pqS.pieces = List.range (starFieldsOf fields tags).length ∧
      ∀ stored, execInsert names rows pqI.params = some stored →
        stored.length = rows.length ∧
        ∀ (r : Nat) (srow : SRow), stored[r]? = some srow →
        ∀ (E : ScanEnv) (dests dests' : List Dest) (di : Nat) (d : Dest),
          (∀ v t, E.conv (some v) t = some v) →
          scanGet E tt pqS.outputs ((aliasesOf pqS.pieces).map markerName)
            (selectRow (pqS.pieces.flatMap Piece.outCols) srow) dests = (dests', none) →
          WFOut pqS.outputs dests → dests[di]? = some d → d.tid = tid →
          ∃ d', dests'[di]? = some d' ∧
            ∀ f ∈ starFieldsOf fields tags, ∀ p,
              locateParams tt m (.field tid (tt.get tid).name f) = .ok p →
              (p.om = false → ∃ v, p.rowVal r = some v ∧ d'.fieldVal f.index = some (some v)) ∧
              (p.om = true →
                match fieldCat tt (fieldTypeOf tt tid f.index true) with
                | .proxy => d'.fieldVal f.index = some (some (E.zeroText (fieldTypeOf tt tid f.index true)))
                | .directPtr _ => d'.fieldVal f.index = some (some E.nilText)
                | .directScanner => ∃ txt, E.conv none (fieldTypeOf tt tid f.index true) = some txt ∧
                    d'.fieldVal f.index = some (some txt)) := by
  obtain ⟨fields, tags, ha, heI⟩ := prepared_insert_shape hbI hsI hi hkI htI
  obtain ⟨fields', tags', ha', hflat⟩ := prepared_output_shape hbS hsS hj hkS htS hcS honly
  rw [ha] at ha'; cases ha'
  obtain ⟨m, names, rows, hm, hpiece, hst⟩ := insert_store_bindInputs (starFields_tags_nodup ha) heI hqI
  obtain ⟨hal, _, _, hcolsS, houtS⟩ := aliases_dense hqS
  rw [hflat, fieldOutCols_fst] at hcolsS
  rw [hflat, fieldOutCols_snd] at houtS
  have hal' : aliasesOf pqS.pieces = List.range (starFieldsOf fields tags).length := by
    rw [hal, houtS]; simp [fieldOutputs]
  refine ⟨fields, tags, m, names, rows, ha, hm, hpiece, hst.rows_pos, hst.located, hcolsS, hal', fun stored hexec =>
    ⟨(hst.stored stored hexec).1, fun r srow hr E dests dests' di d hconv hget hwf hd htid => ?_⟩⟩
  rw [houtS, hal', hcolsS] at hget
  exact hst.roundtrip hexec hr hconv hget (houtS ▸ hwf) hd htid

/-! The C17 fixture: struct `T` of `PrepExample.tt` (fields `A` tagged `a`, `B` tagged `b,omitempty`, both strings), bulk
  argument `[]T` with two rows.  In the first instance both members are non-zero: both columns are written and come
  back. -/
namespace C17Ex
open PrepExample

def fields : List SField := [fa, fb]
def tes : List TExpr := [.bypass #[73], .insert (fieldCols 0 #[84] fields)]
def args : List GoVal := [.slice { t := 1, zero := false, r := "" } [row "a0" "b0", row "a1" "b1"]]

def pq : Primed :=
  { pieces := [.text #[73], .insert [#[97], #[98]] [[.ph 0, .ph 2], [.ph 1, .ph 3]]],
    params := [(0, "a0"), (2, "b0"), (1, "a1"), (3, "b1")], outputs := [] }

theorem bind : bindInputs tt (([.bypass #[73]] : List TExpr) ++ .insert (fieldCols 0 #[84] fields) :: []) args = .ok pq := by
  decide +kernel

def stored : List SRow := [[(#[97], "a0"), (#[98], "b0")], [(#[97], "a1"), (#[98], "b1")]]

theorem exec : execInsert [#[97], #[98]] [[.ph 0, .ph 2], [.ph 1, .ph 3]] pq.params = some stored := by
  decide +kernel

def E : ScanEnv := { conv := fun v _ => v, zeroText := fun _ => "<zero>" }

def dests : List Dest := [{ form := .ptrStruct, tid := 0, fields := [([0], some "old"), ([1], some "old")] }]
def dests1 : List Dest := [{ form := .ptrStruct, tid := 0, fields := [([0], some "a1"), ([1], some "b1")] }]

theorem get1 : scanGet E tt (fieldOutputs 0 #[84] fields) (aliasCols fields.length)
    (selectRow (fields.map (·.tag)) [(#[97], "a1"), (#[98], "b1")]) dests = (dests1, none) := by
  decide +kernel

theorem wf : WFOut (fieldOutputs 0 #[84] fields) dests := by decide +kernel

theorem tags : (fields.map (·.tag)).Nodup := by decide

theorem proxy : ∀ f ∈ fields, fieldCat tt (fieldTypeOf tt 0 f.index true) = .proxy := by decide +kernel

theorem valid : validateInputs tt args [] = .ok [(1, args[0]!)] := rfl

theorem locB : locateParams tt [(1, args[0]!)] (.field 0 #[84] fb) =
    .ok { vals := ["b0", "b1"], om := false, bulk := true, argType := 1 } := rfl

example : ∃ d', dests1[0]? = some d' ∧ d'.fieldVal [1] = some (some "b1") := by
  obtain ⟨m, names, rows, hm, hpiece, _, _, hst⟩ := c17_roundtrip_proxy_partial tags proxy bind
  cases valid.symm.trans hm
  cases hpiece
  obtain ⟨_, hrow⟩ := hst stored exec
  obtain ⟨d', hd', hf⟩ := hrow 1 _ rfl E dests dests1 0 _ (fun _ _ => rfl) get1 wf rfl rfl
  obtain ⟨v, hv, hval⟩ := (hf fb (.tail _ (.head _)) _ locB).1 rfl
  cases hv
  exact ⟨d', hd', hval⟩

example : ∃ s v, bulkElem (row "a1" "b1") = .ok s ∧ fieldByIndex s fb.index true = .ok v ∧
    (Params.rowVal { vals := ["b0", "b1"], om := false, bulk := true, argType := 1 } 1) = some v.h.r := by
  rcases c17_rowVal_is_argument_member locB with ⟨s, v, hs, _⟩ | ⟨h, els, _, hb, _, hrow⟩
  · cases hs
  · cases hb
    exact hrow 1 _ rfl

/-! Second instance: `B` is zero in both rows, so the column `b` is omitted from the INSERT, reads back NULL and scans
  as the zero value. -/

def rowz (a : String) : GoVal :=
  .struct { t := 0, zero := false, r := "" }
    [.leaf { t := 3, zero := false, r := a }, .leaf { t := 3, zero := true, r := "" }]
def argsz : List GoVal := [.slice { t := 1, zero := false, r := "" } [rowz "a0", rowz "a1"]]

def pqz : Primed :=
  { pieces := [.text #[73], .insert [#[97]] [[.ph 0], [.ph 1]]], params := [(0, "a0"), (1, "a1")], outputs := [] }

theorem bindz : bindInputs tt (([.bypass #[73]] : List TExpr) ++ .insert (fieldCols 0 #[84] fields) :: []) argsz = .ok pqz := by
  decide +kernel

def storedz : List SRow := [[(#[97], "a0")], [(#[97], "a1")]]

theorem execz : execInsert [#[97]] [[.ph 0], [.ph 1]] pqz.params = some storedz := by decide +kernel

def dests1z : List Dest := [{ form := .ptrStruct, tid := 0, fields := [([0], some "a1"), ([1], some "<zero>")] }]

theorem get1z : scanGet E tt (fieldOutputs 0 #[84] fields) (aliasCols fields.length)
    (selectRow (fields.map (·.tag)) [(#[97], "a1")]) dests = (dests1z, none) := by
  decide +kernel

example : ∃ d', dests1z[0]? = some d' ∧ d'.fieldVal [1] = some (some "<zero>") ∧
    d'.fieldVal [0] = some (some "a1") := by
  obtain ⟨m, names, rows, hm, hpiece, _, _, hst⟩ := c17_roundtrip_proxy_partial tags proxy bindz
  have hm' : validateInputs tt argsz [] = .ok [(1, argsz[0]!)] := rfl
  cases hm'.symm.trans hm
  cases hpiece
  obtain ⟨_, hrow⟩ := hst storedz execz
  obtain ⟨d', hd', hf⟩ := hrow 1 _ rfl E dests dests1z 0 _ (fun _ _ => rfl) get1z wf rfl rfl
  have hb : locateParams tt [(1, argsz[0]!)] (.field 0 #[84] fb) =
      .ok { vals := ["", ""], om := true, bulk := true, argType := 1 } := rfl
  have ha : locateParams tt [(1, argsz[0]!)] (.field 0 #[84] fa) =
      .ok { vals := ["a0", "a1"], om := false, bulk := true, argType := 1 } := rfl
  obtain ⟨v, hv, hval⟩ := (hf fa (.head _) _ ha).1 rfl
  cases hv
  exact ⟨d', hd', (hf fb (.tail _ (.head _)) _ hb).2 rfl, hval⟩

/-! Third instance, from the query texts: `INSERT INTO t (*) VALUES ($T.*)` and `SELECT &T.* FROM t` are parsed, prepared
  with the sample `T` and bound, and `c17_roundtrip_prepared_partial` applies to the results. -/

def EI : Env := asciiEnv "INSERT INTO t (*) VALUES ($T.*)"
def ES : Env := asciiEnv "SELECT &T.* FROM t"

def segsI : List Seg := [
  { kind := .bypass, a := 0, b := 14 },
  { kind := .astInsert, a := 14, b := 31, types := [{ ty := #[84], member := star }] } ]

def segsS : List Seg := [
  { kind := .bypass, a := 0, b := 7 },
  { kind := .output, a := 7, b := 11, types := [{ ty := #[84], member := star }] },
  { kind := .bypass, a := 11, b := 18 } ]

theorem parse_EI : parse EI = .ok segsI := by decide +kernel
theorem parse_ES : parse ES = .ok segsS := by decide +kernel

def pqI : Primed :=
  { pieces := [.text (Bytes.ofString "INSERT INTO t "), .insert [#[97], #[98]] [[.ph 0, .ph 2], [.ph 1, .ph 3]]],
    params := [(0, "a0"), (2, "b0"), (1, "a1"), (3, "b1")], outputs := [] }

def pqS : Primed :=
  { pieces := [.text (Bytes.ofString "SELECT "), .outputs 0 [#[97], #[98]], .text (Bytes.ofString " FROM t")],
    params := [], outputs := [.field 0 #[84] fa, .field 0 #[84] fb] }

theorem prepI : prepareAndBind EI C tt [some 0] args = some pqI := by
  rw [prepareAndBind, parse_EI]; decide +kernel
theorem prepS : prepareAndBind ES C tt [some 0] [] = some pqS := by
  rw [prepareAndBind, parse_ES]; decide +kernel

-- the prepared SELECT has the outputs, aliases and column list of the first instance
theorem getS : scanGet E tt pqS.outputs ((aliasesOf pqS.pieces).map markerName)
    (selectRow (pqS.pieces.flatMap Piece.outCols) [(#[97], "a1"), (#[98], "b1")]) dests = (dests1, none) :=
  get1

theorem wfS : WFOut pqS.outputs dests := wf

example : ∃ d', dests1[0]? = some d' ∧ d'.fieldVal [1] = some (some "b1") := by
  obtain ⟨sI, tesI, hpI, hbI, hqI⟩ := prepareAndBind_some prepI
  obtain ⟨sS, tesS, hpS, hbS, hqS⟩ := prepareAndBind_some prepS
  cases parse_EI.symm.trans hpI
  cases parse_ES.symm.trans hpS
  obtain ⟨fields, tags, m, names, rows, ha, hm, hpiece, _, _, _, _, hst⟩ :=
    c17_roundtrip_prepared_partial (tid := 0) (i := 1) (j := 1)
      hbI hbS (.head _) (.head _) rfl rfl rfl rfl rfl rfl rfl
      (by
        intro j' s' hj' hk'
        cases j' with
        | zero => cases hj'; cases hk'
        | succ j' =>
          cases j' with
          | zero => rfl
          | succ j' =>
            cases j' with
            | zero => cases hj'; cases hk'
            | succ j' => cases hj')
      hqI hqS
  -- `fields` and `tags` are fixed by `ha`: evaluate the info of `T` and compare
  have hft : (getArgInfo C tt 0).toOption.map (fun | .struct _ _ fs ts => (fs, ts) | _ => ([], [])) =
      some ([fa, fb], [#[97], #[98]]) := by decide +kernel
  rw [ha] at hft
  cases hft
  cases valid.symm.trans hm
  cases hpiece
  obtain ⟨_, hrow⟩ := hst stored exec
  obtain ⟨d', hd', hf⟩ := hrow 1 _ rfl E dests dests1 0 _ (fun _ _ => rfl) getS wfS rfl rfl
  obtain ⟨v, hv, hval⟩ := (hf fb (.tail _ (.head _)) _ locB).1 rfl
  cases hv
  exact ⟨d', hd', hval⟩

end C17Ex

/-! ## C07: what a successful `bindTypes` implies

  `e2eSampleName tt smp` is `reflect.Type.Name()` of a sample; `s.typeNames` are the type names node `s` refers to: none
  for a bypass node, for a basic insert `(c, …) VALUES ($T.m, …)` the types of its values, for every other expression
  its `types`. -/

/-- C07, from success to the conditions on samples and type names (the conditions on members, kinds, counts and
    destinations, and the converse, are `bindTypes_ok_iff_wellTyped`, Props/Typed.lean).  If `bindTypes` succeeds then
    (1) every sample is a type (not an untyped nil) of kind struct, map or slice with a non-empty name, and the names of
        the samples are pairwise distinct (`GenerateArgInfo`, arginfo.go);
    (2) every type name a node refers to is the name of a sample (`getArg`, typedexprbuilder.go);
    (3) every sample is referred to by some node (`checkAllArgsUsed`, typedexprbuilder.go);
    (4) there is one typed expression per node.
    (1) to (3) are proved from `prepare_ok_reading` (Props/Typed.lean), which has `sampleName` on type ids where this has
    `e2eSampleName` on the samples as given (`Option`), `nodeTypes` for `OSeg.typeNames` (`typeNames_eq_nodeTypes`), and
    adds that the sample of a type name is unique. -/
theorem bindTypes_ok_imp {C : Cls} {tt : TypeTable} {segs : List OSeg} {samples : List (Option Nat)}
    {tes : List TExpr} (h : bindTypes C tt segs samples = .ok tes) :
    (∀ smp ∈ samples, ∃ tid, smp = some tid ∧
      ((tt.get tid).kind = .struct ∨ (tt.get tid).kind = .map ∨ (tt.get tid).kind = .slice) ∧
      (tt.get tid).name.size ≠ 0) ∧
    (samples.map (e2eSampleName tt)).Nodup ∧
    (∀ s ∈ segs, ∀ ty ∈ s.typeNames, ∃ smp ∈ samples, e2eSampleName tt smp = ty) ∧
    (∀ smp ∈ samples, ∃ s ∈ segs, e2eSampleName tt smp ∈ s.typeNames) ∧
    tes.length = segs.length := by
  obtain ⟨tids, rfl, hk, hnd, hknown, hused⟩ := prepare_ok_reading h
  simp only [typeNames_eq_nodeTypes]
  refine ⟨?_, by rw [List.map_map]; exact hnd, fun s hs ty hty => ?_, ?_, (bindTypes_exprs h).1⟩
  · rintro _ hsmp
    obtain ⟨tid, ht, rfl⟩ := List.mem_map.1 hsmp
    exact ⟨tid, rfl, hk tid ht⟩
  · obtain ⟨tid, ht, hn, _⟩ := hknown s hs ty hty
    exact ⟨some tid, List.mem_map_of_mem ht, hn⟩
  · rintro _ hsmp
    obtain ⟨tid, ht, rfl⟩ := List.mem_map.1 hsmp
    exact hused tid ht

open PrepExample in
example : (∀ s ∈ segs, ∀ ty ∈ s.typeNames, ∃ smp ∈ samples, e2eSampleName tt smp = ty) ∧
    (segs.flatMap OSeg.typeNames) = [#[84], #[85], #[85], #[85]] :=
  ⟨(bindTypes_ok_imp bindTypes_example).2.2.1, by decide⟩

/-- The literal reading of (2), "every type name occurring anywhere in a non-bypass node" (`allTypeNames`), is false
    of hand-built nodes: a member node `$U.c` that also carries a stray value `$Z.x` prepares with the single sample
    `U`, although no sample is named `Z` (`bindSeg` looks only at the fields its kind uses).  So (2) is stated with
    `typeNames`, by kind; the parser produces no such node (`parse_shape`), and for parsed queries the literal reading
    holds (`parse_bindTypes_ok_imp`). -/
theorem bindTypes_ok_imp_literal_counterexample :
    let s : OSeg := { kind := .member, raw := #[], types := [{ ty := #[85], member := #[99] }],
                      vals := [.acc { ty := #[90], member := #[120] }] }
    (bindTypes PrepExample.C PrepExample.tt [s] [some 2]).isOk = true ∧ s.kind ≠ .bypass ∧
      #[90] ∈ s.allTypeNames ∧ ∀ smp ∈ [some 2], e2eSampleName PrepExample.tt smp ≠ #[90] := by
  refine ⟨by decide +kernel, by decide, by decide, by decide⟩

/-- C07 for parsed queries: in a node the parser produces, `typeNames` is every type name that occurs in it
    (`allTypeNames`: in its `types` and in its values; a parsed bypass node carries none), so (2) and (3) read: every
    type name occurring in an expression of the query is the name of a sample, and every sample is named by some
    expression. -/
theorem parse_bindTypes_ok_imp {E : Env} {C : Cls} {tt : TypeTable} {segs : List Seg}
    {samples : List (Option Nat)} {tes : List TExpr} (hp : parse E = .ok segs)
    (hb : bindTypes C tt (segs.map (Seg.toOSeg E.inp)) samples = .ok tes) :
    (∀ s ∈ segs, ∀ ty ∈ (s.toOSeg E.inp).allTypeNames, ∃ smp ∈ samples, e2eSampleName tt smp = ty) ∧
    (∀ smp ∈ samples, ∃ s ∈ segs, s.kind ≠ .bypass ∧ e2eSampleName tt smp ∈ (s.toOSeg E.inp).allTypeNames) := by
  obtain ⟨_, _, h2, h3, _⟩ := bindTypes_ok_imp hb
  have hsh := parse_shape hp
  constructor
  · intro s hs ty hty
    rw [← (hsh s hs).typeNames_eq] at hty
    exact h2 _ (List.mem_map_of_mem hs) ty hty
  · intro smp hsmp
    obtain ⟨os, hos, hty⟩ := h3 smp hsmp
    obtain ⟨s, hs, rfl⟩ := List.mem_map.1 hos
    refine ⟨s, hs, ?_, by rw [← (hsh s hs).typeNames_eq]; exact hty⟩
    intro hk
    have : (s.toOSeg E.inp).kind = .bypass := hk
    simp [OSeg.typeNames, this] at hty

example : ∀ s ∈ E2EEx.segs, ∀ ty ∈ (s.toOSeg E2EEx.E.inp).allTypeNames,
    ∃ smp ∈ [some 2], e2eSampleName PrepExample.tt smp = ty := by
  obtain ⟨segs', tes, hp', hb, _⟩ := prepareAndBind_some E2EEx.prepare_E
  cases E2EEx.parse_E.symm.trans hp'
  exact (parse_bindTypes_ok_imp E2EEx.parse_E hb).1

/-! The contrapositives of (2), (3) and (1) of `bindTypes_ok_imp`, as rejections by `bindTypes`. -/

theorem bindTypes_missing_type {C : Cls} {tt : TypeTable} {segs : List OSeg} {samples : List (Option Nat)}
    {s : OSeg} {ty : Bytes} (hs : s ∈ segs) (hty : ty ∈ s.typeNames)
    (hno : ∀ smp ∈ samples, e2eSampleName tt smp ≠ ty) : ∃ e, bindTypes C tt segs samples = .error e :=
  exists_error_of_not_ok fun tes h => by
    obtain ⟨smp, hsmp, he⟩ := (bindTypes_ok_imp h).2.2.1 s hs ty hty
    exact hno smp hsmp he

/-- C07, converse: a sample whose type name occurs in no node of the statement makes `bindTypes` (Prepare) fail -/
theorem bindTypes_unused_sample {C : Cls} {tt : TypeTable} {segs : List OSeg} {samples : List (Option Nat)}
    {smp : Option Nat} (hsmp : smp ∈ samples) (hno : ∀ s ∈ segs, e2eSampleName tt smp ∉ s.typeNames) :
    ∃ e, bindTypes C tt segs samples = .error e :=
  exists_error_of_not_ok fun tes h => by
    obtain ⟨s, hs, hty⟩ := (bindTypes_ok_imp h).2.2.2.1 smp hsmp
    exact hno s hs hty

/-- the first disjunct of `hbad` covers the untyped nil, which has no `tid` -/
theorem bindTypes_bad_sample {C : Cls} {tt : TypeTable} {segs : List OSeg} {samples : List (Option Nat)}
    (hbad : (∃ smp ∈ samples, ∀ tid, smp = some tid →
        ¬ (((tt.get tid).kind = .struct ∨ (tt.get tid).kind = .map ∨ (tt.get tid).kind = .slice) ∧
          (tt.get tid).name.size ≠ 0)) ∨
      ¬ (samples.map (e2eSampleName tt)).Nodup) : ∃ e, bindTypes C tt segs samples = .error e :=
  exists_error_of_not_ok fun tes h => by
    obtain ⟨h1, h2, _⟩ := bindTypes_ok_imp h
    rcases hbad with ⟨smp, hsmp, hb⟩ | hb
    · obtain ⟨tid, htid, hk, hsz⟩ := h1 smp hsmp
      exact hb tid htid ⟨hk, hsz⟩
    · exact hb h2

open PrepExample in
example : bindTypes C tt segs [some 0] = .error "type-missing" ∧
    bindTypes C tt segs [some 0, some 2, some 1] = .error "sample-anonymous" ∧
    bindTypes C tt segs [some 0, some 2, some 0] = .error "sample-duplicate-name" ∧
    bindTypes C tt [{ kind := .bypass, raw := #[73] }] [some 0] = .error "sample-not-used" ∧
    bindTypes C tt segs [some 0, none] = .error "sample-nil" := ⟨rfl, rfl, rfl, rfl, rfl⟩

open PrepExample in
example : ∃ e, bindTypes C tt segs [some 0] = .error e :=
  bindTypes_missing_type (s := segs[2]) (ty := #[85]) (.tail _ (.tail _ (.head _))) (.head _) (by decide)

open PrepExample in
example : ∃ e, bindTypes C tt [{ kind := .bypass, raw := #[73] }] [some 0] = .error e :=
  bindTypes_unused_sample (smp := some 0) (by decide) (by decide)

end Sqlair
