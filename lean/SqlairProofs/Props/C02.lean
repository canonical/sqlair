/-
  Property C02: string literals / quoted identifiers and comments are opaque to expression
  parsing.  What counts as a literal or a comment is defined by the reference lexer `lexRegions`
  (`SqlairModel/Lexer.lean`); that what they contain does not matter is `Props/Opaque.lean`.

  * `c02_unclosed_rejected`: if the reference lexer reports an unclosed literal, `parse`
    rejects the input;
  * `c02_bounds_outside_regions`: if `parse` accepts, no node other than a bypass node starts
    or ends strictly inside a region of the reference lexer;
  * `c02_node_bounds`: the same on the nodes themselves.

  Assumptions: `DecOK` (decoder makes progress, newline is one byte; `decodeRune_DecOK`),
  `AsciiDec` (an ASCII byte decodes to itself with size 1; `decodeRune_AsciiDec`) and
  `ClassAscii` (quotes, `-`, `/`, blank, tab, CR, LF are not name characters;
  `ClassAscii.of_ascii`); neither of the last two can be dropped (`c02_needs_ClassAscii`,
  `c02_needs_AsciiDec`).
-/
import SqlairProofs.Props.Fixtures.Parser
import SqlairProofs.Parser.LexMain

namespace Sqlair

theorem asciiEnv_AsciiDec (s : String) : AsciiDec (asciiEnv s) := decodeRune_AsciiDec _ _ _

theorem asciiEnv_ClassAscii (s : String) : ClassAscii (asciiEnv s) :=
  ClassAscii.of_ascii _ (fun _ _ => rfl) (fun _ _ => rfl)

/-- C02: an input with an unclosed literal (per `lexRegions`) is rejected by `parse` -/
theorem c02_unclosed_rejected (E : Env) (h : DecOK E) (ha : AsciiDec E) (hc : ClassAscii E)
    (q : Nat) (hq : lexRegions E = .error q) : ∃ e, parse E = .error e := by
  cases hp : parse E with
  | error e => exact ⟨e, rfl⟩
  | ok segs => exact (lexLoop_error h _ _ _ _ hq (parse_lex h ha hc hp).1).elim

/-- C02: accepted input: no non-bypass node starts or ends strictly inside a literal or comment -/
theorem c02_node_bounds (E : Env) (h : DecOK E) (ha : AsciiDec E) (hc : ClassAscii E)
    (regions : List Region) (hr : lexRegions E = .ok regions) (segs : List Seg)
    (hp : parse E = .ok segs) (seg : Seg) (hs : seg ∈ segs) (hk : seg.kind ≠ .bypass)
    (r : Region) (hm : r ∈ regions) :
    ¬ (r.a < seg.a ∧ seg.a < r.b) ∧ ¬ (r.a < seg.b ∧ seg.b < r.b) := by
  rcases (parse_lex h ha hc hp).2 seg hs with hb | ⟨hla, hlb⟩
  · exact (hk hb).elim
  · exact ⟨lexRegions_clear h hr hm hla, lexRegions_clear h hr hm hlb⟩

/-- C02: accepted input: `boundsOutsideRegions` holds of the regions and the observed node spans -/
theorem c02_bounds_outside_regions (E : Env) (h : DecOK E) (ha : AsciiDec E) (hc : ClassAscii E)
    (regions : List Region) (hr : lexRegions E = .ok regions) (segs : List Seg)
    (hp : parse E = .ok segs) :
    boundsOutsideRegions regions (spansOf (segs.map (Seg.toOSeg E.inp))) = true := by
  rw [spansOf_chain E.inp (parse_ok h hp)]
  unfold boundsOutsideRegions
  rw [List.all_eq_true]
  intro x hx
  obtain ⟨seg, hs, rfl⟩ := List.mem_map.mp hx
  dsimp only
  by_cases hk : seg.kind = .bypass
  · rw [hk]; rfl
  · rw [Bool.or_eq_true]
    right
    rw [List.all_eq_true]
    intro r hm
    have hn := c02_node_bounds E h ha hc regions hr segs hp seg hs hk r hm
    have out : ∀ {x}, ¬ (r.a < x ∧ x < r.b) → r.strictlyInside x = false := fun hx =>
      Bool.eq_false_iff.mpr fun ht =>
        have ⟨h1, h2⟩ := Bool.and_eq_true_iff.mp ht
        hx ⟨of_decide_eq_true h1, of_decide_eq_true h2⟩
    rw [out hn.1, out hn.2]
    rfl

/-- C02 for the model's own observation: an unclosed literal is rejected, and no expression node
    starts or ends strictly inside a literal or a comment. -/
theorem c02_opaque (E : Env) (h : DecOK E) (ha : AsciiDec E) (hc : ClassAscii E) :
    holdsC02 E (modelObs E) = true := by
  unfold holdsC02
  cases hr : lexRegions E with
  | error q =>
    obtain ⟨e, he⟩ := c02_unclosed_rejected E h ha hc q hr
    rw [modelObs_error he]
  | ok regions =>
    cases hp : parse E with
    | error e => rw [modelObs_error hp]
    | ok segs => rw [modelObs_ok hp]; exact c02_bounds_outside_regions E h ha hc regions hr segs hp

/-- C02 for the Go decoder and any classifier that agrees with the ASCII tables below 128 -/
theorem c02_opaque_go (inp : Bytes) (letter digit : Nat → Bool)
    (hl : ∀ c, c < 128 → letter c = asciiLetter c) (hd : ∀ c, c < 128 → digit c = asciiDigit c) :
    holdsC02 { inp := inp, dec := decodeRune, letter := letter, digit := digit }
      (modelObs { inp := inp, dec := decodeRune, letter := letter, digit := digit }) = true :=
  c02_opaque _ (decodeRune_DecOK _ _ _) (decodeRune_AsciiDec _ _ _) (ClassAscii.of_ascii _ hl hd)

/-! ### non-vacuity -/

/-- decidable views of the lexer's result for the examples -/
def lexSpans (E : Env) : Option (List (RKind × Nat × Nat)) :=
  match lexRegions E with
  | .ok rs => some (rs.map fun r => (r.kind, r.a, r.b))
  | .error _ => none

def lexUnclosed (E : Env) : Option Nat :=
  match lexRegions E with
  | .ok _ => none
  | .error p => some p

/-- one evaluation of lexer and parser for the two examples about this input -/
theorem c02Sample_eval (E : Env) (hE : E = asciiEnv "SELECT 'it''s' /* c */ &T.* -- x") :
    (lexSpans E = some [(.lit, 7, 14), (.comment, 15, 22), (.comment, 28, 32)] ∧
      parseNodes E = some [(.bypass, 0, 23), (.output, 23, 27), (.bypass, 27, 32)]) ∧
    (match lexRegions E, modelObs E with
      | .ok rs, .ok segs => (rs.length, (spansOf segs).length)
      | _, _ => (0, 0)) = (3, 3) := by
  subst hE
  decide +kernel

/-- the lexer finds a literal (with a doubled quote), a block comment and a line comment; the
    parser accepts, and its output expression `&T.*` lies between the regions -/
example : lexSpans (asciiEnv "SELECT 'it''s' /* c */ &T.* -- x") =
      some [(.lit, 7, 14), (.comment, 15, 22), (.comment, 28, 32)] ∧
    parseNodes (asciiEnv "SELECT 'it''s' /* c */ &T.* -- x") =
      some [(.bypass, 0, 23), (.output, 23, 27), (.bypass, 27, 32)] :=
  (c02Sample_eval _ rfl).1

/-- expression syntax inside literals, quoted identifiers and comments is not parsed -/
example : lexSpans (asciiEnv "SELECT '&T.*', x AS &T.y -- $M.z\n FROM t /* &U.* */ WHERE \"a$b\" = $M.c") =
      some [(.lit, 7, 13), (.comment, 25, 32), (.comment, 41, 51), (.lit, 58, 63)] ∧
    parseNodes (asciiEnv "SELECT '&T.*', x AS &T.y -- $M.z\n FROM t /* &U.* */ WHERE \"a$b\" = $M.c") =
      some [(.bypass, 0, 15), (.output, 15, 24), (.bypass, 24, 66), (.member, 66, 70)] := by
  decide +kernel

/-- an unclosed literal: the lexer reports it at offset 7, the parser rejects the input -/
example : lexUnclosed (asciiEnv "SELECT 'abc") = some 7 ∧
    parseError (asciiEnv "SELECT 'abc") = some { line := 1, col := 8, kind := .missingQuote } := by
  decide +kernel

/-- the observation checked by `holdsC02` really is the `.ok`/`.ok` case with regions and nodes -/
example : (match lexRegions (asciiEnv "SELECT 'it''s' /* c */ &T.* -- x"),
      modelObs (asciiEnv "SELECT 'it''s' /* c */ &T.* -- x") with
    | .ok rs, .ok segs => (rs.length, (spansOf segs).length)
    | _, _ => (0, 0)) = (3, 3) := by
  -- the `match` here and the one in `c02Sample_eval` are different constants: compare them on constructors
  have h := (c02Sample_eval _ rfl).2
  revert h
  generalize lexRegions _ = a, modelObs _ = b
  cases a <;> cases b <;> exact id

/-! ### the assumptions are needed

  The abstract `Env` allows classifiers and decoders that Go does not have. -/

/-- a classifier that calls the single quote a letter -/
def c02BadClassEnv : Env :=
  { inp := Bytes.ofString "&T.a' &U.b '", dec := decodeRune,
    letter := fun c => asciiLetter c || c == 39, digit := asciiDigit }

theorem c02BadClassEnv_eval : holdsC02 c02BadClassEnv (modelObs c02BadClassEnv) = false ∧
    (lexSpans c02BadClassEnv = some [(.lit, 4, 12)] ∧
    parseNodes c02BadClassEnv =
      some [(.output, 0, 5), (.bypass, 5, 6), (.output, 6, 10), (.bypass, 10, 12)]) := by
  decide +kernel

/-- Without `ClassAscii` C02 fails: the member name `a'` swallows the opening quote of the
    literal `' &U.b '`, and `&U.b` is parsed inside it. -/
theorem c02_needs_ClassAscii :
    ∃ E : Env, DecOK E ∧ AsciiDec E ∧ holdsC02 E (modelObs E) = false :=
  ⟨c02BadClassEnv, decodeRune_DecOK _ _ _, decodeRune_AsciiDec _ _ _, c02BadClassEnv_eval.1⟩

example : lexSpans c02BadClassEnv = some [(.lit, 4, 12)] ∧
    parseNodes c02BadClassEnv =
      some [(.output, 0, 5), (.bypass, 5, 6), (.output, 6, 10), (.bypass, 10, 12)] :=
  c02BadClassEnv_eval.2

/-- a decoder that satisfies `DecOK` but decodes the three bytes `S/*` as one rune `S` -/
def weirdDec (inp : Bytes) (p : Nat) : Nat × Nat :=
  if bAt inp p = 83 ∧ bAt inp (p+1) = 47 ∧ bAt inp (p+2) = 42 ∧ p + 3 ≤ inp.size then (83, 3)
  else decodeRune inp p

theorem weirdDec_DecOK (inp : Bytes) (letter digit : Nat → Bool) :
    DecOK { inp := inp, dec := weirdDec, letter := letter, digit := digit } :=
  .of_ite_decodeRune (c := fun p => bAt inp p = 83 ∧ bAt inp (p+1) = 47 ∧ bAt inp (p+2) = 42 ∧ p + 3 ≤ inp.size)
    (fun _ => rfl) (by decide) (by decide) (fun _ _ hc => hc.2.2.2) fun p hc i hi hi' => by
      obtain rfl | rfl | rfl : i = p ∨ i = p + 1 ∨ i = p + 2 := by omega
      · rw [hc.1]; decide
      · rw [hc.2.1]; decide
      · rw [hc.2.2.1]; decide

def c02BadDecEnv : Env :=
  { inp := Bytes.ofString "x AS/*'*/&T.y''", dec := weirdDec, letter := asciiLetter, digit := asciiDigit }

theorem c02BadDecEnv_eval : holdsC02 c02BadDecEnv (modelObs c02BadDecEnv) = false ∧
    (lexUnclosed c02BadDecEnv = some 6 ∧
    parseNodes c02BadDecEnv = some [(.output, 0, 13), (.bypass, 13, 15)]) := by
  decide +kernel

/-- Without `AsciiDec` C02 fails: `skipString` matches `AS` byte-wise and lands inside the rune
    `S/*`; the parser then sees a comment `/*'*/` the lexer does not see, parses `x AS &T.y` and
    accepts the input, whereas for the lexer the quote at offset 6 opens a literal that never
    closes. -/
theorem c02_needs_AsciiDec :
    ∃ E : Env, DecOK E ∧ ClassAscii E ∧ holdsC02 E (modelObs E) = false :=
  ⟨c02BadDecEnv, weirdDec_DecOK _ _ _, ClassAscii.of_ascii _ (fun _ _ => rfl) (fun _ _ => rfl),
    c02BadDecEnv_eval.1⟩

example : lexUnclosed c02BadDecEnv = some 6 ∧
    parseNodes c02BadDecEnv = some [(.output, 0, 13), (.bypass, 13, 15)] :=
  c02BadDecEnv_eval.2

end Sqlair
