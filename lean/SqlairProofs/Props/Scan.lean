/-
  Scan properties (C06): row values land in the designated field or key, whatever the column order.
  (`scan_every_output_assigned` is also the scan half of the round trip C17.)

  The value theorems conclude in `l.valIn d`, the text in the member of `d` that output `l` names: the leaf field with
  reflect index path `f.index` (`Dest.fieldVal`) or the map key (`Dest.keyVal`, SqlairProofs/Scan/Dest.lean).
  "Column `c` is the alias of output `k`" is `markerIndex c = some k`; by `markerIndex_markerName` that means
  `c = _sqlair_<k>`.
-/
import SqlairProofs.Scan.Perm
import SqlairProofs.Scan.Marker

namespace Sqlair

def Loc.valIn (l : Loc) (d : Dest) : Option String :=
  match l with
  | .field _ _ f => (d.fieldVal f.index).join
  | .mapKey _ _ key => d.keyVal key
  | .slice .. => none

theorem Loc.valIn_field {tid : Nat} {n : Bytes} {f : SField} {d : Dest} {txt : String} :
    (Loc.field tid n f).valIn d = some txt ↔ d.fieldVal f.index = some (some txt) :=
  Option.join_eq_some_iff

theorem Loc.valIn_of_slotVal {l : Loc} {s : Slot} {d : Dest} {txt : String} (hs : l.slot? = some s)
    (h : d.slotVal s = some (some txt)) : l.valIn d = some txt := by
  cases l with
  | slice => cases hs
  | field tid tn f => cases hs; exact Loc.valIn_field.mpr h
  | mapKey tid tn key => cases hs; exact d.keyVal_of_slotVal (o := some txt) h

/-! ### the fixture of the non-vacuity examples -/

namespace ScanEx

def b (s : String) : Bytes := s.toUTF8.data

/-- type 0: `type T struct { A int "a"; B int "b"; P *int "p" }` (db tags), type 1: `type M map[string]any`,
    2: int, 3: *int, 4: any, 5: string -/
def tt : TypeTable := #[
  { kind := .struct, kindStr := "struct", name := b "T", fields := [
      { name := b "A", tag := b "a", exported := true, anon := false, ty := 2 },
      { name := b "B", tag := b "b", exported := true, anon := false, ty := 2 },
      { name := b "P", tag := b "p", exported := true, anon := false, ty := 3 }] },
  { kind := .map, kindStr := "map", name := b "M", elem := 4, key := 5 },
  { kind := .other, kindStr := "int", name := b "int" },
  { kind := .ptr, kindStr := "ptr", name := b "", elem := 2 },
  { kind := .iface, kindStr := "interface", name := b "" },
  { kind := .string, kindStr := "string", name := b "string" }]

def fa : SField := { name := b "A", tag := b "a", omitEmpty := false, index := [0] }
def fp : SField := { name := b "P", tag := b "p", omitEmpty := false, index := [2] }

def outputs : List Loc := [.field 0 (b "T") fa, .field 0 (b "T") fp, .mapKey 1 (b "M") (b "k")]

def cols : List Bytes := [b "_sqlair_2", b "extra", b "_sqlair_0", b "_sqlair_1"]
def row : List DV := [some "5", some "x", none, none]

def cols' : List Bytes := [b "_sqlair_0", b "_sqlair_1", b "_sqlair_2", b "extra"]
def row' : List DV := [none, none, some "5", some "x"]

def dests : List Dest := [
  { form := .ptrStruct, tid := 0, fields := [([0], some "1"), ([1], some "7"), ([2], some "&3")] },
  { form := .mapVal, tid := 1, keys := [(b "z", "old")] }]

def E : ScanEnv :=
  { conv := fun v _ => match v with
      | none => some "NULL"
      | some s => if s == "bad" then none else some s
    zeroText := fun _ => "0" }

def dests' : List Dest := [
  { form := .ptrStruct, tid := 0, fields := [([0], some "0"), ([1], some "7"), ([2], some "<nil>:<nil>")] },
  { form := .mapVal, tid := 1, keys := [(b "z", "old"), (b "k", "5")] }]

theorem wf : WFOut outputs dests := by decide +kernel

/-- in one conjunction: the kernel then shares the work on the common prefix -/
theorem markerFacts : markerIndex (b "_sqlair_0") = some 0 ∧ markerIndex (b "_sqlair_1") = some 1 ∧
    markerIndex (b "_sqlair_2") = some 2 ∧ markerIndex (b "extra") = none ∧ markerIndex (b "x") = none ∧
    markerIndex (b "other") = none := by decide +kernel

theorem mi0 : markerIndex (b "_sqlair_0") = some 0 := markerFacts.1
theorem mi1 : markerIndex (b "_sqlair_1") = some 1 := markerFacts.2.1
theorem mi2 : markerIndex (b "_sqlair_2") = some 2 := markerFacts.2.2.1
theorem miExtra : markerIndex (b "extra") = none := markerFacts.2.2.2.1
theorem miX : markerIndex (b "x") = none := markerFacts.2.2.2.2.1
theorem miOther : markerIndex (b "other") = none := markerFacts.2.2.2.2.2

theorem colsIdx : cols.map markerIndex = [some 2, none, some 0, some 1] := by
  rw [cols, List.map_cons, List.map_cons, List.map_cons, List.map_cons, List.map_nil, mi0, mi1, mi2, miExtra]

theorem cols'Idx : cols'.map markerIndex = [some 0, some 1, some 2, none] := by
  rw [cols', List.map_cons, List.map_cons, List.map_cons, List.map_cons, List.map_nil, mi0, mi1, mi2, miExtra]

theorem get : scanGet E tt outputs cols row dests = (dests', none) := by
  rw [scanGet_eq_idx, colsIdx]; decide +kernel

theorem markers : cols.filterMap markerIndex = [2, 0, 1] := by
  rw [cols, List.filterMap_cons_some mi2, List.filterMap_cons_none miExtra, List.filterMap_cons_some mi0,
    List.filterMap_cons_some mi1, List.filterMap_nil]

theorem last0 : ∀ (j' : Nat) (c' : Bytes), 2 < j' → cols[j']? = some c' → markerIndex c' ≠ some 0 :=
  scan_none_after_of_drop (p := fun c => markerIndex c = some 0) fun x hx => by
    obtain rfl : x = b "_sqlair_1" := List.mem_singleton.mp hx
    rw [mi1]; decide

theorem last1 : ∀ (j' : Nat) (c' : Bytes), 3 < j' → cols[j']? = some c' → markerIndex c' ≠ some 1 :=
  scan_none_after_of_drop (p := fun c => markerIndex c = some 1) nofun

end ScanEx

example : WFOut ScanEx.outputs ScanEx.dests := ScanEx.wf

/-- C06, "an error is returned instead of a partial mapping": `Iterator.Get` (sqlair.go) calls `rows.Scan` and
    `onSuccess` only after `ScanArgs` has returned without error, so every error of `ScanArgs` (column missing,
    destination not used, invalid or missing destination, nil embedded pointer, …) leaves the destinations as they
    were.  An error of `rows.Scan` itself is `scan_error_cases`. -/
theorem scan_error_before_scan_leaves_dests (E : ScanEnv) (tt : TypeTable) (outputs : List Loc) (cols : List Bytes)
    (row : List DV) (dests : List Dest) (e : String) (h : scanArgs tt outputs cols dests = .error e) :
    scanGet E tt outputs cols row dests = (dests, some e) :=
  (scanGet_error_iff ..).mpr (.inl ⟨h, rfl⟩)

example : scanGet ScanEx.E ScanEx.tt ScanEx.outputs
    [ScanEx.b "_sqlair_2", ScanEx.b "extra", ScanEx.b "_sqlair_0", ScanEx.b "other"] ScanEx.row ScanEx.dests =
      (ScanEx.dests, some "column-missing") := by
  rw [scanGet_eq_idx, List.map_cons, List.map_cons, List.map_cons, List.map_cons, List.map_nil,
    ScanEx.mi2, ScanEx.miExtra, ScanEx.mi0, ScanEx.miOther]
  decide +kernel

/-- C06, "members not named by the statement keep their previous value", with "named" read as: designated by an
    output whose alias is among the result columns.  For a map this includes that an absent key stays absent
    (`keyVal = none`); the destinations also keep their number, form, type and set of leaf fields. -/
theorem untouched_members {E : ScanEnv} {tt : TypeTable} {outputs : List Loc} {cols : List Bytes} {row : List DV}
    {dests dests' : List Dest} (hget : scanGet E tt outputs cols row dests = (dests', none)) :
    dests'.length = dests.length ∧
    ∀ (di : Nat) (d : Dest), dests[di]? = some d → ∃ d' : Dest, dests'[di]? = some d' ∧ d'.form = d.form ∧ d'.tid = d.tid ∧
      d'.fields.map (·.1) = d.fields.map (·.1) ∧
      (∀ idx, (∀ c ∈ cols, ∀ k tn f, markerIndex c = some k → outputs[k]? = some (.field d.tid tn f) → f.index ≠ idx) →
        d'.fieldVal idx = d.fieldVal idx) ∧
      (∀ key, (∀ c ∈ cols, ∀ k tn, markerIndex c = some k → outputs[k]? ≠ some (.mapKey d.tid tn key)) →
        d'.keyVal key = d.keyVal key) := by
  obtain ⟨hlen, hframe⟩ := scanGet_frame hget
  refine ⟨hlen, fun di d hd => ?_⟩
  obtain ⟨d', hd', h1, h2, h3⟩ := hframe di d hd
  refine ⟨d', hd', h1, h2, h3, fun idx hno => untouched_slotVal hget hd hd' (.field idx) ?_,
    fun key hno => d'.keyVal_of_slotVal (untouched_slotVal hget hd hd' (.key key) ?_)⟩
  · intro c hc k l hmi hout ht hs
    cases l with
    | field tid tn f => cases hs; cases ht; exact hno c hc k tn f hmi hout rfl
    | mapKey => cases hs
    | slice => cases hs
  · intro c hc k l hmi hout ht hs
    cases l with
    | mapKey tid tn key' => cases hs; cases ht; exact hno c hc k tn hmi hout
    | field => cases hs
    | slice => cases hs

example : ∃ d0 d1, ScanEx.dests'[0]? = some d0 ∧ ScanEx.dests'[1]? = some d1 ∧
    d0.fieldVal [1] = some (some "7") ∧ d1.keyVal (ScanEx.b "z") = some "old" ∧
    d1.keyVal (ScanEx.b "nokey") = none := by
  refine ⟨_, _, rfl, rfl, ?_, ?_, ?_⟩ <;> decide +kernel

example : ∃ d', ScanEx.dests'[0]? = some d' ∧ d'.fieldVal [1] = some (some "7") := by
  obtain ⟨d', h1, _, _, _, h2, _⟩ := (untouched_members ScanEx.get).2 0 _ rfl
  refine ⟨d', h1, ?_⟩
  rw [h2 [1]]
  · decide +kernel
  · intro c hc k tn f hmi hout hf
    exact (show ∀ l ∈ ScanEx.outputs, l.slot? ≠ some (.field [1]) by decide) _ (List.mem_of_getElem? hout)
      (congrArg (fun i => some (Slot.field i)) hf)

/-- C06, "the value the driver returns under the alias generated for a destination is stored in exactly that
    struct field or map key" (also the scan half of C17): if `Get` succeeds and column `j` is the last column that
    is the alias of output `k` (`outputs[k] = l`), then the member designated by `l`, in the destination `d` whose
    type is the type of `l`, holds `expectedText E tt l row[j]` (SqlairProofs/Scan/Main.lean); `null_semantics` and
    `nonnull_semantics` spell that out for a plain field, a pointer field, a field whose pointer is a `sql.Scanner`
    and a map key.  `conv` (database/sql's `convertAssign`, `Scanner.Scan`) is a parameter. -/
theorem scan_by_alias {E : ScanEnv} {tt : TypeTable} {outputs : List Loc} {cols : List Bytes} {row : List DV}
    {dests dests' : List Dest} (hget : scanGet E tt outputs cols row dests = (dests', none))
    (hwf : WFOut outputs dests) {k j di : Nat} {l : Loc} {c : Bytes} {d : Dest}
    (hk : outputs[k]? = some l) (hj : cols[j]? = some c) (hc : markerIndex c = some k)
    (hlast : ∀ j' c', j < j' → cols[j']? = some c' → markerIndex c' ≠ some k)
    (hd : dests[di]? = some d) (htid : d.tid = l.tid) :
    ∃ v txt d', row[j]? = some v ∧ dests'[di]? = some d' ∧ expectedText E tt l v = some txt ∧
      l.valIn d' = some txt := by
  obtain ⟨l0, di0, s, hdes⟩ := scanGet_located hget (List.mem_of_getElem? hj) hc
  obtain ⟨k0, d0, a1, a2, a3, a4, a5⟩ := id hdes
  obtain rfl : k = k0 := Option.some.inj (hc.symm.trans a1)
  obtain rfl : l = l0 := Option.some.inj (hk.symm.trans a2)
  obtain rfl : di0 = di := scanGet_tid_inj hget a3 hd (a4.trans htid.symm)
  rcases scanGet_member hget (di0, s) with ⟨_, h⟩ | ⟨j1, c1, v, l1, txt, hj1, hv1, hdes1, hlast1, hex, hval⟩
  · exact absurd hdes (h c (List.mem_of_getElem? hj) l)
  · -- the last column designating the member and the last column carrying alias `k` are the same column
    obtain ⟨rfl, hmi⟩ := hdes.same_output hwf.1 hdes1
    obtain rfl : j = j1 := Nat.le_antisymm (Nat.le_of_not_lt fun hlt => hlast1 j c l hlt hj hdes)
      (Nat.le_of_not_lt fun hlt => hlast j1 c1 hlt hj1 (hmi ▸ hc))
    obtain ⟨d', hd', hsv⟩ := Option.bind_eq_some_iff.mp hval
    exact ⟨v, txt, d', hv1, hd', hex, Loc.valIn_of_slotVal a5 hsv⟩

theorem scan_by_alias_once {E : ScanEnv} {tt : TypeTable} {outputs : List Loc} {cols : List Bytes} {row : List DV}
    {dests dests' : List Dest} (hget : scanGet E tt outputs cols row dests = (dests', none))
    (hwf : WFOut outputs dests) {k j di : Nat} {l : Loc} {c : Bytes} {d : Dest}
    (hk : outputs[k]? = some l) (hj : cols[j]? = some c) (hc : markerIndex c = some k)
    (honce : ∀ j' c', cols[j']? = some c' → markerIndex c' = some k → j' = j)
    (hd : dests[di]? = some d) (htid : d.tid = l.tid) :
    ∃ v txt d', row[j]? = some v ∧ dests'[di]? = some d' ∧ expectedText E tt l v = some txt ∧
      l.valIn d' = some txt :=
  scan_by_alias hget hwf hk hj hc
    (fun j' c' hlt hc' hm => by have := honce j' c' hc' hm; omega) hd htid

/-- `scan_by_alias` with the literal column names; `hk63` always holds in Go, where `k` is an `int` -/
theorem scan_by_alias_name {E : ScanEnv} {tt : TypeTable} {outputs : List Loc} {cols : List Bytes} {row : List DV}
    {dests dests' : List Dest} (hget : scanGet E tt outputs cols row dests = (dests', none))
    (hwf : WFOut outputs dests) {k j di : Nat} {l : Loc} {d : Dest} (hk63 : k < 2 ^ 63)
    (hk : outputs[k]? = some l) (hj : cols[j]? = some ("_sqlair_" ++ toString k).toUTF8.data)
    (hlast : ∀ j', j < j' → cols[j']? ≠ some ("_sqlair_" ++ toString k).toUTF8.data)
    (hd : dests[di]? = some d) (htid : d.tid = l.tid) :
    ∃ v txt d', row[j]? = some v ∧ dests'[di]? = some d' ∧ expectedText E tt l v = some txt ∧
      l.valIn d' = some txt :=
  scan_by_alias hget hwf hk hj (markerIndex_iff.mpr ⟨rfl, hk63⟩)
    (fun j' c' hlt hc' hm => hlast j' hlt (by rw [hc', (markerIndex_iff.mp hm).1]; rfl)) hd htid

/-- after a successful `Get` *every* output meets the hypotheses of `scan_by_alias` (a last column carrying its
    alias, exactly one destination of its type), so no member named by the statement is left out -/
theorem scan_every_output_assigned {E : ScanEnv} {tt : TypeTable} {outputs : List Loc} {cols : List Bytes}
    {row : List DV} {dests dests' : List Dest} (hget : scanGet E tt outputs cols row dests = (dests', none))
    (hwf : WFOut outputs dests) {k : Nat} {l : Loc} (hk : outputs[k]? = some l) :
    ∃ (j di : Nat) (c : Bytes) (d d' : Dest) (v : DV) (txt : String),
      cols[j]? = some c ∧ markerIndex c = some k ∧ dests[di]? = some d ∧ d.tid = l.tid ∧
      (∀ (di' : Nat) (e : Dest), dests[di']? = some e → e.tid = l.tid → di' = di) ∧
      row[j]? = some v ∧ dests'[di]? = some d' ∧ expectedText E tt l v = some txt ∧ l.valIn d' = some txt := by
  obtain ⟨m, hck, _⟩ := (scanGet_ok_iff ..).mp hget
  obtain ⟨j, c, hj, hc, hlast⟩ :=
    exists_last (fun c => markerIndex c = some k) cols (hck.covered k (List.getElem?_eq_some_iff.mp hk).1)
  obtain ⟨l0, di, s, k0, d, a1, a2, hd, ht, _⟩ := scanGet_located hget (List.mem_of_getElem? hj) hc
  obtain rfl : k = k0 := Option.some.inj (hc.symm.trans a1)
  obtain rfl : l = l0 := Option.some.inj (hk.symm.trans a2)
  obtain ⟨v, txt, d', h1, h2, h3, h4⟩ := scan_by_alias hget hwf hk hj hc hlast hd ht
  exact ⟨j, di, c, d, d', v, txt, hj, hc, hd, ht, fun di' e he hte => scanGet_tid_inj hget he hd (hte.trans ht.symm),
    h1, h2, h3, h4⟩

example : ∃ d0 d1, ScanEx.dests'[0]? = some d0 ∧ ScanEx.dests'[1]? = some d1 ∧
    d1.keyVal (ScanEx.b "k") = some "5" ∧ d0.fieldVal [0] = some (some "0") ∧
    d0.fieldVal [2] = some (some "<nil>:<nil>") := by
  refine ⟨_, _, rfl, rfl, ?_, ?_, ?_⟩ <;> decide +kernel

example : ∃ (j di : Nat) (c : Bytes) (d : Dest),
    ScanEx.cols[j]? = some c ∧ markerIndex c = some 2 ∧ ScanEx.dests[di]? = some d ∧ d.tid = 1 := by
  obtain ⟨j, di, c, d, _, _, _, h1, h2, h3, h4, _⟩ :=
    scan_every_output_assigned ScanEx.get ScanEx.wf (k := 2) rfl
  exact ⟨j, di, c, d, h1, h2, h3, h4⟩

example : ∃ v txt d', ScanEx.row[2]? = some v ∧ ScanEx.dests'[0]? = some d' ∧
    expectedText ScanEx.E ScanEx.tt (.field 0 (ScanEx.b "T") ScanEx.fa) v = some txt ∧
    (Loc.field 0 (ScanEx.b "T") ScanEx.fa).valIn d' = some txt :=
  scan_by_alias ScanEx.get ScanEx.wf (k := 0) (j := 2) (di := 0) (c := ScanEx.b "_sqlair_0")
    rfl rfl ScanEx.mi0 ScanEx.last0 rfl rfl

example : expectedText ScanEx.E ScanEx.tt (.mapKey 1 (ScanEx.b "M") (ScanEx.b "k")) (some "5") = some "5" ∧
    expectedText ScanEx.E ScanEx.tt (.field 0 (ScanEx.b "T") ScanEx.fa) none = some "0" ∧
    expectedText ScanEx.E ScanEx.tt (.field 0 (ScanEx.b "T") ScanEx.fp) none = some "<nil>:<nil>" := by
  decide +kernel

/-- C06, "NULL sets a plain struct field to its zero value and a pointer field to nil"; a field whose pointer is a
    `sql.Scanner` and a map element receive the conversion of NULL -/
theorem null_semantics {E : ScanEnv} {tt : TypeTable} {outputs : List Loc} {cols : List Bytes} {row : List DV}
    {dests dests' : List Dest} (hget : scanGet E tt outputs cols row dests = (dests', none))
    (hwf : WFOut outputs dests) {k j di : Nat} {l : Loc} {c : Bytes} {d : Dest}
    (hk : outputs[k]? = some l) (hj : cols[j]? = some c) (hc : markerIndex c = some k)
    (hlast : ∀ j' c', j < j' → cols[j']? = some c' → markerIndex c' ≠ some k)
    (hnull : row[j]? = some none)
    (hd : dests[di]? = some d) (htid : d.tid = l.tid) :
    ∃ d', dests'[di]? = some d' ∧
      match l with
      | .field tid _ f =>
        match fieldCat tt (fieldTypeOf tt tid f.index true) with
        | .proxy => d'.fieldVal f.index = some (some (E.zeroText (fieldTypeOf tt tid f.index true)))
        | .directPtr _ => d'.fieldVal f.index = some (some E.nilText)
        | .directScanner => ∃ txt, E.conv none (fieldTypeOf tt tid f.index true) = some txt ∧
            d'.fieldVal f.index = some (some txt)
      | .mapKey tid _ key => ∃ txt, E.conv none (tt.get tid).elem = some txt ∧ d'.keyVal key = some txt
      | .slice .. => False := by
  obtain ⟨v, txt, d', hv, hd', hex, hval⟩ := scan_by_alias hget hwf hk hj hc hlast hd htid
  obtain rfl : none = v := Option.some.inj (hnull.symm.trans hv)
  refine ⟨d', hd', ?_⟩
  cases l with
  | slice => cases hex
  | mapKey tid tn key => exact ⟨txt, hex, hval⟩
  | field tid tn f =>
    exact expectedText_field_null_elim (P := fun t => d'.fieldVal f.index = some (some t)) hex
      (Loc.valIn_field.mp hval)

/-- C06, a non-NULL value `x` under the alias of an output, when the scan succeeds: a plain field, a `sql.Scanner`
    field, a pointer field and a map key receive the conversion of `x` into their type (element type for pointer, map) -/
theorem nonnull_semantics {E : ScanEnv} {tt : TypeTable} {outputs : List Loc} {cols : List Bytes} {row : List DV}
    {dests dests' : List Dest} (hget : scanGet E tt outputs cols row dests = (dests', none))
    (hwf : WFOut outputs dests) {k j di : Nat} {l : Loc} {c : Bytes} {d : Dest} {x : String}
    (hk : outputs[k]? = some l) (hj : cols[j]? = some c) (hc : markerIndex c = some k)
    (hlast : ∀ j' c', j < j' → cols[j']? = some c' → markerIndex c' ≠ some k)
    (hx : row[j]? = some (some x))
    (hd : dests[di]? = some d) (htid : d.tid = l.tid) :
    ∃ d' txt, dests'[di]? = some d' ∧
      match l with
      | .field tid _ f =>
        d'.fieldVal f.index = some (some txt) ∧
        match fieldCat tt (fieldTypeOf tt tid f.index true) with
        | .proxy | .directScanner => E.conv (some x) (fieldTypeOf tt tid f.index true) = some txt
        | .directPtr elem => E.conv (some x) elem = some txt
      | .mapKey tid _ key => E.conv (some x) (tt.get tid).elem = some txt ∧ d'.keyVal key = some txt
      | .slice .. => False := by
  obtain ⟨v, txt, d', hv, hd', hex, hval⟩ := scan_by_alias hget hwf hk hj hc hlast hd htid
  obtain rfl : some x = v := Option.some.inj (hx.symm.trans hv)
  refine ⟨d', txt, hd', ?_⟩
  cases l with
  | slice => cases hex
  | mapKey tid tn key => exact ⟨hex, hval⟩
  | field tid tn f =>
    refine ⟨Loc.valIn_field.mp hval, ?_⟩
    rw [expectedText_field_val] at hex
    cases hcat : fieldCat tt (fieldTypeOf tt tid f.index true) <;> simp only [hcat] at hex ⊢ <;> exact hex

example : ∃ d', ScanEx.dests'[0]? = some d' ∧ d'.fieldVal [0] = some (some "0") := by
  obtain ⟨d', h1, h2⟩ := null_semantics ScanEx.get ScanEx.wf (k := 0) (j := 2) (di := 0)
    (l := .field 0 (ScanEx.b "T") ScanEx.fa) (c := ScanEx.b "_sqlair_0") rfl rfl ScanEx.mi0
    ScanEx.last0 rfl rfl rfl
  exact ⟨d', h1, h2⟩

example : ∃ d', ScanEx.dests'[0]? = some d' ∧ d'.fieldVal [2] = some (some "<nil>:<nil>") := by
  obtain ⟨d', h1, h2⟩ := null_semantics ScanEx.get ScanEx.wf (k := 1) (j := 3) (di := 0)
    (l := .field 0 (ScanEx.b "T") ScanEx.fp) (c := ScanEx.b "_sqlair_1") rfl rfl ScanEx.mi1
    ScanEx.last1 rfl rfl rfl
  exact ⟨d', h1, h2⟩

example : scanGet ScanEx.E ScanEx.tt ScanEx.outputs ScanEx.cols [none, none, none, none] ScanEx.dests =
    ([{ form := .ptrStruct, tid := 0, fields := [([0], some "0"), ([1], some "7"), ([2], some "<nil>:<nil>")] },
      { form := .mapVal, tid := 1, keys := [(ScanEx.b "z", "old"), (ScanEx.b "k", "NULL")] }], none) := by
  rw [scanGet_eq_idx, ScanEx.colsIdx]; decide +kernel

/-- complement of `scan_error_before_scan_leaves_dests`: an error of `Get` that does not come
    from `ScanArgs` is a failure of `Rows.Scan` itself (a conversion failure or a short row);
    only then can earlier *direct* targets already have been written, as with database/sql -/
theorem scan_error_cases (E : ScanEnv) (tt : TypeTable) (outputs : List Loc) (cols : List Bytes) (row : List DV)
    (dests dests' : List Dest) (e : String) (h : scanGet E tt outputs cols row dests = (dests', some e)) :
    (scanArgs tt outputs cols dests = .error e ∧ dests' = dests) ∨
    ((∃ ts, scanArgs tt outputs cols dests = .ok ts) ∧ (e = "row-too-short" ∨ e = "conversion")) := by
  rcases (scanGet_error_iff ..).mp h with h | ⟨ts, hs, hr⟩
  · exact .inl h
  · exact .inr ⟨⟨ts, hs⟩, scanRow_error_mem E ts row dests [] (congrArg Prod.snd hr)⟩

theorem scanArgs_error_classes {tt : TypeTable} {outputs : List Loc} {cols : List Bytes} {dests : List Dest}
    {e : String} (h : scanArgs tt outputs cols dests = .error e) :
    e ∈ ["nil-argument", "nil-pointer", "nil-map", "need-map-or-pointer", "need-map-or-pointer-to-struct",
      "pointer-to-nil-map", "type-provided-twice", "too-few-columns", "internal-column-not-in-outputs",
      "slice-output", "value-missing", "nil-embedded-pointer", "column-missing", "destination-not-used"] := by
  show e ∈ earlyErrors ++ ["column-missing", "destination-not-used"]
  rcases scanArgs_cases tt outputs cols dests with
    ⟨e', hmem, he⟩ | ⟨m, _, ⟨he, _⟩ | ⟨_, ⟨he, _⟩ | ⟨he, _⟩⟩⟩ <;> rw [he] at h <;> cases h
  · exact List.mem_append_left _ hmem
  · exact List.mem_append_right _ (.head _)
  · exact List.mem_append_right _ (.tail _ (.head _))

/-- C06, "an expected column is missing from the result".  Only `∃ e`: an earlier check of `ScanArgs` may fail first; `column_missing_iff` says when the error is this one -/
theorem missing_column_error (tt : TypeTable) (outputs : List Loc) (cols : List Bytes) (dests : List Dest)
    {k : Nat} (hk : k < outputs.length) (hmiss : ∀ c ∈ cols, markerIndex c ≠ some k) :
    ∃ e, scanArgs tt outputs cols dests = .error e :=
  exists_error_of_not_ok fun ts h => by
    obtain ⟨m, hck, _⟩ := (scanArgs_ok_iff ..).mp h
    obtain ⟨c, hc, hmi⟩ := hck.covered k hk
    exact hmiss c hc hmi

/-- C06: `ScanArgs` fails with "column-missing" exactly when its earlier checks pass (`EarlierChecksPass`) and
    some output has no column with its alias -/
theorem column_missing_iff (tt : TypeTable) (outputs : List Loc) (cols : List Bytes) (dests : List Dest) :
    scanArgs tt outputs cols dests = .error "column-missing" ↔
      ∃ m, EarlierChecksPass tt outputs cols dests m ∧
        ∃ k, k < outputs.length ∧ ∀ c ∈ cols, markerIndex c ≠ some k := by
  constructor
  · intro h
    rcases scanArgs_cases tt outputs cols dests with
      ⟨e, hmem, he⟩ | ⟨m, hearlier, ⟨_, hno⟩ | ⟨_, ⟨he, _⟩ | ⟨he, _⟩⟩⟩
    · rw [he] at h; cases h; exact absurd hmem coverage_errors_not_early.1
    · exact ⟨m, hearlier, hno⟩
    · rw [he] at h; simp at h
    · rw [he] at h; cases h
  · rintro ⟨m, hearlier, k, hk, hno⟩
    rw [scanArgs_of_targets hearlier, if_pos]
    exact fun h => have ⟨c, hc, hmi⟩ := h k hk; hno c hc hmi

/-- C06, "a supplied destination is not used by the statement".  Only `∃ e`, as in `missing_column_error`;
    `destination_not_used_iff` says when the error is this one.  "Used" is by type, as in Go
    (`argTypeUsed[output.ArgType()]`, internal/expr/query.go) -/
theorem unused_destination_error (tt : TypeTable) (outputs : List Loc) (cols : List Bytes) (dests : List Dest)
    {d : Dest} (hd : d ∈ dests)
    (hun : ∀ c ∈ cols, ∀ k l, markerIndex c = some k → outputs[k]? = some l → l.tid ≠ d.tid) :
    ∃ e, scanArgs tt outputs cols dests = .error e :=
  exists_error_of_not_ok fun ts h => by
    obtain ⟨m, hck, _⟩ := (scanArgs_ok_iff ..).mp h
    obtain ⟨c, hc, k, l, hmi, hk, ht⟩ := hck.used d hd
    exact hun c hc k l hmi hk ht

/-- C06: `ScanArgs` fails with "destination-not-used" exactly when its earlier checks pass (`EarlierChecksPass`),
    every output has a column with its alias, and some destination has the type of no output that has a column -/
theorem destination_not_used_iff (tt : TypeTable) (outputs : List Loc) (cols : List Bytes) (dests : List Dest) :
    scanArgs tt outputs cols dests = .error "destination-not-used" ↔
      ∃ m, EarlierChecksPass tt outputs cols dests m ∧
        (∀ k, k < outputs.length → ∃ c ∈ cols, markerIndex c = some k) ∧
        ∃ d ∈ dests, ∀ c ∈ cols, ∀ k l, markerIndex c = some k → outputs[k]? = some l → l.tid ≠ d.tid := by
  constructor
  · intro h
    rcases scanArgs_cases tt outputs cols dests with
      ⟨e, hmem, he⟩ | ⟨m, hearlier, ⟨he, _⟩ | ⟨hcov, ⟨_, hno⟩ | ⟨he, _⟩⟩⟩
    · rw [he] at h; cases h; exact absurd hmem coverage_errors_not_early.2
    · rw [he] at h; simp at h
    · exact ⟨m, hearlier, hcov, hno⟩
    · rw [he] at h; cases h
  · rintro ⟨m, hearlier, hk, d, hdm, hno⟩
    rw [scanArgs_of_targets hearlier, if_neg (not_not_intro hk), if_pos]
    exact fun h => have ⟨c, hc, k, l, hmi, hl, ht⟩ := h d hdm; hno c hc k l hmi hl ht

example : ∃ e, scanArgs ScanEx.tt ScanEx.outputs [ScanEx.b "_sqlair_2", ScanEx.b "x", ScanEx.b "_sqlair_0"]
    ScanEx.dests = .error e :=
  missing_column_error _ _ _ _ (k := 1) (by decide) (by simp [ScanEx.mi0, ScanEx.mi2, ScanEx.miX])

example : ∃ e, scanArgs ScanEx.tt ScanEx.outputs ScanEx.cols
    (ScanEx.dests ++ [{ form := .ptrStruct, tid := 5, fields := [] }]) = .error e :=
  unused_destination_error _ _ _ _ (d := { form := .ptrStruct, tid := 5, fields := [] }) (by simp)
    fun c hc k l hmi hout => (show ∀ l ∈ ScanEx.outputs, l.tid ≠ 5 by decide) l (List.mem_of_getElem? hout)

example : (scanGet ScanEx.E ScanEx.tt ScanEx.outputs [ScanEx.b "_sqlair_2", ScanEx.b "x", ScanEx.b "_sqlair_0"]
    ScanEx.row ScanEx.dests).2 = some "column-missing" := by
  rw [scanGet_eq_idx, List.map_cons, List.map_cons, List.map_cons, List.map_nil,
    ScanEx.mi2, ScanEx.miX, ScanEx.mi0]
  decide +kernel

example : (scanGet ScanEx.E ScanEx.tt ScanEx.outputs ScanEx.cols ScanEx.row
    (ScanEx.dests ++ [{ form := .ptrStruct, tid := 5, fields := [] }])).2 = some "destination-not-used" := by
  rw [scanGet_eq_idx, ScanEx.colsIdx]; decide +kernel

/-- C06, "independently of the order of the result columns and of additional columns": if the scan of
    `(cols, row)` succeeds and no alias occurs twice (of two columns with the same alias the later one wins, and a
    permutation can change which that is), then the scan of any permutation `(cols', row')` of the
    (column, value) pairs — foreign columns included — succeeds too and yields the same store: *identical* struct
    fields and the same map content; the association lists of the map keys are permutations of each other
    (`StoreEquiv`), they need not be equal because new keys are appended in scan order (see
    `scan_perm_order_can_differ`) — Go maps are unordered, so this is equality of the Go values -/
theorem scan_perm_invariant {E : ScanEnv} {tt : TypeTable} {outputs : List Loc} {cols cols' : List Bytes}
    {row row' : List DV} {dests dests' : List Dest}
    (hget : scanGet E tt outputs cols row dests = (dests', none))
    (hwf : WFOut outputs dests)
    (hnodup : (cols.filterMap markerIndex).Nodup)
    (hperm : (cols.zip row).Perm (cols'.zip row'))
    (hlen' : cols'.length ≤ row'.length) :
    ∃ dests'', scanGet E tt outputs cols' row' dests = (dests'', none) ∧
      StoreEquiv dests' dests'' ∧
      ∀ (i : Nat) (d' d'' : Dest), dests'[i]? = some d' → dests''[i]? = some d'' →
        d'.fields = d''.fields ∧ ∀ key, d'.keyVal key = d''.keyVal key := by
  obtain ⟨dests'', hget', heq, hval⟩ := scan_perm_core hget hwf hnodup hperm hlen'
  refine ⟨dests'', hget', heq, fun i d' d'' hd' hd'' => ⟨(heq.2 i d' d'' hd' hd'').2.2.1, fun key => ?_⟩⟩
  have := hval (i, .key key)
  rw [valAt_of_getElem? hd', valAt_of_getElem? hd''] at this
  exact d'.keyVal_of_slotVal this

example : ∃ dests'', scanGet ScanEx.E ScanEx.tt ScanEx.outputs ScanEx.cols' ScanEx.row' ScanEx.dests = (dests'', none) ∧
    StoreEquiv ScanEx.dests' dests'' := by
  obtain ⟨d, h1, h2, _⟩ :=
    scan_perm_invariant (cols' := ScanEx.cols') (row' := ScanEx.row') ScanEx.get ScanEx.wf
      (ScanEx.markers ▸ by decide)
      (List.perm_append_comm (l₁ := [_, _]) (l₂ := [_, _])) (by decide)
  exact ⟨d, h1, h2⟩

example : scanGet ScanEx.E ScanEx.tt ScanEx.outputs ScanEx.cols' ScanEx.row' ScanEx.dests = (ScanEx.dests', none) := by
  rw [scanGet_eq_idx, ScanEx.cols'Idx]; decide +kernel

/-- C06: the association lists of map keys are not invariant under a permutation of the columns: two new keys of one
    map are inserted in column order, so the two scans differ as lists (only the unordered map is the same) -/
theorem scan_perm_order_can_differ :
    let outputs : List Loc := [.mapKey 1 (ScanEx.b "M") (ScanEx.b "k"), .mapKey 1 (ScanEx.b "M") (ScanEx.b "j")]
    let dests : List Dest := [{ form := .mapVal, tid := 1 }]
    (scanGet ScanEx.E ScanEx.tt outputs [ScanEx.b "_sqlair_0", ScanEx.b "_sqlair_1"] [some "1", some "2"] dests).1 ≠
    (scanGet ScanEx.E ScanEx.tt outputs [ScanEx.b "_sqlair_1", ScanEx.b "_sqlair_0"] [some "2", some "1"] dests).1 := by
  intro outputs dests
  rw [scanGet_eq_idx, scanGet_eq_idx, List.map_cons, List.map_cons, List.map_nil, List.map_cons,
    List.map_cons, List.map_nil, ScanEx.mi0, ScanEx.mi1]
  decide +kernel

/-- `markerIndex` (querybuilder.go) inverts `markerName`: the generated alias `_sqlair_<n>` (n < 2^63) is marker `n`,
    and only these names are markers: no sign and no leading zeros (which `strconv.Atoi` alone would accept), no
    other prefix, nothing after the digits -/
theorem markerIndex_markerName :
    (∀ n, n < 2 ^ 63 → markerIndex ("_sqlair_" ++ toString n).toUTF8.data = some n) ∧
    (∀ col n, markerIndex col = some n → col = ("_sqlair_" ++ toString n).toUTF8.data) :=
  ⟨fun _ h => markerIndex_iff.mpr ⟨rfl, h⟩, fun _ _ h => (markerIndex_iff.mp h).1⟩

theorem markerIndex_eq_some_iff (col : Bytes) (n : Nat) :
    markerIndex col = some n ↔ col = ("_sqlair_" ++ toString n).toUTF8.data ∧ n < 2 ^ 63 :=
  markerIndex_iff

example : markerIndex (ScanEx.b "_sqlair_10") = some 10 ∧ markerIndex (ScanEx.b "_sqlair_0") = some 0 ∧
    markerIndex (ScanEx.b "_sqlair_01") = none ∧ markerIndex (ScanEx.b "_sqlair_+1") = none ∧
    markerIndex (ScanEx.b "_sqlair_-1") = none ∧ markerIndex (ScanEx.b "_sqlair_") = none ∧
    markerIndex (ScanEx.b "sqlair_1") = none ∧ markerIndex (ScanEx.b "_sqlair_1x") = none ∧
    markerIndex (ScanEx.b "_sqlair_9223372036854775807") = some 9223372036854775807 ∧
    markerIndex (ScanEx.b "_sqlair_9223372036854775808") = none := by
  decide +kernel

end Sqlair
