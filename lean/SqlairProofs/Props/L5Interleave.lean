/-
  L5 soundness for CONCURRENT runs: the Boolean predicates the Go harness evaluates on the
  driver log of concurrent runs - `holdsC09`, `holdsC10`, and the `doubleClose == 0` conjunct
  of `holdsC11` (Spec/L5) - hold of the observation the model produces from EVERY list of
  atomic steps, i.e. from every interleaving of any number of operations with reference
  drops, iterator closes and every placement of the three finalizers (`run {} steps`; steps
  that are not enabled are skipped).  `Props/L5Sound` has the same for sequential histories.
  `holdsC09_interleaved` is also what C16 rests on at this layer (the SQL a call runs is that of
  its own arguments whatever runs concurrently; obligations.json lists it under both).

  Two renderings of the observation are covered and shown to agree on the events:
    * `execsOfSteps steps` (L5Sound/InterleaveDefs): the instrumented replay, reading DB and
      shape of the executed statement from the driver-statement table and the wanted pair
      from the operation that takes the `exec` step;
    * `l5s_execsOf (run {} steps).log (wantsOfSteps steps)`: the observation formed from the
      LOG exactly like the harness (and the sequential development) forms it - DB/shape of a
      statement from its `prepare` event, `closedBefore` from an earlier `close` event - with
      the wanted pair attached to the index of the event.
-/
import SqlairProofs.L5Sound.Interleave

namespace Sqlair.Cache

/-- the running example.  Four operations on one (Statement, DB) slot, their steps
    alternating: 1 (shape 0) and 2 (shape 1) both miss and both prepare; 1 inserts; 4
    (shape 0) hits statement 1; 2 inserts and thereby evicts statement 1 while 1 and 4 hold
    it; 3 (shape 1) hits statement 2; 1 executes with an iterator left open; the finalizer of
    the evicted statement is attempted while 4 still holds it (not enabled: skipped); 4
    executes the evicted statement; the iterator is closed, the finalizer runs (close 1); the
    handles are dropped and the Statement's finalizer closes statement 2; a last `exec` of the
    finished operation 4 is not enabled -/
def l5i_example : List Step :=
  [.newS, .newD, .query 1 1 1 0, .query 2 1 1 1, .query 3 1 1 1, .query 4 1 1 0,
   .lookup 1, .lookup 2, .prepare 1, .prepare 2, .insert 1, .lookup 4, .insert 2, .lookup 3,
   .exec 1 (some 7), .exec 3 none, .finDS 1, .exec 2 none, .exec 4 none, .iterClose 7, .finDS 1,
   .dropS 1, .dropD 1, .finS 1, .exec 4 none]

/-- C09: `holdsC09` holds of the observation formed from the log of the run of any step list the way the
    harness forms it (DB and shape of a statement from its `prepare` event). -/
theorem holdsC09_interleaved_log (steps : List Step) :
    holdsC09 (l5s_execsOf (run {} steps).log (wantsOfSteps steps)) = true :=
  l5s_execsOf_c09 (inv_run inv_init steps) (l5i_w_steps steps)

/-- C09: for every step list the instrumented replay `execsOfSteps` observes exactly what the harness-style
    reading of the final log, with the wanted pairs attached to the event indices, observes. -/
theorem execsOfSteps_eq_log (steps : List Step) :
    execsOfSteps steps = l5s_execsOf (run {} steps).log (wantsOfSteps steps) := by
  rw [l5i_execsOf_canon (inv_run inv_init steps) (l5i_w_steps steps), l5i_execsFrom_canon steps inv_init]
  rfl

/-- C09 for every interleaving: every execution observed in the run of any step list ran a
    driver statement that lives on the DB, and was prepared from the SQL shape, that the
    operation executing it asked for -/
theorem holdsC09_interleaved (steps : List Step) : holdsC09 (execsOfSteps steps) = true :=
  execsOfSteps_eq_log steps ▸ holdsC09_interleaved_log steps

/-- the observation misses nothing and invents nothing -/
theorem execsOfSteps_events (steps : List Step) :
    (run {} steps).log.filter l5i_isExecEv = (execsOfSteps steps).map l5i_evOf := by
  rw [l5i_filter_isExecEv (inv_run inv_init steps).log.noEC, l5i_execsFrom_canon steps inv_init]
  rfl

theorem l5i_example_log : (run {} l5i_example).log =
    [.prepare 1 1 0, .prepare 2 1 1, .exec 1 1 0, .exec 2 1 1, .exec 2 1 1, .exec 1 1 0, .close 1, .close 2] := by
  decide +kernel

theorem l5i_example_wants : wantsOfSteps l5i_example = [(2, 1, 0), (3, 1, 1), (4, 1, 1), (5, 1, 0)] := by
  decide +kernel

/-- non-vacuity: in the example four executions are observed - two of statements prepared by
    the executing operation (misses), two of statements found in the cache (hits), the last
    one of a statement evicted meanwhile - and both renderings of the observation agree -/
example :
    (execsOfSteps l5i_example).map (fun e => (e.ds, e.db, e.shape, e.wantDb, e.wantShape, e.closedBefore)) =
      [(1, 1, 0, 1, 0, false), (2, 1, 1, 1, 1, false), (2, 1, 1, 1, 1, false), (1, 1, 0, 1, 0, false)] ∧
    (l5s_execsOf (run {} l5i_example).log (wantsOfSteps l5i_example)).map
        (fun e => (e.ds, e.db, e.shape, e.wantDb, e.wantShape, e.closedBefore)) =
      [(1, 1, 0, 1, 0, false), (2, 1, 1, 1, 1, false), (2, 1, 1, 1, 1, false), (1, 1, 0, 1, 0, false)] ∧
    wantsOfSteps l5i_example = [(2, 1, 0), (3, 1, 1), (4, 1, 1), (5, 1, 0)] ∧
    (run {} l5i_example).log =
      [.prepare 1 1 0, .prepare 2 1 1, .exec 1 1 0, .exec 2 1 1, .exec 2 1 1, .exec 1 1 0, .close 1, .close 2] :=
  ⟨by decide +kernel, by rw [l5i_example_log, l5i_example_wants]; decide +kernel, l5i_example_wants, l5i_example_log⟩

/-- non-vacuity: the interleaving is a real one - after 13 steps operations 1 and 4 hold the
    evicted statement 1, operation 2 holds statement 2 which is what the cache has; the
    finalizer of statement 1 is not enabled at step 16 and is at step 20 -/
example :
    (run {} (l5i_example.take 13)).ops.map (fun p => (p.1, p.2.pc)) =
      [(1, .ready 1), (2, .ready 2), (3, .start), (4, .ready 1)] ∧
    lookup2 (run {} (l5i_example.take 13)).stmtDB 1 1 = some 2 ∧
    ((run {} (l5i_example.take 13)).getDS 1).map (·.finalizer) = some true ∧
    (step (run {} (l5i_example.take 16)) (.finDS 1)).isSome = false ∧
    (step (run {} (l5i_example.take 20)) (.finDS 1)).isSome = true := by decide +kernel

/-- wrong observations: a statement prepared for shape 0 run for an operation that wanted
    shape 1 (what the hit of operation 3 would give had the look-up ignored the SQL), or on
    another DB; and the log rendering of the example with the wants of events 3 and 5 swapped -/
example :
    holdsC09 [{ ds := 1, db := 1, shape := 0, wantDb := 1, wantShape := 1, closedBefore := false }] = false ∧
    holdsC09 [{ ds := 1, db := 1, shape := 0, wantDb := 2, wantShape := 0, closedBefore := false }] = false ∧
    holdsC09 (l5s_execsOf (run {} l5i_example).log [(2, 1, 0), (3, 1, 0), (4, 1, 1), (5, 1, 1)]) = false := by
  rw [l5i_example_log]
  decide +kernel

/-- for any attribution `w` of wants: C10 does not read them -/
theorem holdsC10_interleaved_log (steps : List Step) (w : List (Nat × Nat × Nat)) :
    holdsC10 (l5s_execsOf (run {} steps).log w) (l5s_closedErrs (run {} steps).log) = true :=
  l5s_execsOf_c10 (inv_run inv_init steps) w

/-- C10 for every interleaving: no execution observed in the run of any step list is of a
    driver statement that had been closed, and the number of "statement is closed" errors
    read off the final log is 0 -/
theorem holdsC10_interleaved (steps : List Step) :
    holdsC10 (execsOfSteps steps) (l5s_closedErrs (run {} steps).log) = true :=
  execsOfSteps_eq_log steps ▸ holdsC10_interleaved_log steps _

/-- non-vacuity: the example has closes (statement 1 at event 6, after its last execution at
    event 5 by an operation that held it through the eviction; statement 2 at event 7), the
    observation is not empty, and no execution is flagged -/
example :
    (execsOfSteps l5i_example).length = 4 ∧
    (execsOfSteps l5i_example).map (·.closedBefore) = [false, false, false, false] ∧
    (run {} l5i_example).log.drop 5 = [.exec 1 1 0, .close 1, .close 2] ∧
    l5s_closedErrs (run {} l5i_example).log = 0 := by
  rw [l5i_example_log]
  decide +kernel

/-- wrong observations: an execution flagged `closedBefore`; a "statement is closed" error;
    the log of the example had operation 4 executed after the finalizer of statement 1 -/
example :
    holdsC10 [{ ds := 1, db := 1, shape := 0, wantDb := 1, wantShape := 0, closedBefore := true }] 0 = false ∧
    holdsC10 [] 1 = false ∧
    holdsC10 (l5s_execsOf [.prepare 1 1 0, .exec 1 1 0, .close 1, .exec 1 1 0] [(1, 1, 0), (3, 1, 0)]) 0 = false ∧
    l5s_closedErrs [.prepare 1 1 0, .close 1, .execClosed 1] = 1 := by decide +kernel

/-- C11 (first conjunct) for every interleaving: in the log of the run of any step list no
    driver statement has two `close` events - counted on the log alone, counted over the
    driver-statement table (the `doubleClose` input of the sequential development), and per
    statement id -/
theorem no_double_close_interleaved (steps : List Step) :
    l5i_doubleCloseLog (run {} steps).log = 0 ∧ l5s_doubleClose (run {} steps) = 0 ∧
      ∀ id, l5s_closes (run {} steps).log id ≤ 1 := by
  refine ⟨l5i_doubleCloseLog_zero (inv_run inv_init steps), l5s_doubleClose_zero (inv_run inv_init steps), ?_⟩
  intro id
  rw [l5s_closes_eq_count]
  exact (inv_run inv_init steps).log.close1 id

/-- so `holdsC11` on a concurrent run reduces to its other two conjuncts (for those: Props/L5Quiescent) -/
theorem holdsC11_interleaved_doubleClose (steps : List Step) (openStmts cachedPairs conns : Nat)
    (allDropped : Bool) (cacheEntries : Nat) :
    holdsC11 (l5i_doubleCloseLog (run {} steps).log) openStmts cachedPairs conns allDropped cacheEntries =
      (decide (openStmts ≤ cachedPairs * conns) && (!allDropped || (openStmts == 0 && cacheEntries == 0))) := by
  unfold holdsC11
  rw [(no_double_close_interleaved steps).1]
  simp

/-- non-vacuity: both statements of the example are closed, each once; a log with a second
    close of statement 1 is counted, and fails `holdsC11` -/
example :
    l5s_closes (run {} l5i_example).log 1 = 1 ∧ l5s_closes (run {} l5i_example).log 2 = 1 ∧
    l5i_doubleCloseLog (run {} l5i_example).log = 0 ∧
    l5i_doubleCloseLog [.prepare 1 1 0, .close 1, .prepare 2 1 1, .close 1] = 2 ∧
    holdsC11 (l5i_doubleCloseLog [.prepare 1 1 0, .close 1, .prepare 2 1 1, .close 1]) 0 0 1 true 0 = false ∧
    holdsC11 (l5i_doubleCloseLog (run {} l5i_example).log) 0 0 1 true 0 = true := by
  rw [l5i_example_log]
  decide +kernel

end Sqlair.Cache
