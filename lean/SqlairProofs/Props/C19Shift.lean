/-
  C19, translation invariance: inserting `k > 0` newlines in front of the query moves the
  reported line by exactly `k`, leaves column and message unchanged, and does not change
  whether the query is accepted.  That the reported position lies inside the query is
  `c19_error_position_partial` (`Props/Parser.lean`); `c19_holds` has both.

  Assumptions, each proved for `decodeRune` or for every classifier that agrees with the ASCII
  tables below 128:
  * `DecOK E`: the decoder makes progress and stays inside the input, the newline rune is the
    newline byte (`decodeRune_DecOK`, `SqlairProofs/Utf8.lean`);
  * `DecLocal E`: it looks only at the bytes from the offset on (`decodeRune_DecLocal`,
    `Parser/ShiftDefs.lean`);
  * `ClassSep E`: tab, newline, CR, space, `-`, `/` are neither letters nor digits
    (`ClassSep.of_ascii`, `Parser/Scan.lean`).
-/
import SqlairProofs.Props.Parser
import SqlairProofs.Parser.ShiftMain

namespace Sqlair

/-- the structural statement: same verdict; on success the nodes correspond (`SegsShift`), on
    failure the error is the same error `k` lines further down -/
theorem c19_shift_parse (E : Env) (h : DecOK E) (hl : DecLocal E) (hsep : ClassSep E)
    (k : Nat) (hk : 0 < k) : PRel k (parse E) (parse (shiftEnv k E)) :=
  parse_shift h hl hsep hk

/-- C19: a rejected query with `k > 0` newlines put in front is rejected with the same error kind at
    the same column, `k` lines further down -/
theorem c19_shift_error (E : Env) (h : DecOK E) (hl : DecLocal E) (hsep : ClassSep E)
    (k : Nat) (hk : 0 < k) (e : PErr) (hp : parse E = .error e) :
    parse (shiftEnv k E) = .error { line := e.line + k, col := e.col, kind := e.kind } := by
  have hP := parse_shift h hl hsep hk
  rw [hp] at hP
  exact hP.of_error

theorem c19_shift_nodes (E : Env) (h : DecOK E) (hl : DecLocal E) (hsep : ClassSep E)
    (k : Nat) (hk : 0 < k) (segs : List Seg) (hp : parse E = .ok segs) :
    ∃ segs', parse (shiftEnv k E) = .ok segs' ∧ SegsShift k segs segs' := by
  have hP := parse_shift h hl hsep hk
  rw [hp] at hP
  exact hP.of_ok

/-- C19: whether `parse` accepts a query does not depend on `k` newlines put in front of it, for every `k` -/
theorem c19_shift_accept_iff (E : Env) (h : DecOK E) (hl : DecLocal E) (hsep : ClassSep E)
    (k : Nat) : (parse (shiftEnv k E)).isOk = (parse E).isOk := by
  rcases Nat.eq_zero_or_pos k with rfl | hk
  · rw [shiftEnv_zero]
  · cases hq : parse E with
    | ok segs => obtain ⟨_, hq', _⟩ := c19_shift_nodes E h hl hsep k hk segs hq; rw [hq']; rfl
    | error e => rw [c19_shift_error E h hl hsep k hk e hq]; rfl

/-- the observed nodes (raw texts) of the shifted run: those of the base run, with the `k`
    newlines as a first bypass node of their own or in front of the text of the first bypass node -/
inductive OSegsShift (k : Nat) : List OSeg → List OSeg → Prop where
  | fresh (l : List OSeg) :
      OSegsShift k l ({ kind := .bypass, raw := Array.replicate k 10 } :: l)
  | merged (raw : Bytes) (rest : List OSeg) :
      OSegsShift k ({ kind := .bypass, raw := raw } :: rest)
        ({ kind := .bypass, raw := Array.replicate k 10 ++ raw } :: rest)

theorem SegsShift.toOSegs {k : Nat} (E : Env) {l l' : List Seg} (hs : SegsShift k l l') :
    OSegsShift k (l.map (Seg.toOSeg E.inp)) (l'.map (Seg.toOSeg (shiftEnv k E).inp)) := by
  have hmap : ∀ r : List Seg, (r.map (Seg.sh k)).map (Seg.toOSeg (shiftEnv k E).inp) =
      r.map (Seg.toOSeg E.inp) := fun r => by
    rw [List.map_map]
    exact List.map_congr_left (fun x _ => toOSeg_sh k E x)
  cases hs with
  | fresh l =>
    rw [List.map_cons, hmap]
    have := OSegsShift.fresh (k := k) (l.map (Seg.toOSeg E.inp))
    rwa [← shift_extract_nl k E.inp] at this
  | merged b rest =>
    rw [List.map_cons, List.map_cons, hmap]
    have := OSegsShift.merged (k := k) (E.inp.extract 0 b) (rest.map (Seg.toOSeg E.inp))
    rwa [← shift_extract_zero] at this

/-- C19: an accepted query with `k > 0` newlines put in front is accepted, and its observed nodes are those
    of the query itself with the `k` newlines as a new first bypass node or in front of the first bypass node -/
theorem c19_shift_obs_nodes (E : Env) (h : DecOK E) (hl : DecLocal E) (hsep : ClassSep E)
    (k : Nat) (hk : 0 < k) (osegs : List OSeg) (hp : modelObs E = .ok osegs) :
    ∃ osegs', modelObs (shiftEnv k E) = .ok osegs' ∧ OSegsShift k osegs osegs' := by
  cases hq : parse E with
  | error e => rw [modelObs_error hq] at hp; cases hp
  | ok segs =>
    obtain ⟨segs', hq', hs⟩ := c19_shift_nodes E h hl hsep k hk segs hq
    rw [modelObs_ok hq] at hp
    cases hp
    exact ⟨_, modelObs_ok hq', hs.toOSegs E⟩

/-- C19, translation invariance, as the predicate `shiftOK` that the differential
    harness evaluates on the implementation's observations.  (`0 < k` is needed: `shiftOK 0`
    is false of a rejected single-line query, whose observation shows no line at all; see
    `shiftOK_zero_counterexample`.) -/
theorem c19_newline_shift (E : Env) (h : DecOK E) (hl : DecLocal E) (hsep : ClassSep E)
    (k : Nat) (hk : 0 < k) : shiftOK k (modelObs E) (modelObs (shiftEnv k E)) = true := by
  cases hq : parse E with
  | ok segs =>
    obtain ⟨_, hq', _⟩ := c19_shift_nodes E h hl hsep k hk segs hq
    rw [modelObs_ok hq, modelObs_ok hq']; rfl
  | error e =>
    rw [modelObs_error hq, modelObs_error (c19_shift_error E h hl hsep k hk e hq)]
    have hnl' : hasNewline (shiftEnv k E).inp = true := shift_hasNewline k E.inp hk
    have hline : (if hasNewline E.inp = true then some e.line else none).getD 1 = e.line := by
      cases hnl : hasNewline E.inp with
      | true => rfl
      | false => exact (errPos_line_single (c19_error_offset_partial E h hsep.classOK e hq) hnl).symm
    simp only [shiftOK, hnl', hline, if_true, beq_self_eq_true, Bool.and_self]

/-- `c19_newline_shift` for the Go implementation's decoder and any classifier that agrees with
    the ASCII tables below 128 -/
theorem c19_newline_shift_go (inp : Bytes) (letter digit : Nat → Bool)
    (hletter : ∀ c, c < 128 → letter c = ((65 ≤ c && c ≤ 90) || (97 ≤ c && c ≤ 122)))
    (hdigit : ∀ c, c < 128 → digit c = (48 ≤ c && c ≤ 57)) (k : Nat) (hk : 0 < k) :
    shiftOK k (modelObs { inp := inp, dec := decodeRune, letter := letter, digit := digit })
      (modelObs (shiftEnv k { inp := inp, dec := decodeRune, letter := letter, digit := digit })) = true :=
  c19_newline_shift _ (decodeRune_DecOK _ _ _) (decodeRune_DecLocal _ _ _)
    (ClassSep.of_ascii _ hletter hdigit) k hk

/-- C19 as the harness evaluates it (`holdsC19`): the error position lies inside the
    input, and every shifted observation is the base observation `k` lines further down -/
theorem c19_holds (E : Env) (h : DecOK E) (hl : DecLocal E) (hsep : ClassSep E) (ks : List Nat) :
    holdsC19 E.inp (modelObs E) (ks.map fun k => (k, modelObs (shiftEnv k E))) = true := by
  unfold holdsC19
  rw [Bool.and_eq_true]
  refine ⟨c19_error_position_partial E h hsep.classOK, ?_⟩
  rw [List.all_eq_true]
  intro x hx
  obtain ⟨k, _, rfl⟩ := List.mem_map.mp hx
  show (k == 0 || shiftOK k (modelObs E) (modelObs (shiftEnv k E))) = true
  rcases Nat.eq_zero_or_pos k with rfl | hk
  · rfl
  · rw [c19_newline_shift E h hl hsep k hk, Bool.or_true]

/-! ### non-vacuity -/

theorem asciiEnv_DecLocal (s : String) : DecLocal (asciiEnv s) := decodeRune_DecLocal _ _ _

theorem asciiEnv_ClassSep (s : String) : ClassSep (asciiEnv s) :=
  ClassSep.of_ascii _ (fun _ _ => rfl) (fun _ _ => rfl)

example : (shiftEnv 2 (asciiEnv "SELECT &T FROM t")).inp = (asciiEnv "\n\nSELECT &T FROM t").inp := by
  decide +kernel

theorem c19_parse_unqualified : parse (asciiEnv "SELECT &T FROM t") =
    .error { line := 1, col := 8, kind := .unqualified #[84] } :=
  parse_of_parseError (by decide +kernel)

/-- its shifted counterpart is read off the theorem, not evaluated -/
theorem c19_parse_unqualified_shift : parse (shiftEnv 2 (asciiEnv "SELECT &T FROM t")) =
    .error { line := 3, col := 8, kind := .unqualified #[84] } :=
  c19_shift_error _ (asciiEnv_DecOK _) (asciiEnv_DecLocal _) (asciiEnv_ClassSep _) 2 (by decide) _
    c19_parse_unqualified

/-- base run: a single-line input, so no line is shown; column 8, unqualified `T` -/
example : modelObs (asciiEnv "SELECT &T FROM t") =
    .err none (some 8) (EKind.unqualified #[84]).render := by
  have hnl : hasNewline (asciiEnv "SELECT &T FROM t").inp = false := by decide +kernel
  rw [modelObs_error c19_parse_unqualified]
  simp only [hnl, Bool.false_eq_true, if_false]

/-- shifted run: line 3, the same column and message -/
example : modelObs (shiftEnv 2 (asciiEnv "SELECT &T FROM t")) =
    .err (some 3) (some 8) (EKind.unqualified #[84]).render := by
  have hnl : hasNewline (shiftEnv 2 (asciiEnv "SELECT &T FROM t")).inp = true :=
    shift_hasNewline 2 _ (by decide)
  rw [modelObs_error c19_parse_unqualified_shift]
  simp only [hnl, if_true]

example : parseError (shiftEnv 2 (asciiEnv "SELECT &T FROM t")) =
    some { line := 3, col := 8, kind := .unqualified #[84] } := by
  rw [parseError, c19_parse_unqualified_shift]

/-- an accepted query: the nodes move by 2, the two newlines join the first bypass node -/
example : parseNodes (shiftEnv 2 (asciiEnv "SELECT &T.* FROM t WHERE x=$M.y")) =
    some [(.bypass, 0, 9), (.output, 9, 13), (.bypass, 13, 29), (.member, 29, 33)] := by
  decide +kernel

/-- a query that starts with an expression: the newlines form a bypass node of their own -/
example : parseNodes (asciiEnv "$M.y") = some [(.member, 0, 4)] ∧
    parseNodes (shiftEnv 3 (asciiEnv "$M.y")) = some [(.bypass, 0, 3), (.member, 3, 7)] := by
  decide +kernel

/-- the empty query: accepted without nodes; shifted, one bypass node -/
example : parseNodes (asciiEnv "") = some [] ∧
    parseNodes (shiftEnv 3 (asciiEnv "")) = some [(.bypass, 0, 3)] := by
  decide +kernel

/-- a name character at offset 0 (the position-absolute test of `advanceToNextExpression`), on
    the observations: the text of the first bypass node gets the newlines -/
example : modelObs (shiftEnv 2 (asciiEnv "a$M.y")) =
    .ok [{ kind := .bypass, raw := #[10, 10, 97] },
         { kind := .member, raw := #[36, 77, 46, 121], types := [{ ty := #[77], member := #[121] }] }] := by
  decide +kernel

/-- `shiftOK 0` is not reflexive: a rejected single-line query shows no line, while
    `shiftOK` expects `some (1 + 0)`.  Hence the hypothesis `0 < k` (the harness predicate
    `holdsC19` skips `k = 0` for the same reason). -/
theorem shiftOK_zero_counterexample :
    ∃ E : Env, DecOK E ∧ DecLocal E ∧ ClassSep E ∧
      shiftOK 0 (modelObs E) (modelObs (shiftEnv 0 E)) = false :=
  ⟨asciiEnv "&T", asciiEnv_DecOK _, asciiEnv_DecLocal _, asciiEnv_ClassSep _, by decide +kernel⟩

end Sqlair
