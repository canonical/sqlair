/-
  Props/L2Rows: C04, the clause on the value at row r, column c (C04.7), as the harness checks it
  (`holdsC04rows`, Spec/L2Rows.lean), against the model.  The predicate finds the members of a row by
  tag (`valueByTag`, `tagsOfVal`); the model's bind, like the library, finds them through the index
  paths `getStructFields` computes (`fieldByIndex`).  For all classifiers, type tables, statements and
  arguments the two agree on a well-formed struct row, and the predicate accepts every observation
  whose values are the rectangle the index paths reach.  That `pq.params` of the model is this
  rectangle, and the map rows (`$M.*`), are in `Props/L2RowsModel.lean` (`holdsC04rows_model`).
  The side conditions are each shown necessary by a kernel-checked counterexample on the model's
  own observation; two of them are defects of the predicate, which the driver avoids by evaluating
  it under `c04rowsGuards`.
-/
import SqlairProofs.L2Rows.Rows
import SqlairProofs.L2Sound.Defs
import SqlairProofs.Props.Fixtures.L2

namespace Sqlair

namespace L2RowsEx

theorem info_T : getArgInfo C ttOK 0 = .ok (.struct 0 (bs "T") [fa, fx, fb] [bs "a", bs "b", bs "x"]) := by
  rfl

theorem embOK : embPtrOK ttOK = true := by decide +kernel

theorem tags_row : tagsOfVal C ttOK 8 (row "a1" "x1" "b1") = some [bs "a", bs "x", bs "b"] := by
  decide +kernel

theorem rows_full : ∀ r ∈ rowsOfArg argFull, RowOf ttOK 0 r := by
  intro r hr
  simp only [rowsOfArg, argFull, bulk, List.mem_cons, List.not_mem_nil, or_false] at hr
  rcases hr with rfl | rfl <;> exact ⟨valWF_sound 8 _ (by decide +kernel), .inl rfl⟩

theorem rows_omit : ∀ r ∈ rowsOfArg argOmit, RowOf ttOK 0 r := by
  intro r hr
  simp only [rowsOfArg, argOmit, bulk, List.mem_cons, List.not_mem_nil, or_false] at hr
  rcases hr with rfl | rfl <;> exact ⟨valWF_sound 8 _ (by decide +kernel), .inl rfl⟩

end L2RowsEx

/-- C04.7 on one well-formed row (`RowOf`: `ValWF`, of type `T` or a non-nil `*T`): the search by tag of
    the predicate and the index path `structField.LocateParams` (valuelocator.go) follows
    (`FieldByIndexErr`, here `fieldByIndex`) reach the same value, for every field `getStructFields`
    computes for `T`.  `embPtrOK`: the library skips an embedded pointer to anything but a struct, the
    search by tag follows it (`holdsC04rows_needs_embPtrOK`).  No bound on the embedding depth is
    needed: `tagsOfVal … 8` fails when the fuel does not cover the row, and where it succeeds
    `valueByTag` with the same fuel is the look-up by tag among all the fields (`RowAssoc.find`,
    L2Rows/ByTag.lean). -/
theorem c04rows_row_by_tag {C : Cls} {tt : TypeTable} {tid tid' : Nat} {n : Bytes} {fields : List SField}
    {stags : List Bytes} (hemb : embPtrOK tt = true)
    (hinfo : getArgInfo C tt tid = .ok (.struct tid' n fields stags))
    {row : GoVal} (hrow : RowOf tt tid row) {tags : List Bytes} (ht : tagsOfVal C tt 8 row = some tags) :
    tags = fields.map (·.tag) ∧
    ∀ f ∈ fields, ∃ fv, fieldByIndex (rowStruct row) f.index true = .ok fv ∧
      valueByTag C tt 8 row f.tag = some fv :=
  row_by_tag hemb hinfo hrow ht

example : tagsOfVal L2RowsEx.C L2RowsEx.ttOK 8 (L2RowsEx.row "a1" "x1" "b1") = some [bs "a", bs "x", bs "b"] ∧
    valueByTag L2RowsEx.C L2RowsEx.ttOK 8 (L2RowsEx.row "a1" "x1" "b1") (bs "x") = some (L2RowsEx.lf "x1") ∧
    fieldByIndex (L2RowsEx.row "a1" "x1" "b1") [1, 0] true = .ok (L2RowsEx.lf "x1") := by
  refine ⟨L2RowsEx.tags_row, by rfl, by rfl⟩

example : ∃ fv, fieldByIndex (rowStruct (L2RowsEx.row "a1" "x1" "b1")) L2RowsEx.fx.index true = .ok fv ∧
    valueByTag L2RowsEx.C L2RowsEx.ttOK 8 (L2RowsEx.row "a1" "x1" "b1") L2RowsEx.fx.tag = some fv :=
  (c04rows_row_by_tag L2RowsEx.embOK L2RowsEx.info_T
    (L2RowsEx.rows_full _ (by simp [rowsOfArg, L2RowsEx.argFull, L2RowsEx.bulk])) L2RowsEx.tags_row).2 L2RowsEx.fx (by simp)

/-- C04.7, the predicate in its own terms: it accepts every rectangle whose cells are the members found
    by tag, the columns being the written ones (`colInsert`) or, for `(*)`, a sublist of the sorted
    tags of the first row (the library lists the tags sorted and leaves out an omitempty member
    that is zero in every row). -/
theorem c04rows_grid_partial {C : Cls} {tt : TypeTable} {segs : List OSeg} {arg : GoVal} {o : BindObs}
    {s : OSeg} {a : Acc} {colTags : List Bytes} {g : GoVal → Bytes → String}
    (hsegs : segs.filter (·.kind != .bypass) = [s]) (htypes : s.types = [a])
    (hvals : o.params.map (·.2) = ((rowsOfArg arg).map fun row => colTags.map (g row)).flatten)
    (hg : ∀ row ∈ rowsOfArg arg, ∀ t ∈ colTags, ∃ fv, valueByTag C tt 8 row t = some fv ∧ fv.h.r = g row t)
    (hcols : (s.kind = .colInsert ∧ s.cols.map (·.column) = colTags) ∨
      (s.kind = .astInsert ∧ ∀ tags tl, (rowsOfArg arg).mapM (tagsOfVal C tt 8) = some (tags :: tl) →
        colTags.Sublist (sortBytes tags.eraseDups))) :
    holdsC04rows C tt segs [arg] o = true :=
  holdsC04rows_single hsegs (c04tail_of_grid (tag := id) hvals hg (by simpa using hcols))

/-- C04.7 for struct rows, in part: the predicate accepts every observation whose values are, row by
    row, the texts the model's index paths reach (`fbiText`) for a selection `sel` of the fields of
    `T`.  That the values the model sends are such a rectangle is assumed here (`hvals`) and proved
    in `holdsC04rows_model` (`Props/L2RowsModel.lean`); the examples below check it on the model's
    observation of concrete bulk inserts. -/
theorem c04rows_paths_partial {C : Cls} {tt : TypeTable} {segs : List OSeg} {arg : GoVal} {o : BindObs}
    {s : OSeg} {a : Acc} {tid tid' : Nat} {n : Bytes} {fields : List SField} {stags : List Bytes}
    (hemb : embPtrOK tt = true)
    (hinfo : getArgInfo C tt tid = .ok (.struct tid' n fields stags))
    (hsegs : segs.filter (·.kind != .bypass) = [s]) (htypes : s.types = [a])
    (hrows : ∀ row ∈ rowsOfArg arg, RowOf tt tid row)
    (sel : List SField) (hsel : ∀ f ∈ sel, f ∈ fields)
    (hvals : o.params.map (·.2) = ((rowsOfArg arg).map fun row => sel.map fun f => fbiText row f.index).flatten)
    (hcols : (s.kind = .colInsert ∧ s.cols.map (·.column) = sel.map (·.tag)) ∨
      (s.kind = .astInsert ∧ (sel.map (·.tag)).Sublist stags)) :
    holdsC04rows C tt segs [arg] o = true :=
  holdsC04rows_single hsegs (c04tail_of_paths hemb hinfo hrows sel hsel hvals hcols)

namespace L2RowsEx

example : (modelObs ttOK segsAst [some 0] [argFull]).map (·.params.map (·.2)) =
    some ["a1", "b1", "x1", "a2", "b2", "x2"] := modelObs_evals.1.1

example : ∀ o, modelObs ttOK segsAst [some 0] [argFull] = some o →
    holdsC04rows C ttOK segsAst [argFull] o = true := by
  intro o ho
  refine c04rows_paths_partial embOK info_T (s := segsAst[1]) rfl rfl rows_full
    [fa, fb, fx] (by simp) ?_ (.inr ⟨rfl, by decide +kernel⟩)
  have := modelObs_evals.1.1
  rw [ho] at this
  simp only [Option.map_some, Option.some.injEq] at this
  rw [this]
  decide +kernel

/-- the omitempty member `B` is zero in every row and left out: `sel` is a proper sublist of the sorted tags -/
example : ∀ o, modelObs ttOK segsAst [some 0] [argOmit] = some o →
    holdsC04rows C ttOK segsAst [argOmit] o = true := by
  intro o ho
  refine c04rows_paths_partial embOK info_T (s := segsAst[1]) rfl rfl rows_omit
    [fa, fx] (by simp) ?_ (.inr ⟨rfl, by decide +kernel⟩)
  have := modelObs_evals.1.2.1
  rw [ho] at this
  simp only [Option.map_some, Option.some.injEq] at this
  rw [this]
  decide +kernel

example : ∀ o, modelObs ttOK segsCol [some 0] [argFull] = some o →
    holdsC04rows C ttOK segsCol [argFull] o = true := by
  intro o ho
  refine c04rows_paths_partial embOK info_T (s := segsCol[1]) rfl rfl rows_full
    [fx, fa] (by simp) ?_ (.inl ⟨rfl, by decide +kernel⟩)
  have := modelObs_evals.1.2.2
  rw [ho] at this
  simp only [Option.map_some, Option.some.injEq] at this
  rw [this]
  decide +kernel

example : (modelObs ttOK segsAst [some 0] [argFull]).map (holdsC04rows C ttOK segsAst [argFull]) = some true ∧
    (modelObs ttOK segsAst [some 0] [argOmit]).map (holdsC04rows C ttOK segsAst [argOmit]) = some true ∧
    (modelObs ttOK segsCol [some 0] [argFull]).map (holdsC04rows C ttOK segsCol [argFull]) = some true :=
  modelObs_evals.2.1

/-- rejected: two values of a row exchanged, a row lost, the rows exchanged, the value of another row in a
    column, the columns in another order than the written one -/
example : holdsC04rows C ttOK segsAst [argFull] (obsOf ["a1", "x1", "b1", "a2", "b2", "x2"]) = false :=
  obsOf_evals.1.1
example : holdsC04rows C ttOK segsAst [argFull] (obsOf ["a1", "b1", "x1"]) = false := obsOf_evals.1.2.1
example : holdsC04rows C ttOK segsAst [argFull] (obsOf ["a2", "b2", "x2", "a1", "b1", "x1"]) = false :=
  obsOf_evals.1.2.2.1
example : holdsC04rows C ttOK segsCol [argFull] (obsOf ["x1", "a1", "x2", "a1"]) = false := obsOf_evals.1.2.2.2.1
example : holdsC04rows C ttOK segsCol [argFull] (obsOf ["a1", "x1", "a2", "x2"]) = false := obsOf_evals.1.2.2.2.2.1
example : holdsC04rows C ttOK segsAst [argFull] (obsOf ["a1", "b1", "x1", "a2", "b2", "x2"]) = true :=
  obsOf_evals.1.2.2.2.2.2

def segsQual : List OSeg := [
  { kind := .bypass, raw := bs "INSERT INTO t " },
  { kind := .colInsert, raw := bs "(t.k) VALUES ($M.*)", cols := [col "k" "t"],
    types := [{ ty := bs "M", member := star }] } ]

def argMap : GoVal :=
  .map { t := 4, zero := false, r := "map" } (some [(bs "t.k", lf "qualified"), (bs "k", lf "plain")])

def pqQual : Primed :=
  { pieces := [.text (bs "INSERT INTO t "), .insert [bs "t.k"] [[.ph 0]]], params := [(0, "qualified")], outputs := [] }

def segsA : List OSeg := [
  { kind := .bypass, raw := bs "INSERT INTO t " },
  { kind := .colInsert, raw := bs "(a) VALUES ($T2.*)", cols := [col "a"],
    types := [{ ty := bs "T2", member := star }] } ]

def pqA : Primed :=
  { pieces := [.text (bs "INSERT INTO t "), .insert [bs "a"] [[.ph 0]]], params := [(0, "from the field")], outputs := [] }

/-- a `[]T` whose second element carries the type id of `U` (no `reflect.Value` is like that) -/
def argIll2 : GoVal :=
  .slice { t := 1, zero := false, r := "[]T" }
    [row "a1" "x1" "b1",
     .struct { t := 7, zero := false, r := "{U}" } [lf "u1", .struct { t := 3, zero := false, r := "{E}" } [lf "ux"], lf "u3"]]

end L2RowsEx

open L2RowsEx in
/-- Defect of `holdsC04rows`: a table-qualified column of a `colInsert`.  The parser
    yields the column `{table := t, column := k}` for `INSERT INTO t (t.k) VALUES ($M.*)`; the
    library (`basicColumn.String`, parser.go) and the model (`Col.str`) look the member `t.k` up, the predicate
    the member `k` (`Col.column`).  With the map `{"t.k": qualified, "k": plain}` the model's own
    observation is rejected.  `c04rowsGuards` (Spec/L2Rows.lean) excludes such columns;
    `c04rows_paths_partial` avoids the defect through its hypothesis
    `s.cols.map (·.column) = sel.map (·.tag)`. -/
theorem holdsC04rows_model_counterexample :
    (∃ tes, bindTypes C tt segsQual [some 4] = .ok tes ∧ bindInputs tt tes [argMap] = .ok pqQual) ∧
    holdsC04rows C tt segsQual [argMap] (modelBindObs pqQual) = false ∧
    embPtrOK ttOK = true ∧ valWF tt 8 argMap = true := by
  exact ⟨⟨_, by rfl, by rfl⟩, by decide +kernel⟩

open L2RowsEx in
/-- Defect of `valueByTag` (side condition `embPtrOK`): `type T2 struct { *M; A string
    "a" }` with `type M map[string]string`.  The library skips the embedded `*M` (not a struct);
    `valueByTag` follows the pointer into the map and returns the value of the key `a`.  The
    model's observation (`from the field`) is rejected; the value is well formed. -/
theorem holdsC04rows_needs_embPtrOK :
    (∃ tes, bindTypes C tt segsA [some 6] = .ok tes ∧ bindInputs tt tes [argT2] = .ok pqA) ∧
    holdsC04rows C tt segsA [argT2] (modelBindObs pqA) = false ∧
    embPtrOK tt = false ∧ valWF tt 8 argT2 = true := by
  exact ⟨⟨_, by rfl, by rfl⟩, by decide +kernel⟩

open L2RowsEx in
/-- side condition `ValWF` (not a defect), on `argIll2` (`U` is `{B "b"; A "a"}`): the model follows the
    index paths of `T` in the second element (and sends `x1 a1 ux u1`), the predicate searches the tags
    of `U`. -/
theorem holdsC04rows_needs_valWF :
    (L2RowsEx.modelObs ttOK segsCol [some 0] [argIll2]).map (·.params.map (·.2)) = some ["x1", "a1", "ux", "u1"] ∧
    (L2RowsEx.modelObs ttOK segsCol [some 0] [argIll2]).map (holdsC04rows C ttOK segsCol [argIll2]) = some false ∧
    embPtrOK ttOK = true ∧ valWF ttOK 8 argIll2 = false := by
  decide +kernel

end Sqlair
