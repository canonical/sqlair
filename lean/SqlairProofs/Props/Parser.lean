/-
  Parser properties, stated of the model `parse` of `internal/expr/parser.go`: C01 at parser
  level (the node spans tile the input), the parser's share of C18 (the fuel of the model's
  loops never runs out, so it stands for no behaviour of the Go parser), the in-range half of
  C19 (a reported line and column lie inside the input; the newline-shift half is in
  `Props/C19Shift.lean`).  The C19 results here are named `_partial` because they hold under
  `ClassOK` (or for the other error kinds) and not of every `Env`:
  `c19_error_position_counterexample`.
-/
import SqlairProofs.Utf8
import SqlairProofs.Parser.Main
import SqlairProofs.Props.Fixtures.Parser

namespace Sqlair

theorem asciiEnv_ClassOK (s : String) : ClassOK (asciiEnv s) := ⟨rfl, rfl⟩

/-! ### C01, parser level: the raw texts of the nodes concatenate to the input (`holdsC01`) -/

theorem c01_spans_chain (E : Env) (h : DecOK E) (segs : List Seg) (hp : parse E = .ok segs) :
    SpansChain 0 E.len segs :=
  parse_ok h hp

/-- non-vacuity: a query with an output and an input expression parses into four nodes -/
example : parseNodes (asciiEnv "SELECT &T.* FROM t WHERE x=$M.y") =
    some [(.bypass, 0, 7), (.output, 7, 11), (.bypass, 11, 27), (.member, 27, 31)] := by
  decide +kernel

theorem c01_parse_tiling (E : Env) (h : DecOK E) : holdsC01 E.inp (modelObs E) = true := by
  cases hp : parse E with
  | error e => rw [modelObs_error hp]; rfl
  | ok segs =>
    have hc := c01_spans_chain E h segs hp
    rw [modelObs_ok hp]
    show (flattenRaws (segs.map (Seg.toOSeg E.inp)) == E.inp) = true
    rw [beq_iff_eq]
    unfold flattenRaws
    have := flattenRaws_chain E.inp hc
    rw [Array.extract_zero] at this
    rw [this]
    exact Array.extract_eq_self_of_le (Nat.le_refl _)

/-- non-vacuity: the observation of a successful parse is an `.ok` with two nodes, so the
    tiling equation is really checked -/
example : (match modelObs (asciiEnv "a$M.y") with | .ok segs => segs.length | .err .. => 0) = 2 := by
  decide +kernel

/-! ### C18, parser share: a failed parse never reports the model's fuel error -/

theorem c18_parse_no_fuel (E : Env) (h : DecOK E) (e : PErr) (hp : parse E = .error e) :
    e.kind ≠ EKind.fuel :=
  (parse_err h hp).not_fuel

/-- non-vacuity: there are inputs on which `parse` reports an error -/
example : parseError (asciiEnv "x = 'abc") = some { line := 1, col := 5, kind := .missingQuote } := by
  decide +kernel

/-! ### C19, in-range half (`errorPositionOK`) -/

theorem errorPositionOK_of_errPos (E : Env) (hpos : ∀ e, parse E = .error e → ErrPos E e) :
    errorPositionOK E.inp (modelObs E) = true := by
  cases hp : parse E with
  | ok segs => rw [modelObs_ok hp]; rfl
  | error e =>
    have hpos : ErrPos E e := hpos e hp
    have hr := posInRange_of_errPos hpos
    rw [modelObs_error hp]
    show ((if hasNewline E.inp = true then some e.line else none).isSome == hasNewline E.inp &&
      posInRange E.inp ((if hasNewline E.inp = true then some e.line else none).getD 1) e.col) = true
    cases hnl : hasNewline E.inp with
    | true => simpa using hr
    | false =>
      rw [errPos_line_single hpos hnl] at hr
      simpa using hr

/-- C19: every error `parse` reports is at the (line, column) of some offset `off ≤ len` of the input
    (`lineColOf`), provided the newline is neither a letter nor a digit (`ClassOK`) -/
theorem c19_error_offset_partial (E : Env) (h : DecOK E) (hc : ClassOK E) (e : PErr)
    (hp : parse E = .error e) : ∃ off, off ≤ E.len ∧ (e.line, e.col) = lineColOf E.inp off :=
  (parse_err h hp).pos (Or.inl hc)

/-- C19 under the (true of Go's classifiers) assumption that the newline is neither a letter
    nor a digit.  Without it the statement fails: see `c19_error_position_counterexample`. -/
theorem c19_error_position_partial (E : Env) (h : DecOK E) (hc : ClassOK E) :
    errorPositionOK E.inp (modelObs E) = true :=
  errorPositionOK_of_errPos E (c19_error_offset_partial E h hc)

/-- C19 for an arbitrary classifier, when the reported error (if any) is not `unqualified` -/
theorem c19_error_position_other_kinds_partial (E : Env) (h : DecOK E)
    (hk : ∀ e, parse E = .error e → ∀ n, e.kind ≠ EKind.unqualified n) :
    errorPositionOK E.inp (modelObs E) = true :=
  errorPositionOK_of_errPos E (fun e hp => (parse_err h hp).pos (Or.inr (hk e hp)))

/-- non-vacuity: an error on the second line of a two-line input (the `unqualified` error,
    whose column is computed from the state before the type name) -/
example : parseError (asciiEnv "SELECT 1;\nSELECT &T FROM t") =
    some { line := 2, col := 8, kind := .unqualified #[84] } := by
  decide +kernel

/-- The unrestricted statement of C19 (`DecOK` only) is false of the model: with a classifier
    that calls the newline a letter, the type name in `xxxx$a\nb` spans two lines and the
    `unqualified` error is reported at line 2, column 5, but line 2 has only 2 columns. -/
def c19BadEnv : Env :=
  { inp := Bytes.ofString "xxxx$a\nb", dec := decodeRune,
    letter := fun c => asciiLetter c || c == 10, digit := asciiDigit }

theorem c19_error_position_counterexample :
    ∃ E : Env, DecOK E ∧ errorPositionOK E.inp (modelObs E) = false :=
  ⟨c19BadEnv, decodeRune_DecOK _ _ _, by decide +kernel⟩

example : parseError c19BadEnv = some { line := 2, col := 5, kind := .unqualified #[97, 10, 98] } := by
  decide +kernel

end Sqlair
