/-
  L5Sound: the history-level predicates of Spec/L5 (`holdsC09`, `holdsC09reuse`, `holdsC10`,
  `holdsC11`), which the Go harness evaluates on what it observed of the real
  implementation, are THEOREMS OF THE MODEL: evaluated on the observation the model itself
  produces (`modelExecs`, `prepCounts`, the final log and cache of a closed-out history) they
  hold for every sequential history - of any length, any operations in any order,
  ill-formed ones (unknown ids, dropped handles, ids used twice) included; `runHistory`
  skips the steps that are not enabled.

  Two qualifications, both with kernel-checked counterexamples in L5Sound/Counter.lean:

  * C09 needs `l5s_fresh h`: `runHistory` numbers `run` operations 1, 2, ... and Queries
    `1000 + q`; the 1000th `run` of a history collides with Query 0
    (`holdsC09_model_counterexample`).  Every history with fewer than 1000 `run`s is fresh.
  * C11 "everything is released once everything is dropped" needs the Queries that were built
    to have been run (`closeOutQ`), or none to be pending (`closeOut`): a kept Query keeps its
    Statement and DB alive (`closeOut_pending_counterexample`).
-/
import SqlairProofs.L5Sound.Reuse
import SqlairProofs.L5Sound.CloseOut
import SqlairProofs.L5Sound.General

namespace Sqlair.Cache

/-- the running example: two misses, a hit, a Query built (shape 2) whose cached statement is
    evicted by another shape and collected before it is run, everything released at the end -/
def l5s_example : List HOp :=
  [.newS, .newD, .run 1 1 2, .run 1 1 2, .run 1 1 3, .mkq 1 1 1 2, .run 1 1 5, .gc, .runq 1, .dropS 1, .gc]

theorem modelExecs_log (h : List HOp) :
    modelExecs h = l5s_execsOf (runHistory h {} 0 [] 1).1.log (runHistoryW h {} 1 [] []).2 := by
  unfold modelExecs
  rw [runHistoryW_state]

/-- C09 of the model: every execution in the model's log of a history runs a driver statement
    that was prepared on the DB, and from the SQL shape, that the call wanted -/
theorem holdsC09_model (h : List HOp) (hf : l5s_fresh h = true) : holdsC09 (modelExecs h) = true := by
  obtain ⟨qs', hw⟩ := l5s_w_final h (T := l5s_runs h + 1) 1 l5s_seq_init (l5s_w_init _) (by omega)
    (by intro q s d k hm; exact l5s_fresh_mem hf hm)
  exact l5s_execsOf_c09 (l5s_runHistoryW_reachable h).inv hw.attr

/-- C09: `holdsC09` holds of the model's observation of every history with fewer than 1000 `run`
    operations. -/
theorem holdsC09_model_of_lt (h : List HOp) (hlt : l5s_runs h < 1000) : holdsC09 (modelExecs h) = true :=
  holdsC09_model h (l5s_fresh_of_lt hlt)

/-- non-vacuity: five executions, one of them (the second) of a cached statement, one (the
    last) of a Query built three operations earlier -/
example : l5s_fresh l5s_example = true ∧
    (modelExecs l5s_example).map (fun e => (e.ds, e.db, e.shape, e.wantDb, e.wantShape, e.closedBefore)) =
      [(1, 1, 2, 1, 2, false), (1, 1, 2, 1, 2, false), (2, 1, 3, 1, 3, false), (3, 1, 5, 1, 5, false),
       (4, 1, 2, 1, 2, false)] := by decide +kernel

/-- a wrong observation: the statement prepared for shape 2 run for a call that wanted shape 3
    (what a cache hit that ignored the SQL would produce); or on another DB -/
example : holdsC09 [{ ds := 1, db := 1, shape := 2, wantDb := 1, wantShape := 3, closedBefore := false }] = false ∧
    holdsC09 [{ ds := 1, db := 1, shape := 2, wantDb := 2, wantShape := 2, closedBefore := false }] = false := by
  decide +kernel

/-- C10 of the model: no execution in the model's log of any history comes after the `close`
    event of its driver statement, and none hits "statement is closed" -/
theorem holdsC10_model (h : List HOp) : holdsC10 (modelExecs h) 0 = true := by
  have hi := (l5s_runHistoryW_reachable h).inv
  have := l5s_execsOf_c10 hi (runHistoryW h {} 1 [] []).2
  rw [l5s_closedErrs_zero hi] at this
  exact this

/-- the `0` in `holdsC10_model` is the model's own count of "statement is closed" errors -/
theorem no_execClosed_model (h : List HOp) :
    (∀ ds, Ev.execClosed ds ∉ (runHistory h {} 0 [] 1).1.log) ∧ l5s_closedErrs (runHistory h {} 0 [] 1).1.log = 0 :=
  ⟨(l5s_runHistory_reachable h).inv.log.noEC, l5s_closedErrs_zero (l5s_runHistory_reachable h).inv⟩

/-- non-vacuity: in the example statements 1 and 2 are closed (events 8, 9) and executions
    follow (of statement 4) -/
example : (runHistory l5s_example {} 0 [] 1).1.log =
    [.prepare 1 1 2, .exec 1 1 2, .exec 1 1 2, .prepare 2 1 3, .exec 2 1 3, .prepare 3 1 5, .exec 3 1 5,
     .close 1, .close 2, .prepare 4 1 2, .exec 4 1 2, .close 3, .close 4] := by decide +kernel

/-- wrong observations: an execution after the close of its statement (what the log of the
    example would give had `runq 1` used the evicted, collected statement 1); a "statement is
    closed" error -/
example :
    (l5s_execsOf [.prepare 1 1 2, .exec 1 1 2, .close 1, .exec 1 1 2] [(1, 1, 2), (3, 1, 2)]).map
      (fun e => (e.ds, e.closedBefore)) = [(1, false), (1, true)] ∧
    holdsC10 (l5s_execsOf [.prepare 1 1 2, .exec 1 1 2, .close 1, .exec 1 1 2] [(1, 1, 2), (3, 1, 2)]) 0 = false ∧
    holdsC10 [] 1 = false := by decide +kernel

/-- the trivial half: the model does not prepare more often than itself.  The harness evaluates
    `holdsC09reuse (prepCounts h {} 1) obs` with the observed prepares per operation as `obs`
    (Driver/Rt.lean); what the model's side of that comparison is, is said by `prepCounts_model`
    and `prepCounts_le_one` below -/
theorem holdsC09reuse_model (h : List HOp) : holdsC09reuse (prepCounts h {} 1) (prepCounts h {} 1) = true :=
  l5s_reuse_refl _

/-- the meaningful half: every entry of `prepCounts` can be read off the cache *before* the
    operation (`l5s_reuseSpec`): it is 0 if there is nothing to run or if the cache holds, for
    the (Statement, DB) slot of the Query that is run, a driver statement with the Query's SQL
    shape (`l5s_hit`), and 1 otherwise -/
theorem prepCounts_model (h : List HOp) : prepCounts h {} 1 = l5s_reuseSpec h {} 1 :=
  l5s_prepCounts_spec h l5s_seq_init 1

/-- C09: at most one driver-level prepare per operation (one pooled connection) -/
theorem prepCounts_le_one (h : List HOp) : ∀ n ∈ prepCounts h {} 1, n ≤ 1 := by
  rw [prepCounts_model]; exact l5s_reuseSpec_le h {} 1

/-- `prepCounts_model` pointwise, for a well-formed `run` (live handles, unused operation id) at any position -/
theorem prepCounts_run (pre post : List HOp) (s d shape : Nat)
    (hs : s ∈ (l5s_final pre {} 1).1.liveS) (hd : d ∈ (l5s_final pre {} 1).1.liveD)
    (ht : (l5s_final pre {} 1).1.getOp (l5s_final pre {} 1).2 = none) :
    prepCounts (pre ++ .run s d shape :: post) {} 1 =
      prepCounts pre {} 1 ++ (if l5s_hit (l5s_final pre {} 1).1 s d shape then 0 else 1) ::
        prepCounts post (l5s_final (pre ++ [.run s d shape]) {} 1).1 (l5s_final (pre ++ [.run s d shape]) {} 1).2 := by
  rw [l5s_prepCounts_append, l5s_prepCounts_cons, l5s_final_append]
  simp only [l5s_final, List.singleton_append]
  rw [l5s_count_run_wf (l5s_seq_final pre l5s_seq_init 1) shape hs hd ht]

/-- and for a `runq q` of a Query `o` that was built and not yet run -/
theorem prepCounts_runq (pre post : List HOp) (q : Nat) (o : Op)
    (ho : (l5s_final pre {} 1).1.getOp (1000 + q) = some o) (hpc : o.pc = .start) :
    prepCounts (pre ++ .runq q :: post) {} 1 =
      prepCounts pre {} 1 ++ (if l5s_hit (l5s_final pre {} 1).1 o.s o.d o.sql then 0 else 1) ::
        prepCounts post (l5s_final (pre ++ [.runq q]) {} 1).1 (l5s_final (pre ++ [.runq q]) {} 1).2 := by
  have hseq := l5s_seq_final pre l5s_seq_init 1
  rw [l5s_prepCounts_append, l5s_prepCounts_cons, l5s_final_append]
  simp only [l5s_final, List.singleton_append]
  rw [l5s_count_runq hseq, l5s_missCount_start (by rw [← getOp_eq]; exact ho) hpc]

theorem l5s_example_prepCounts : prepCounts l5s_example {} 1 = [1, 0, 1, 1, 1] := by decide +kernel

/-- non-vacuity: in the example the second `run` (same shape as the first) prepares nothing;
    the `runq` prepares again because its statement was evicted -/
example : prepCounts l5s_example {} 1 = [1, 0, 1, 1, 1] ∧ l5s_reuseSpec l5s_example {} 1 = [1, 0, 1, 1, 1] ∧
    l5s_hit (l5s_final (l5s_example.take 3) {} 1).1 1 1 2 = true ∧
    l5s_hit (l5s_final (l5s_example.take 4) {} 1).1 1 1 3 = false :=
  ⟨l5s_example_prepCounts, by decide +kernel⟩

/-- a wrong observation: an implementation that prepares again although the statement is cached -/
example : holdsC09reuse (prepCounts l5s_example {} 1) [1, 1, 1, 1, 1] = false := by
  rw [l5s_example_prepCounts]
  rfl

/-- C11 of the model: after any history, once the Queries that were built have been run, every
    Statement and DB the history created has been dropped and garbage has been collected
    (with the fuel `runHistory` gives `gc`), each driver statement that was prepared has exactly
    one `close` event in the whole log, nothing else has one, and the cache is empty; so a
    faithful observation passes `holdsC11` with `allDropped = true` -/
theorem holdsC11_model (h : List HOp) :
    let st := (runHistory (closeOutQ h) {} 0 [] 1).1
    (∀ ds, (st.log.filter (· == Ev.close ds)).length = if l5s_prepared st.log ds then 1 else 0) ∧
      st.pairs = [] ∧ st.stmtDB = [] ∧ st.dbStmt = [] ∧
      holdsC11 (l5s_doubleClose st) (l5s_openStmts st) st.pairs.length 1 true st.pairs.length = true := by
  exact l5s_released_model (l5s_runHistory_reachable _).inv (l5s_closeOutQ_released h)

/-- C11 of the model for `closeOut h` (drop everything, then `gc`) when no built Query is pending at the end of
    `h`: every prepared driver statement has exactly one `close` event, the cache is empty, `holdsC11` passes. -/
theorem holdsC11_model_closeOut (h : List HOp) (hnp : l5s_pending (runHistory h {} 0 [] 1).1 = false) :
    let st := (runHistory (closeOut h) {} 0 [] 1).1
    (∀ ds, (st.log.filter (· == Ev.close ds)).length = if l5s_prepared st.log ds then 1 else 0) ∧
      st.pairs = [] ∧ st.stmtDB = [] ∧ st.dbStmt = [] ∧
      holdsC11 (l5s_doubleClose st) (l5s_openStmts st) st.pairs.length 1 true st.pairs.length = true := by
  exact l5s_released_model (l5s_runHistory_reachable _).inv (l5s_closeOut_released h hnp)

/-- the harness' constants: `doubleClose = 0`, `openStmts = 0`, no pairs, one connection -/
theorem holdsC11_faithful : holdsC11 0 0 0 1 true 0 = true := l5s_holdsC11_zero 1

/-- C11: the fuel `runHistory` gives `gc` always suffices: after a `gc` at the end of any history no
    finalizer is enabled. -/
theorem gc_fuel_suffices (h : List HOp) :
    enabledFinalizers (runHistory (h ++ [.gc]) {} 0 [] 1).1 = [] := by
  rw [l5s_runHistory_fst, l5s_final_append]
  exact (l5s_gc_spec (l5s_seq_final h l5s_seq_init 1).reach).2.1

/-- non-vacuity: the example closed out - four statements prepared, each closed once; before
    the closing-out a pair is cached and a DB is live -/
example :
    let st := (runHistory (closeOutQ l5s_example) {} 0 [] 1).1
    let st0 := (runHistory (l5s_example.take 7) {} 0 [] 1).1
    st.ds.length = 4 ∧ (List.range 6).map (l5s_closes st.log) = [0, 1, 1, 1, 1, 0] ∧
    (List.range 6).map (l5s_prepared st.log) = [false, true, true, true, true, false] ∧
    st0.pairs = [(1, 1, 5)] ∧ l5s_openStmts st0 = 3 ∧ l5s_pending st0 = true := by decide +kernel

example : closeOutQ l5s_example = l5s_example ++ [.runq 1, .dropS 1, .dropD 1, .gc] := rfl

/-- C11, general clause (what the checker evaluates when handles are still held): right after
    a `gc` of any history, whatever is still held or pending, no driver statement has two
    `close` events and the open driver statements are at most the cached pairs (times the one
    pooled connection) -/
theorem holdsC11_model_general (h : List HOp) :
    let st := (runHistory (h ++ [.gc]) {} 0 [] 1).1
    l5s_doubleClose st = 0 ∧ l5s_openStmts st ≤ st.pairs.length ∧
      holdsC11 (l5s_doubleClose st) (l5s_openStmts st) st.pairs.length 1 false st.pairs.length = true := by
  obtain ⟨h1, h2⟩ := l5s_fixpoint_general (l5s_seq_runHistory _) (gc_fuel_suffices h)
  exact ⟨h1, h2, holdsC11_iff.2 ⟨h1, by rw [Nat.mul_one]; exact h2, nofun⟩⟩

/-- non-vacuity: the example up to its first `gc` - the two evicted statements were closed by
    the collection, one statement is open and cached, a Query is pending; before the `gc` three
    statements were open for one cached pair (the clause is about collected states) -/
example :
    let st := (runHistory (l5s_example.take 7 ++ [.gc]) {} 0 [] 1).1
    let st0 := (runHistory (l5s_example.take 7) {} 0 [] 1).1
    l5s_openStmts st = 1 ∧ st.pairs = [(1, 1, 5)] ∧ l5s_pending st = true ∧ st.liveS = [1] ∧
    holdsC11 (l5s_doubleClose st0) (l5s_openStmts st0) st0.pairs.length 1 false st0.pairs.length = false := by
  decide +kernel

/-- wrong observations: a statement closed twice; a statement left open; a pair left cached -/
example : holdsC11 1 0 0 1 true 0 = false ∧ holdsC11 0 1 0 1 true 0 = false ∧ holdsC11 0 1 1 1 true 1 = false := by
  decide +kernel

end Sqlair.Cache
