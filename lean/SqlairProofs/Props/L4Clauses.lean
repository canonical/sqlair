/-
  The two clauses of the runtime layer that the driver evaluates next to `holdsC12` and `holdsC15` (`txEndFaithful`,
  `getReadsFirstOnly`, `SqlairModel/Spec/DriverClauses.lean`) are theorems of the model.  They are true of every
  observation whose driver events are the model's (`…_of_events_eq`), and of the model's own observation
  `predObsW win c (predict c)` for every case (no well-formedness needed) and every winner among concurrent finishers.
  The converse direction is what the clauses are for; the examples show observations on which they are false.
-/
import SqlairProofs.L4Sound.Strings
import SqlairModel.Spec.DriverClauses

namespace Sqlair.Rt

theorem txEndFaithful_of_events_eq (c : Case) (p : Pred) (o : Obs)
    (h : o.events = p.log.map Ev.render) : txEndFaithful c p o = true := by
  unfold txEndFaithful
  split
  · rfl
  · simp [h]

theorem getReadsFirstOnly_of_events_eq (c : Case) (p : Pred) (o : Obs)
    (h : o.events = p.log.map Ev.render) : getReadsFirstOnly c p o = true := by
  unfold getReadsFirstOnly
  split
  · rfl
  · simp [h]

/-- with finishers racing each other (`concurrent > 0`) the clause says nothing; otherwise
    the events of the model's observation are the model's log -/
theorem txEndFaithful_model (win : String) (c : Case) :
    txEndFaithful c (predict c) (predObsW win c (predict c)) = true := by
  by_cases hc : c.concurrent = 0
  · apply txEndFaithful_of_events_eq
    simp [predObsW, l4s_events, Case.l4s_conc, hc]
  · unfold txEndFaithful
    have : (c.concurrent != 0) = true := by simpa using hc
    simp [this]

/-- what a racing finisher adds to the events of the model's observation is `win`, which `hwin` keeps out of the count -/
theorem getReadsFirstOnly_model (win : String) (hwin : win ≠ "next") (c : Case) :
    getReadsFirstOnly c (predict c) (predObsW win c (predict c)) = true := by
  unfold getReadsFirstOnly
  simp only [predObsW, l4s_events_filter (q := (· == "next")) (by simpa using hwin), Nat.le_refl, decide_true, ite_self]

def l4c_tx : Case :=
  { hasOutputs := true, path := "tx", ctx := "live", nrows := 2, badRow := none, fetchErrAt := none,
    closeErr := false, prepareErr := false, runErr := false, txEnd := "after", finishers := ["rollback"],
    concurrent := 0, op := "get", dests := "valid", calls := [], cancelAt := none, preCtx := "",
    extraSets := 0, fewCols := false, pairOp := "", aEnd := "", otherShape := false, beginCancel := false }

/-- the two deviations below, evaluated together -/
theorem l4c_tx_evals :
    txEndFaithful l4c_tx (predict l4c_tx)
      { predObsW "commit" l4c_tx (predict l4c_tx) with
        events := ((predict l4c_tx).log.map Ev.render).map fun e => if e == "rollback" then "commit" else e } = false ∧
    getReadsFirstOnly l4c_tx (predict l4c_tx)
      { predObsW "commit" l4c_tx (predict l4c_tx) with
        events := ((predict l4c_tx).log.map Ev.render) ++ ["next", "next"] } = false := by
  decide +kernel

/-- the model ends this transaction with a rollback; an implementation committing it fails
    the clause, an implementation doing what the model does passes it -/
example :
    txEndFaithful l4c_tx (predict l4c_tx) (predObsW "commit" l4c_tx (predict l4c_tx)) = true ∧
    txEndFaithful l4c_tx (predict l4c_tx)
      { predObsW "commit" l4c_tx (predict l4c_tx) with
        events := ((predict l4c_tx).log.map Ev.render).map fun e => if e == "rollback" then "commit" else e } = false :=
  ⟨txEndFaithful_model _ _, l4c_tx_evals.1⟩

/-- a Get that steps over the rest of the result fails the clause -/
example :
    getReadsFirstOnly l4c_tx (predict l4c_tx)
      { predObsW "commit" l4c_tx (predict l4c_tx) with
        events := ((predict l4c_tx).log.map Ev.render) ++ ["next", "next"] } = false :=
  l4c_tx_evals.2

end Sqlair.Rt
