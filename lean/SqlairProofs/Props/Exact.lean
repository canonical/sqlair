/-
  Property C01, the part "exact spans".  `exprSpansExact E obs` (`SqlairModel/Spec/L1.lean`) says:
  every node of `obs` that is not a bypass node, parsed on its own by the model, yields exactly
  that single node again.  For the model's own observation this is a locality property of the
  parser:

  * what the expression parsers do from the start of an expression depends only on the bytes
    up to the end of the expression, plus look-aheads that answer at the end of the input as
    they answer at a delimiter;
  * the conditions under which the main loop starts an expression at an offset (one of
    `(` `*` `$` `&`, or a name character at offset 0 or behind one of the characters that
    `advanceToNextExpression` lets precede an expression) also hold at offset 0 of the
    extracted text.

  Hypotheses (all about the abstract decoder/classifier of `Env`, none about the input; each holds of
  `decodeRune`, or of every classifier that agrees with the ASCII tables below 128: head of `Utf8.lean`):
  `DecOK`; `ExaDecLocal` (a rune inside `inp[a:b)` decodes there as in `inp`, and every extracted text
  satisfies `DecOK`); `AsciiDec` (the keywords `AS`/`VALUES` are skipped byte-wise); `ClassSep` (tab, newline,
  CR, space, `-`, `/` are neither letters nor digits); `ExaClass` (`$` and `(` are no name characters).
  `ClassSep` cannot be dropped: `c01_expr_spans_exact_needs_ClassSep`.
-/
import SqlairProofs.Exact.Main
import SqlairProofs.Props.Fixtures.Parser

namespace Sqlair

/-- C01 (exact spans) on the nodes of `parse`, before they are turned into an observation -/
theorem c01_expr_node_exact (E : Env) (h : DecOK E) (hl : ExaDecLocal E) (ha : AsciiDec E)
    (hsep : ClassSep E) (hc : ExaClass E) (segs : List Seg) (hp : parse E = .ok segs)
    (x : Seg) (hx : x ∈ segs) (hk : x.kind ≠ .bypass) :
    parse { E with inp := E.inp.extract x.a x.b } =
      .ok [{ x with a := 0, b := x.b - x.a }] := by
  have := (parse_node_exact h hl ha hsep hc hp hx hk).1
  rwa [Seg.exaMv, Nat.sub_self] at this

/-- C01 (exact spans): the model's observation satisfies `exprSpansExact` -/
theorem c01_expr_spans_exact (E : Env) (h : DecOK E) (hl : ExaDecLocal E) (ha : AsciiDec E)
    (hsep : ClassSep E) (hc : ExaClass E) :
    exprSpansExact E (modelObs E) = true := by
  cases hp : parse E with
  | error e => rw [modelObs_error hp]; rfl
  | ok segs =>
    rw [modelObs_ok hp]
    show (segs.map (Seg.toOSeg E.inp)).all _ = true
    rw [List.all_eq_true]
    intro o ho
    obtain ⟨x, hx, rfl⟩ := List.mem_map.mp ho
    rw [Bool.or_eq_true]
    by_cases hk : x.kind = .bypass
    · exact .inl (beq_iff_eq.2 hk)
    · obtain ⟨hpar, hab⟩ := parse_node_exact h hl ha hsep hc hp hx hk
      have hp' : parse { E with inp := (x.toOSeg E.inp).raw } = .ok [x.exaMv x.a] := hpar
      right
      rw [hp']
      simp only []
      rw [beq_iff_eq]
      exact Seg.exaMv_toOSeg E.inp x hab

/-- C01 (exact spans) for the Go implementation's decoder and any classifier that agrees with
    the ASCII tables below 128 -/
theorem c01_expr_spans_exact_go (inp : Bytes) (letter digit : Nat → Bool)
    (hletter : ∀ c, c < 128 → letter c = ((65 ≤ c && c ≤ 90) || (97 ≤ c && c ≤ 122)))
    (hdigit : ∀ c, c < 128 → digit c = (48 ≤ c && c ≤ 57)) :
    exprSpansExact { inp := inp, dec := decodeRune, letter := letter, digit := digit }
      (modelObs { inp := inp, dec := decodeRune, letter := letter, digit := digit }) = true :=
  c01_expr_spans_exact _ (decodeRune_DecOK _ _ _) (decodeRune_ExaDecLocal _ _ _)
    (decodeRune_AsciiDec _ _ _) (ClassSep.of_ascii _ hletter hdigit) (ExaClass.of_ascii _ hletter hdigit)

theorem asciiEnv_ExaDecLocal (s : String) : ExaDecLocal (asciiEnv s) := decodeRune_ExaDecLocal _ _ _

theorem asciiEnv_ExaClass (s : String) : ExaClass (asciiEnv s) :=
  ExaClass.of_ascii _ (fun _ _ => rfl) (fun _ _ => rfl)

theorem exa_asciiEnv_spansExact (s : String) :
    exprSpansExact (asciiEnv s) (modelObs (asciiEnv s)) = true :=
  c01_expr_spans_exact_go _ _ _ (fun _ _ => rfl) (fun _ _ => rfl)

def exaExprNodeCount : ParseObs → Nat
  | .ok segs => (segs.filter (fun s => s.kind != .bypass)).length
  | .err .. => 0

theorem exa_count_of_nodes {E : Env} {l : List (SegKind × Nat × Nat)} (h : parseNodes E = some l) :
    exaExprNodeCount (modelObs E) = (l.filter (fun n => n.1 != .bypass)).length := by
  obtain ⟨segs, hp, rfl⟩ := parse_of_parseNodes h
  rw [modelObs_ok hp]
  simp only [exaExprNodeCount, List.filter_map, List.length_map]
  rfl

theorem exa_nodes_example :
    parseNodes (asciiEnv "SELECT t.* AS &T.* FROM t WHERE a=$T.a AND b IN ($S[:])") =
      some [(.bypass, 0, 7), (.output, 7, 18), (.bypass, 18, 34), (.member, 34, 38),
        (.bypass, 38, 49), (.slice, 49, 54), (.bypass, 54, 55)] := by
  decide +kernel

/-- the predicate is not vacuous here: it speaks about three expression nodes -/
example :
    exprSpansExact (asciiEnv "SELECT t.* AS &T.* FROM t WHERE a=$T.a AND b IN ($S[:])")
      (modelObs (asciiEnv "SELECT t.* AS &T.* FROM t WHERE a=$T.a AND b IN ($S[:])")) = true ∧
    exaExprNodeCount (modelObs (asciiEnv "SELECT t.* AS &T.* FROM t WHERE a=$T.a AND b IN ($S[:])")) = 3 :=
  ⟨exa_asciiEnv_spansExact _, exa_count_of_nodes exa_nodes_example⟩

/-- the output expression of that query starts with a name character in the middle of the
    text; on its own it starts at offset 0 -/
example : parseNodes (asciiEnv "SELECT t.* AS &T.* FROM t WHERE a=$T.a AND b IN ($S[:])") =
      some [(.bypass, 0, 7), (.output, 7, 18), (.bypass, 18, 34), (.member, 34, 38),
        (.bypass, 38, 49), (.slice, 49, 54), (.bypass, 54, 55)] ∧
    parseNodes (asciiEnv "t.* AS &T.*") = some [(.output, 0, 11)] :=
  ⟨exa_nodes_example, by decide +kernel⟩

example :
    exprSpansExact (asciiEnv "INSERT INTO t (*) VALUES ($T.*)")
      (modelObs (asciiEnv "INSERT INTO t (*) VALUES ($T.*)")) = true ∧
    parseNodes (asciiEnv "INSERT INTO t (*) VALUES ($T.*)") =
      some [(.bypass, 0, 14), (.astInsert, 14, 31)] :=
  ⟨exa_asciiEnv_spansExact _, by decide +kernel⟩

example :
    exprSpansExact (asciiEnv "INSERT INTO t (a, b) VALUES ($T.*)")
      (modelObs (asciiEnv "INSERT INTO t (a, b) VALUES ($T.*)")) = true ∧
    parseNodes (asciiEnv "INSERT INTO t (a, b) VALUES ($T.*)") =
      some [(.bypass, 0, 14), (.colInsert, 14, 34)] :=
  ⟨exa_asciiEnv_spansExact _, by decide +kernel⟩

example :
    exprSpansExact (asciiEnv "INSERT INTO t (a, b) VALUES ($T.a, 'x)') -- c")
      (modelObs (asciiEnv "INSERT INTO t (a, b) VALUES ($T.a, 'x)') -- c")) = true ∧
    parseNodes (asciiEnv "INSERT INTO t (a, b) VALUES ($T.a, 'x)') -- c") =
      some [(.bypass, 0, 14), (.basicInsert, 14, 40), (.bypass, 40, 45)] :=
  ⟨exa_asciiEnv_spansExact _, by decide +kernel⟩

example :
    exprSpansExact (asciiEnv "SELECT (count(*), b) /* c */ AS (&T.n, &T.b) FROM t")
      (modelObs (asciiEnv "SELECT (count(*), b) /* c */ AS (&T.n, &T.b) FROM t")) = true ∧
    exaExprNodeCount (modelObs (asciiEnv "SELECT (count(*), b) /* c */ AS (&T.n, &T.b) FROM t")) = 1 :=
  ⟨exa_asciiEnv_spansExact _, by decide +kernel⟩

/-- the predicate is not trivially true: a hand-made observation of `$$T.a` whose member node
    swallowed the leading `$` (the model puts that `$` into a bypass node) is rejected -/
example :
    exprSpansExact (asciiEnv "$$T.a")
      (.ok [{ kind := .member, raw := bytesOfStr "$$T.a",
              types := [{ ty := bytesOfStr "T", member := bytesOfStr "a" }] }]) = false ∧
    modelObs (asciiEnv "$$T.a") =
      .ok [{ kind := .bypass, raw := bytesOfStr "$" },
           { kind := .member, raw := bytesOfStr "$T.a",
             types := [{ ty := bytesOfStr "T", member := bytesOfStr "a" }] }] ∧
    exprSpansExact (asciiEnv "$$T.a") (modelObs (asciiEnv "$$T.a")) = true :=
  ⟨by decide +kernel, by decide +kernel, exa_asciiEnv_spansExact _⟩

/-- ... and neither is it true of a node with the right text but the wrong payload -/
example :
    exprSpansExact (asciiEnv "$T.a")
      (.ok [{ kind := .member, raw := bytesOfStr "$T.a",
              types := [{ ty := bytesOfStr "T", member := bytesOfStr "b" }] }]) = false := by
  decide +kernel

def c01TabLetterEnv : Env :=
  { inp := Bytes.ofString "=\t\"c\" AS &T.y", dec := decodeRune,
    letter := fun c => asciiLetter c || c == 9, digit := asciiDigit }

/-- Without `ClassSep` the statement fails: if the tab is a letter, the main loop takes the tab
    after `=` for the start of a name, skips it as a blank, and starts the expression
    `"c" AS &T.y` at the quote.  On its own that text starts with a string literal, which the main
    loop skips: two nodes instead of one. -/
theorem c01_expr_spans_exact_needs_ClassSep :
    ∃ E : Env, DecOK E ∧ ExaDecLocal E ∧ AsciiDec E ∧ ExaClass E ∧
      exprSpansExact E (modelObs E) = false :=
  ⟨c01TabLetterEnv, decodeRune_DecOK _ _ _, decodeRune_ExaDecLocal _ _ _, decodeRune_AsciiDec _ _ _,
    ⟨rfl, rfl⟩, by decide +kernel⟩

example : parseNodes c01TabLetterEnv = some [(.bypass, 0, 2), (.output, 2, 13)] ∧
    parseNodes { c01TabLetterEnv with inp := Bytes.ofString "\"c\" AS &T.y" } =
      some [(.bypass, 0, 7), (.output, 7, 11)] := by
  decide +kernel

end Sqlair
