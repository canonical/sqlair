/-
  L5 soundness for CONCURRENT runs, C11 "everything is released": the predicate the Go
  harness evaluates at the end of a concurrent run, once every handle has been dropped and
  garbage has been collected - `holdsC11 doubleClose openStmts cacheLeft conns true cacheLeft`
  (Spec/L5) - holds of the observation the model produces from EVERY list of atomic steps
  that ends in a quiescent state (no handle held, no iterator open, no operation in flight),
  collected with any sufficient fuel, for any number of pooled connections.

  The observation functions are those of the sequential `holdsC11_model` (Props/L5Sound):
  `l5s_doubleClose`, `l5s_openStmts` (L5Sound/Defs) and `St.pairs` (Spec/L5); the log-only
  counts `l5i_doubleCloseLog` (L5Sound/InterleaveDefs) and `l5q_openLog`
  (L5Sound/CloseOut) are covered as well.  `Props/L5Interleave` has the `doubleClose`
  conjunct without any hypothesis on the final state.
-/
import SqlairProofs.L5Sound.CloseOut
import SqlairProofs.L5Sound.General
import SqlairProofs.L5Sound.Interleave

namespace Sqlair.Cache

/-- the running example.  Two operations on one (Statement, DB) slot with different SQL
    shapes, their steps alternating: both miss, both prepare, 1 inserts, 2 inserts and
    thereby evicts statement 1; 1 executes, 2 executes and leaves an iterator open; then the
    caller closes the iterator and drops both handles.  No finalizer has run yet -/
def l5q_example : List Step :=
  [.newS, .newD, .query 1 1 1 0, .query 2 1 1 1, .lookup 1, .lookup 2, .prepare 1, .prepare 2,
   .insert 1, .insert 2, .exec 1 none, .exec 2 (some 7), .iterClose 7, .dropS 1, .dropD 1]

/-- the whole C11 conclusion, on the log, for every interleaving that ends quiescent: after
    the collection every driver statement that was prepared has exactly one `close` event,
    nothing else has one, the cache (both maps, hence `pairs`) is empty, no driver statement
    is lost and each has `Close` called once and is closed at the driver -/
theorem released_interleaved_quiescent (steps : List Step) (hq : Quiescent (run {} steps)) {fuel : Nat}
    (hf : gcMeasure (run {} steps) ≤ fuel) :
    let st' := gc fuel (run {} steps)
    Reachable st' ∧ L5sReleased st' ∧ st'.ds.length = (run {} steps).ds.length ∧
      ∀ x ∈ st'.ds, x.closeCalled = true ∧ x.closeCalls = 1 ∧ x.driverClosed = true ∧
        l5s_closes st'.log x.id = 1 := by
  intro st'
  obtain ⟨hr', _, _, hlen, hall⟩ := gc_quiescent (.of_run steps) hq hf
  exact ⟨hr', l5q_quiescent_released (.of_run steps) hq hf, hlen, fun x hx => by rw [l5s_closes_eq_count]; exact hall x hx⟩

/-- C11 for every interleaving that ends quiescent, with the fuel that is actually needed
    (`gcMeasure`): after the collection no driver statement has two `close`
    events, none is open, no pair is cached, and `holdsC11` with `allDropped = true` holds
    for any number of pooled connections -/
theorem holdsC11_interleaved_quiescent (steps : List Step) (hq : Quiescent (run {} steps)) {fuel : Nat}
    (hf : gcMeasure (run {} steps) ≤ fuel) (conns : Nat) :
    let st' := gc fuel (run {} steps)
    l5s_doubleClose st' = 0 ∧ l5s_openStmts st' = 0 ∧ st'.pairs = [] ∧
      holdsC11 (l5s_doubleClose st') (l5s_openStmts st') st'.pairs.length conns true st'.pairs.length = true := by
  intro st'
  obtain ⟨hr', hrel, _, _⟩ := released_interleaved_quiescent steps hq hf
  obtain ⟨h1, h2, _, h4⟩ := l5s_released_c11 hr'.inv hrel conns
  exact ⟨h1, h2, hrel.pairs, h4⟩

/-- the fuel `runHistory` gives `gc` (`l5s_gc`) suffices -/
theorem holdsC11_interleaved_quiescent_l5s_gc (steps : List Step) (hq : Quiescent (run {} steps)) (conns : Nat) :
    let st' := l5s_gc (run {} steps)
    l5s_doubleClose st' = 0 ∧ l5s_openStmts st' = 0 ∧ st'.pairs = [] ∧
      holdsC11 (l5s_doubleClose st') (l5s_openStmts st') st'.pairs.length conns true st'.pairs.length = true :=
  holdsC11_interleaved_quiescent steps hq (Nat.le_succ_of_le (gcMeasure_le _)) conns

/-- the same predicate on counts read off the LOG alone, standing for what the harness' fake driver keeps
    (harness/internal/fakedrv): `openStmts` = statements prepared and not closed; `doubleClose` is 0 exactly when no
    statement has two `close` events; `cacheLeft` = what is left in the cache -/
theorem holdsC11_interleaved_quiescent_log (steps : List Step) (hq : Quiescent (run {} steps)) {fuel : Nat}
    (hf : gcMeasure (run {} steps) ≤ fuel) (conns : Nat) :
    let st' := gc fuel (run {} steps)
    l5i_doubleCloseLog st'.log = 0 ∧ l5q_openLog st'.log = 0 ∧ entryCount st' = 0 ∧
      holdsC11 (l5i_doubleCloseLog st'.log) (l5q_openLog st'.log) st'.pairs.length conns true st'.pairs.length = true := by
  obtain ⟨hr', hrel, _, _⟩ := released_interleaved_quiescent steps hq hf
  have h1 := l5i_doubleCloseLog_zero hr'.inv
  have h2 := l5q_openLog_zero hrel
  refine ⟨h1, h2, by rw [← l5s_pairs_length hr'.inv, hrel.pairs]; rfl, ?_⟩
  rw [h1, h2, hrel.pairs]
  exact l5s_holdsC11_zero conns

/-- C11, general clause, first conjunct: in the run of any step list, collected or not, no
    driver statement has two `close` events -/
theorem l5s_doubleClose_interleaved (steps : List Step) (fuel : Nat) :
    l5s_doubleClose (run {} steps) = 0 ∧ l5s_doubleClose (gc fuel (run {} steps)) = 0 :=
  ⟨l5s_doubleClose_zero (inv_run inv_init steps), l5s_doubleClose_zero ((Reachable.of_run steps).gc fuel).inv⟩

/-- C11, general clause, second conjunct, in the form that is true for interleavings
    (`open_bound_partial`): in the run of any step list that leaves no iterator open, the
    driver statements without `close` event are at most the cached pairs plus the evicted
    statements awaiting their finalizer plus the operations between `prepare` and `insert` -/
theorem openStmts_bound_interleaved (steps : List Step) (hit : (run {} steps).iters = []) :
    l5s_openStmts (run {} steps) ≤
      (run {} steps).pairs.length + finCount (run {} steps).ds + preparedCount (run {} steps) := by
  have hi := inv_run inv_init steps
  have h1 := l5q_openStmts_le hi hit
  have h2 := open_le hi
  rw [l5s_pairs_length hi]
  omega

theorem l5q_example_quiescent : Quiescent (run {} l5q_example) :=
  ⟨by decide +kernel, by decide +kernel, by decide +kernel, by decide +kernel⟩

/-- the example ends quiescent with both statements open - one cached, one evicted and
    awaiting its finalizer -, so `holdsC11 … true …` is false before the collection; the
    collection (three finalizers: `finDS 1`, `finS 1`, `finD 1`) closes both, each once -/
example :
    Quiescent (run {} l5q_example) ∧
    (run {} l5q_example).log = [.prepare 1 1 0, .prepare 2 1 1, .exec 1 1 0, .exec 2 1 1] ∧
    (run {} l5q_example).pairs = [(1, 1, 1)] ∧ l5s_openStmts (run {} l5q_example) = 2 ∧
    holdsC11 (l5s_doubleClose (run {} l5q_example)) (l5s_openStmts (run {} l5q_example))
      (run {} l5q_example).pairs.length 4 true (run {} l5q_example).pairs.length = false ∧
    gcMeasure (run {} l5q_example) = 3 ∧
    (gc 3 (run {} l5q_example)).ds.length = 2 ∧
    (gc 3 (run {} l5q_example)).ds.all (fun x => x.closeCalled && x.driverClosed && x.closeCalls == 1) = true ∧
    (gc 3 (run {} l5q_example)).log.drop 4 = [.close 1, .close 2] ∧
    (gc 3 (run {} l5q_example)).stmtDB = [] ∧ (gc 3 (run {} l5q_example)).dbStmt = [] ∧
    l5q_openLog (gc 3 (run {} l5q_example)).log = 0 ∧
    -- with too little fuel the collection is not complete and the predicate fails
    l5s_openStmts (gc 1 (run {} l5q_example)) = 1 := by
  refine ⟨l5q_example_quiescent, ?_⟩
  decide +kernel

/-- the interleaving is a real one: after ten steps operation 1 holds the evicted statement 1
    (which has its finalizer set), operation 2 holds statement 2, which is what the cache has -/
example :
    (run {} (l5q_example.take 10)).ops.map (fun p => (p.1, p.2.pc)) = [(1, .ready 1), (2, .ready 2)] ∧
    lookup2 (run {} (l5q_example.take 10)).stmtDB 1 1 = some 2 ∧
    (run {} (l5q_example.take 10)).ds.map (·.finalizer) = [true, false] := by decide +kernel

/-- the theorem applies to the example (fuel 3, the harness' four connections) -/
example :
    holdsC11 (l5s_doubleClose (gc 3 (run {} l5q_example))) (l5s_openStmts (gc 3 (run {} l5q_example)))
      (gc 3 (run {} l5q_example)).pairs.length 4 true (gc 3 (run {} l5q_example)).pairs.length = true :=
  (holdsC11_interleaved_quiescent l5q_example l5q_example_quiescent (fuel := 3) (by decide +kernel) 4).2.2.2

/-- wrong observations with everything dropped: one statement left open; one pair left in the
    cache (its statement open, within the general bound); a statement closed twice; the
    log-only counts of a log with a `prepare` that is never closed -/
example :
    holdsC11 0 1 0 4 true 0 = false ∧ holdsC11 0 1 1 4 true 1 = false ∧ holdsC11 0 0 1 4 true 1 = false ∧
    holdsC11 1 0 0 4 true 0 = false ∧
    l5q_openLog [.prepare 1 1 0, .prepare 2 1 1, .exec 1 1 0, .close 1] = 1 ∧
    holdsC11 (l5i_doubleCloseLog [.prepare 1 1 0, .prepare 2 1 1, .exec 1 1 0, .close 1])
      (l5q_openLog [.prepare 1 1 0, .prepare 2 1 1, .exec 1 1 0, .close 1]) 0 4 true 0 = false ∧
    holdsC11 0 0 0 4 true 0 = true := by decide +kernel

end Sqlair.Cache
