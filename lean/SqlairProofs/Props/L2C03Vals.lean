/-
  Props/L2C03Vals: C03, the clause on the value behind the placeholder that replaced `$T.member`, as the
  harness checks it (`holdsC03vals`, `SqlairModel/Spec/L2.lean`: for statements whose only expressions
  are member inputs, the k-th argument the driver receives is named `sqlair_k` and is the value of
  the member the k-th expression names, found by tag with `valueByTag C tt 8`), against the model,
  which like the library reaches the members through the index paths `getStructFields` computes.

  The predicate is not true of the model's own observation unconditionally: three kernel-checked
  counterexamples (`holdsC03vals_needs_…`), each on the observation of a statement the model prepares
  and binds.  Unlike `holdsC04rows`, nothing in `holdsC03vals` makes it vacuous when the fuel is short.
  Under the decidable guard `c03valsGuards` (`L2Sound/C03ValsGuard.lean`), under which the driver
  evaluates it, the predicate raises no false alarm on the model (`holdsC03vals_model`).  The guard is
  sufficient, not the weakest (`c03valsGuards_not_weakest`).
-/
import SqlairProofs.L2Sound.C03Vals
import SqlairProofs.Props.Fixtures.L2

namespace Sqlair

/-- C03 (the value behind the placeholder of `$T.m`), no false alarm on the model: under `c03valsGuards`
    (every argument an expression names is a map, or `embPtrOK tt`, `valWF tt 64 v` and
    `tagsOfVal C tt 8 v` succeeds), `holdsC03vals` is true of the observation of every run the model
    prepares and binds, with any number of expressions and arguments.  The predicate says something
    when every expression is a member input `$T.m`; the member is looked up in the only argument of
    type name `T` (a struct `T`, `*T`: `row_by_tag`, L2Rows/Rows.lean; a map `M`, `*M`: the key). -/
theorem holdsC03vals_model {C : Cls} {tt : TypeTable} {segs : List OSeg} {samples : List (Option Nat)}
    {tes : List TExpr} {args : List GoVal} {pq : Primed}
    (hguard : c03valsGuards C tt segs args = true)
    (hp : bindTypes C tt segs samples = .ok tes) (hb : bindInputs tt tes args = .ok pq) :
    holdsC03vals C tt segs args (modelBindObs pq) = true := by
  rw [holdsC03vals_eq, l2s_guard pq]
  simp only [Bool.false_eq_true, if_false]
  split
  · rfl
  rename_i hall
  have hall : (segs.filter (·.kind != .bypass)).all (·.kind == .member) = true := by
    simpa only [Bool.not_eq_true', Bool.not_eq_false] using hall
  obtain ⟨infos, hg, hms⟩ := bindTypes_memSegs hall hp
  obtain ⟨m, qb, hm, hq, _, rfl⟩ := bindInputs_ok_unfold hb
  have hgd : ∀ s ∈ segs, s.kind = .member → ∀ a, s.types = [a] → ∀ v ∈ args, v.typeName tt = a.ty →
      c03valsArgOK C tt v = true := by
    intro s hs hk a hty v hv hname
    unfold c03valsGuards at hguard
    rw [List.all_eq_true] at hguard
    have := hguard s (List.mem_filter.2 ⟨hs, by simp [hk]⟩)
    simp only [hty, List.all_eq_true] at this
    have := this v hv
    simpa [hname] using this
  obtain ⟨ps, h2, h3, h4⟩ := foldlM_memSegs hms (fun s hs hk a l p c v hty hmem hloc hb hv =>
    c03vals_point (C := C) hg hm c hty hmem hloc hb hv (hgd s hs hk a hty)) {} qb hq
  simp only [List.nil_append] at h2
  rw [modelBindObs_params]
  simp only [h2]
  rw [Bool.and_eq_true]
  refine ⟨by simpa using h3, ?_⟩
  rw [List.range_eq_range']
  exact h4

/-- the same on `runModel`, which the driver calls (`Driver/L2.lean`) -/
theorem holdsC03vals_runModel {C : Cls} {tt : TypeTable} {segs : List OSeg} {samples : List (Option Nat)}
    {args : List GoVal} {pq : Primed}
    (hguard : c03valsGuards C tt segs args = true)
    (hb : (runModel C tt segs samples args).bind = .ok pq) :
    holdsC03vals C tt segs args (modelBindObs pq) = true := by
  obtain ⟨tes, hp, hb⟩ := runModel_bind_ok hb
  exact holdsC03vals_model hguard hp hb

namespace L2RowsEx

def segsT2a : List OSeg := [
  { kind := .bypass, raw := bs "SELECT 1 WHERE a=" },
  { kind := .member, raw := bs "$T2.a", types := [{ ty := bs "T2", member := bs "a" }] } ]

def pqT2a : Primed :=
  { pieces := [.text (bs "SELECT 1 WHERE a="), .inputs 0 1], params := [(0, "from the field")], outputs := [] }

/-- a `T` whose embedded field of type `E` holds a struct that carries the type id of `T` (no
    `reflect.Value` is like that) -/
def argIllT : GoVal :=
  .struct { t := 0, zero := false, r := "{T}" }
    [lf "a1",
     .struct { t := 0, zero := false, r := "{T}" } [lf "ua", .struct { t := 3, zero := false, r := "{E}" } [lf "ux"], lf "ub"],
     lf "b1"]

def argPM : GoVal :=
  .ptr { t := 5, zero := false, r := "&M" } (some (.map { t := 4, zero := false, r := "map" } (some [(bs "k", lf "kv"), (bs "x", lf "mx")])))

/-- `SELECT 1 WHERE x=$T.x AND k=$M.k` -/
def segsTM : List OSeg := [
  { kind := .bypass, raw := bs "SELECT 1 WHERE x=" },
  { kind := .member, raw := bs "$T.x", types := [{ ty := bs "T", member := bs "x" }] },
  { kind := .bypass, raw := bs " AND k=" },
  { kind := .member, raw := bs "$M.k", types := [{ ty := bs "M", member := bs "k" }] } ]

def obsNamed (ps : List (String × String)) : BindObs :=
  { prepOk := true, bindOk := true, mode := "exec", events := 2, params := ps }

end L2RowsEx

open L2RowsEx in
/-- Defect of `valueByTag` (side condition `embPtrOK`, as for `holdsC04rows`, `holdsC04rows_needs_embPtrOK`):
    `type T2 struct { *M; A string "a" }`, `type M map[string]string`, statement `… $T2.a`.  The library
    skips the embedded `*M` (not a struct) and sends the field `A`; `valueByTag` follows the pointer
    into the map and answers the value of the key `a`.  The model's own observation is rejected;
    the value is well formed and `tagsOfVal` succeeds, only `embPtrOK` fails. -/
theorem holdsC03vals_needs_embPtrOK :
    (∃ tes, bindTypes C tt segsT2a [some 6] = .ok tes ∧ bindInputs tt tes [argT2] = .ok pqT2a) ∧
    holdsC03vals C tt segsT2a [argT2] (modelBindObs pqT2a) = false ∧
    embPtrOK tt = false ∧ valWF tt 64 argT2 = true ∧ (tagsOfVal C tt 8 argT2).isSome = true ∧
    c03valsGuards C tt segsT2a [argT2] = false := by
  exact ⟨⟨_, by rfl, by rfl⟩, by decide +kernel⟩

open L2RowsEx in
/-- side condition `valWF` (not a defect), on `argIllT`: for `$T.x` the model follows the index path
    `[1, 0]` (and sends `ua`), the search by tag finds the member tagged `x` of the inner value (`ux`).
    `embPtrOK` holds and `tagsOfVal` succeeds, only `valWF` fails. -/
theorem holdsC03vals_needs_valWF :
    (L2RowsEx.modelObs ttOK segsMem [some 0] [argIllT]).map (·.params) =
      some [("sqlair_0", "a1"), ("sqlair_1", "ua")] ∧
    (L2RowsEx.modelObs ttOK segsMem [some 0] [argIllT]).map (holdsC03vals C ttOK segsMem [argIllT]) = some false ∧
    embPtrOK ttOK = true ∧ valWF ttOK 64 argIllT = false ∧ (tagsOfVal C ttOK 8 argIllT).isSome = true ∧
    c03valsGuards C ttOK segsMem [argIllT] = false := by
  decide +kernel

/-- The fuel of `valueByTag … 8` (a limit of the predicate, not of the model): in `l2sDeepTT`
    (`Props/Fixtures/L2.lean`) the member is 16 structs deep (any depth beyond 8, or beyond 7 below a
    pointer argument, shows the same).  For `$T.a` and a `T0` value the model sends the member
    (`deep`); the search by tag gives up 8 levels down and the predicate is false of the model's own
    observation.  The table is `embPtrOK`, the value well formed; only `tagsOfVal … 8` fails (it
    runs out of fuel at the same depth), which is what the guard tests. -/
theorem holdsC03vals_needs_fuel :
    bindTypes PrepExample.C l2sDeepTT l2sDeepSegs [some 0] = .ok l2sDeepTes ∧
    bindInputs l2sDeepTT l2sDeepTes [l2sDeepVal 16] = .ok l2sDeepPq ∧
    holdsC03vals PrepExample.C l2sDeepTT l2sDeepSegs [l2sDeepVal 16] (modelBindObs l2sDeepPq) = false ∧
    embPtrOK l2sDeepTT = true ∧ valWF l2sDeepTT 64 (l2sDeepVal 16) = true ∧
    tagsOfVal PrepExample.C l2sDeepTT 8 (l2sDeepVal 16) = none ∧
    c03valsGuards PrepExample.C l2sDeepTT l2sDeepSegs [l2sDeepVal 16] = false :=
  ⟨l2sDeep_prep, l2sDeep_bind, by decide +kernel⟩

/-- the boundary of the fuel: the member 8 structs deep (a `T8` value, `l2sDeepVal 8`) is found and
    the guard holds; 9 structs deep (a `T7` value) the guard fails, and so does the predicate on the
    model's own observation -/
theorem holdsC03vals_fuel_boundary :
    c03valsGuards PrepExample.C l2sDeepTT l2sDeepSegs [l2sDeepVal 8] = true ∧
    (L2RowsEx.modelObs l2sDeepTT l2sDeepSegs [some 8] [l2sDeepVal 8]).map
      (holdsC03vals PrepExample.C l2sDeepTT l2sDeepSegs [l2sDeepVal 8]) = some true ∧
    c03valsGuards PrepExample.C l2sDeepTT l2sDeepSegs [l2sDeepVal 9] = false ∧
    (L2RowsEx.modelObs l2sDeepTT l2sDeepSegs [some 7] [l2sDeepVal 9]).map
      (holdsC03vals PrepExample.C l2sDeepTT l2sDeepSegs [l2sDeepVal 9]) = some false := by
  decide +kernel

namespace L2RowsEx

example : c03valsGuards C ttOK segsTM [row "a1" "x1" "b1", argPM] = true ∧
    ∃ pq, (runModel C ttOK segsTM [some 0, some 4] [row "a1" "x1" "b1", argPM]).bind = .ok pq ∧
      (modelBindObs pq).params = [("sqlair_0", "x1"), ("sqlair_1", "kv")] ∧
      holdsC03vals C ttOK segsTM [row "a1" "x1" "b1", argPM] (modelBindObs pq) = true := by
  have hgd : c03valsGuards C ttOK segsTM [row "a1" "x1" "b1", argPM] = true := by decide +kernel
  obtain ⟨pq, h1, h2⟩ := ok_of_toOption_map (f := fun pq => (modelBindObs pq).params)
    (by decide +kernel : (runModel C ttOK segsTM [some 0, some 4] [row "a1" "x1" "b1", argPM]).bind.toOption.map
      (fun pq => (modelBindObs pq).params) = some [("sqlair_0", "x1"), ("sqlair_1", "kv")])
  exact ⟨hgd, pq, h1, h2, holdsC03vals_runModel hgd h1⟩

/-- rejected: the two values swapped, the value of another member (`a1`, `mx`), the names swapped, an argument
    lost; the last observation is the model's -/
example :
    holdsC03vals C ttOK segsTM [row "a1" "x1" "b1", argPM] (obsNamed [("sqlair_0", "kv"), ("sqlair_1", "x1")]) = false ∧
    holdsC03vals C ttOK segsTM [row "a1" "x1" "b1", argPM] (obsNamed [("sqlair_0", "a1"), ("sqlair_1", "kv")]) = false ∧
    holdsC03vals C ttOK segsTM [row "a1" "x1" "b1", argPM] (obsNamed [("sqlair_0", "x1"), ("sqlair_1", "mx")]) = false ∧
    holdsC03vals C ttOK segsTM [row "a1" "x1" "b1", argPM] (obsNamed [("sqlair_1", "x1"), ("sqlair_0", "kv")]) = false ∧
    holdsC03vals C ttOK segsTM [row "a1" "x1" "b1", argPM] (obsNamed [("sqlair_0", "x1")]) = false ∧
    holdsC03vals C ttOK segsTM [row "a1" "x1" "b1", argPM] (obsNamed [("sqlair_0", "x1"), ("sqlair_1", "kv")]) = true := by
  decide +kernel

example : ∃ pq, (runModel C ttOK segsMem [some 0] [row "a1" "x1" "b1"]).bind = .ok pq ∧
    holdsC03vals C ttOK segsMem [row "a1" "x1" "b1"] (modelBindObs pq) = true := by
  obtain ⟨pq, h, _⟩ := ok_of_toOption_map (f := Primed.params) run_segsMem
  exact ⟨pq, h, holdsC03vals_runModel (by decide +kernel) h⟩

end L2RowsEx

namespace L2RowsEx

/-- `type T3 struct { *E; A string "a" }`, `string`, `type E struct { X string "x" }`, `*E` -/
def ttNilEmb : TypeTable := #[
  { kind := .struct, kindStr := "struct", name := bs "T3", fields := [
      { name := bs "E", tag := #[], exported := true, anon := true, ty := 3 },
      { name := bs "A", tag := bs "a", exported := true, anon := false, ty := 1 }] },
  { kind := .string, kindStr := "string", name := #[] },
  { kind := .struct, kindStr := "struct", name := bs "E", fields := [
      { name := bs "X", tag := bs "x", exported := true, anon := false, ty := 1 }] },
  { kind := .ptr, kindStr := "ptr", name := #[], elem := 2 } ]

def argNilEmb : GoVal :=
  .struct { t := 0, zero := false, r := "{T3}" }
    [.ptr { t := 3, zero := true, r := "nil" } none, .leaf { t := 1, zero := false, r := "a1" }]

def segsT3a : List OSeg := [{ kind := .member, raw := bs "$T3.a", types := [{ ty := bs "T3", member := bs "a" }] }]

end L2RowsEx

open L2RowsEx in
/-- `c03valsGuards` is sufficient, not the weakest condition: `tagsOfVal … 8` also fails on a value with a
    nil embedded pointer (`argNilEmb`, a `T3` with a nil `*E`), which `valueByTag` skips; the model binds
    `$T3.a` and the predicate is true of its observation.  Whether the weaker guard
    `embPtrOK tt && valWF tt 64 v && (valueByTag C tt 8 v a.member).isSome` suffices is not proved. -/
theorem c03valsGuards_not_weakest :
    (L2RowsEx.modelObs ttNilEmb segsT3a [some 0] [argNilEmb]).map (·.params) = some [("sqlair_0", "a1")] ∧
    (L2RowsEx.modelObs ttNilEmb segsT3a [some 0] [argNilEmb]).map (holdsC03vals C ttNilEmb segsT3a [argNilEmb]) = some true ∧
    c03valsGuards C ttNilEmb segsT3a [argNilEmb] = false ∧
    embPtrOK ttNilEmb = true ∧ valWF ttNilEmb 64 argNilEmb = true ∧ tagsOfVal C ttNilEmb 8 argNilEmb = none := by
  decide +kernel

end Sqlair
