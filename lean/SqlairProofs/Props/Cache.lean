/-
  Cache properties: C09 (a cached prepared statement is only used for the SQL and DB it was
  prepared for), C10 (a prepared statement is never closed underneath a user that still
  holds it), C11 (prepared statements are released exactly once).

  All theorems quantify over `Reachable` states, i.e. over every list of atomic steps from
  the initial state: every interleaving of any number of operations with evictions by
  concurrent operations of a different shape, reference drops, and every placement of the
  three finalizers the GC reachability model allows.
-/
import SqlairProofs.Cache.Seq
import SqlairProofs.Cache.Gc
import SqlairProofs.Cache.Count

namespace Sqlair.Cache

/-! ### the running example: two concurrent operations with different shapes on the same
    (statement, DB) slot evict each other; the first keeps an iterator open -/

def exTrace : List Step :=
  [.newS, .newD, .query 1 1 1 0, .query 2 1 1 1, .lookup 1, .lookup 2, .prepare 1, .prepare 2,
   .insert 1, .insert 2, .exec 1 (some 7), .exec 2 none, .dropS 1, .finDS 1, .iterClose 7, .finDS 1]

theorem exTrace_reachable (n : Nat) : Reachable (run {} (exTrace.take n)) := .of_run _

/-- C10: no execution ever hits "sql: statement is closed", whatever the interleaving -/
theorem no_use_after_close {st : St} (h : Reachable st) : ∀ id, Ev.execClosed id ∉ st.log :=
  h.inv.log.noEC

/-- C10: the log of the run of any step list from the empty state has no execution that hit
    "sql: statement is closed". -/
theorem no_use_after_close_run (steps : List Step) : ∀ id, Ev.execClosed id ∉ (run {} steps).log :=
  no_use_after_close (.of_run steps)

/-- C10 (state form): the driver statement held by an in-flight operation (just prepared, or
    obtained from the cache and about to be executed) has not been closed -/
theorem held_stmt_not_closed {st : St} (h : Reachable st) {t id : Nat} {o : Op} (ho : st.getOp t = some o)
    (hh : o.pc = .prepared id ∨ o.pc = .ready id) :
    ∃ x, st.getDS id = some x ∧ x.closeCalled = false ∧ x.driverClosed = false := by
  have hm : (t, o) ∈ st.ops := alook_some_mem ho
  rcases hh with hh | hh
  · obtain ⟨x, hx, _, _, hc, _⟩ := h.inv.ops.prepared t o id hm hh
    exact ⟨x, hx, hc, h.inv.dsOK.not_dclosed hx hc⟩
  · obtain ⟨x, hx, _, _, hc, _⟩ := h.inv.ops.ready t o id hm hh
    exact ⟨x, hx, hc, h.inv.dsOK.not_dclosed hx hc⟩

/-- C10: while an iterator is open on a driver statement, the driver-level close has not
    happened (a `Close` issued meanwhile waits for the rows) -/
theorem iter_keeps_driver_stmt_open {st : St} (h : Reachable st) {hd id : Nat} (hm : (hd, id) ∈ st.iters) :
    (∃ x, st.getDS id = some x ∧ x.driverClosed = false) ∧ Ev.close id ∉ st.log := by
  obtain ⟨x, hx, hdc⟩ := h.inv.iters.isOpen hd id hm
  exact ⟨⟨x, hx, hdc⟩, h.inv.log.not_logged hx hdc⟩

/-- non-vacuity: in the example both operations run to completion, each on its own
    statement (two prepares, two executions, no "statement is closed") -/
example : (run {} (exTrace.take 12)).log =
    [.prepare 1 1 0, .prepare 2 1 1, .exec 1 1 0, .exec 2 1 1] := by decide +kernel

/-- non-vacuity: operation 1 is `ready 1` while operation 2 evicts statement 1 -/
example : (run {} (exTrace.take 10)).getOp 1 = some { s := 1, d := 1, sql := 0, pc := .ready 1 } ∧
    lookup2 (run {} (exTrace.take 10)).stmtDB 1 1 = some 2 ∧
    ((run {} (exTrace.take 10)).getDS 1).map (·.finalizer) = some true := by decide +kernel

/-- non-vacuity: the finalizer of the evicted statement is not enabled while iterator 7 is
    open on it, and is enabled once the iterator is closed; `Close` reaches the driver once -/
example : (step (run {} (exTrace.take 13)) (.finDS 1)).isSome = false ∧
    (step (run {} (exTrace.take 15)) (.finDS 1)).isSome = true ∧
    (run {} (exTrace.take 13)).iters = [(7, 1)] ∧
    (run {} exTrace).log.count (.close 1) = 1 := by decide +kernel

/-- non-vacuity: the finalizer of the Statement calls `Close` on a cached statement while
    iterator 7 still reads from it: `closeCalled` but not `driverClosed`, nothing logged; the
    driver-level close happens when the iterator is closed -/
example :
    let pre := [Step.newS, .newD, .query 1 1 1 0, .lookup 1, .prepare 1, .insert 1, .exec 1 (some 7), .dropS 1, .finS 1]
    (run {} pre).iters = [(7, 1)] ∧
    ((run {} pre).getDS 1).map (fun x => (x.closeCalled, x.driverClosed)) = some (true, false) ∧
    (run {} pre).log = [.prepare 1 1 0, .exec 1 1 0] ∧
    (run {} (pre ++ [.iterClose 7])).log = [.prepare 1 1 0, .exec 1 1 0, .close 1] := by decide +kernel

/-- C09: an enabled `exec` step of operation `o` executes a driver statement that was
    prepared from exactly this call's SQL on this call's DB; it is never the closed case -/
theorem exec_uses_matching_stmt {st st' : St} (h : Reachable st) {t : Nat} {iter : Option Nat} {o : Op}
    (ho : st.getOp t = some o) (hs : step st (.exec t iter) = some st') :
    ∃ id, o.pc = .ready id ∧ st'.log = st.log ++ [.exec id o.d o.sql] ∧ Ev.prepare id o.d o.sql ∈ st.log := by
  obtain ⟨o', id, x, ho', hpc, hx, hdb, hsql, _, _, _, rfl⟩ := h.inv.step_exec hs
  cases ho.symm.trans ho'
  exact ⟨id, hpc, rfl, hdb ▸ hsql ▸ h.inv.log.prep id x hx⟩

/-- C09 on logs: every execution in the log of a reachable state is preceded by the
    preparation of that driver statement with the same DB and the same SQL -/
theorem exec_preceded_by_prepare {st : St} (h : Reachable st) {pre post : List Ev} {id d q : Nat}
    (hl : st.log = pre ++ Ev.exec id d q :: post) : Ev.prepare id d q ∈ pre := by
  have : st.log[pre.length]? = some (Ev.exec id d q) := by rw [hl]; simp
  obtain ⟨j, hj, hj'⟩ := h.inv.log.exec _ _ _ _ this
  rw [hl, List.getElem?_append_left hj] at hj'
  exact List.mem_of_getElem? hj'

/-- C09: a cache hit returns a statement prepared from this call's SQL on this call's DB
    (and not closed) -/
theorem hit_sound {st st' : St} (h : Reachable st) {t id : Nat} {o o' : Op}
    (ho : st.getOp t = some o) (hs : step st (.lookup t) = some st')
    (ho' : st'.getOp t = some o') (hpc : o'.pc = .ready id) :
    lookup2 st.stmtDB o.s o.d = some id ∧
      ∃ x, st.getDS id = some x ∧ x.sql = o.sql ∧ x.db = o.d ∧ x.closeCalled = false := by
  obtain ⟨o1, pc, ho1, _, rfl, hc⟩ := step_lookup hs
  cases ho.symm.trans ho1
  rw [getOp_eq, alook_ainsert, if_pos rfl] at ho'
  cases ho'
  rcases hc with ⟨id', x, hl, hx, hsql, rfl⟩ | ⟨_, rfl⟩
  · cases hpc
    have hc : x.db = o.d ∧ x.closeCalled = false ∧ _ := of_dsGet (h.inv.cache.ok _ _ _ hl) hx
    exact ⟨hl, x, hx, hsql, hc.1, hc.2.1⟩
  · cases hpc

/-- non-vacuity for `hit_sound`/`exec_uses_matching_stmt`: a third operation with shape 1
    hits statement 2 in the cache and executes it -/
example : (run {} (exTrace.take 12 ++ [.newS, .query 3 1 1 1, .lookup 3])).getOp 3 =
      some { s := 1, d := 1, sql := 1, pc := .ready 2 } ∧
    (run {} (exTrace.take 12 ++ [.newS, .query 3 1 1 1, .lookup 3, .exec 3 none])).log =
      [.prepare 1 1 0, .prepare 2 1 1, .exec 1 1 0, .exec 2 1 1, .exec 2 1 1] := by decide +kernel

/-- C11: the index `dbStmt` and the cache `stmtDB` agree -/
theorem index_consistent {st : St} (h : Reachable st) (s d : Nat) :
    s ∈ getIdx st.dbStmt d ↔ lookup2 st.stmtDB s d ≠ none :=
  h.inv.maps.index s d

/-- `getIdx`/`finDBody`/`eraseD` are literally what the model's `finD` runs -/
theorem finD_unfold (st : St) (d : Nat) :
    step st (.finD d) =
      if st.dReachable d || !(st.dbStmt.any (·.1 == d)) then none
      else some (eraseD d ((getIdx st.dbStmt d).foldl (finDBody d) st)) := rfl

theorem finDBody_unfold (d : Nat) (st : St) (s : Nat) :
    finDBody d st s =
      match lookup2 st.stmtDB s d with
      | some id => { st.closeStmt id with stmtDB := del2 (st.closeStmt id).stmtDB s d }
      | none => st := rfl

/-- C11: the finalizer of a DB never takes the `none` branch (where `removeAndCloseDBFunc`, cache.go:168, would
    dereference the nil `*driverStmt` of a missing map entry): at every iteration of its loop the look-up succeeds -/
theorem finD_none_branch_unreachable {st : St} (h : Reachable st) (d : Nat) {pre post : List Nat} {s : Nat}
    (hsplit : getIdx st.dbStmt d = pre ++ s :: post) :
    lookup2 (pre.foldl (finDBody d) st).stmtDB s d ≠ none := by
  have hmem : s ∈ getIdx st.dbStmt d := by rw [hsplit]; exact List.mem_append_right _ List.mem_cons_self
  have hnd : (getIdx st.dbStmt d).Nodup := by
    unfold getIdx
    cases hl : alook st.dbStmt d with
    | none => exact .nil
    | some l => exact h.inv.maps.idx_nodup (d, l) (alook_some_mem hl)
  -- `s` is still to come, so its slot has not been emptied
  rw [hsplit] at hnd
  have e := congrArg St.stmtDB (finD_eq_micro d pre st)
  rw [show (pre.foldl (finDBody d) st).stmtDB = (pre.foldl (fun st s => evictSlot s d st) st).stmtDB from e,
    lookup2_foldl _ (fun s => (s, d)) fun st s => evictSlot_lookup2 s d st, if_neg]
  · exact (index_consistent h s d).1 hmem
  · intro hp
    obtain ⟨s', hs', e⟩ := List.mem_map.1 hp
    cases e
    exact (List.nodup_append.1 hnd).2.2 s hs' s List.mem_cons_self rfl

/-- C11: `Close` is called at most once on every driver statement, and the driver-level
    close of every driver statement happens at most once -/
theorem close_at_most_once {st : St} (h : Reachable st) :
    (∀ x ∈ st.ds, x.closeCalls ≤ 1) ∧ (∀ id, st.log.count (.close id) ≤ 1) := by
  refine ⟨?_, h.inv.log.close1⟩
  intro x hx
  have := h.inv.dsOK.calls x.id x (h.inv.dsOK.ids.get_of_mem hx)
  rw [this]; split
  · exact Nat.le_refl 1
  · exact Nat.zero_le 1

/-- C11: a driver statement is closed at the driver exactly when the log has one `close` event for it -/
theorem driverClosed_iff_logged {st : St} (h : Reachable st) {x : DStmt} (hx : x ∈ st.ds) :
    x.driverClosed = true ↔ st.log.count (.close x.id) = 1 :=
  h.inv.driverClosed_iff_logged hx

/-- non-vacuity: in the example state the finalizers of statement and DB run, the loop of
    `finD` finds what the index promises, and both statements end up closed exactly once -/
example : getIdx (run {} exTrace).dbStmt 1 = [1] ∧ lookup2 (run {} exTrace).stmtDB 1 1 = some 2 ∧
    (step (run {} (exTrace ++ [.dropD 1])) (.finD 1)).isSome = true ∧
    (run {} (exTrace ++ [.dropD 1, .finD 1])).log.count (.close 2) = 1 ∧
    (run {} (exTrace ++ [.dropD 1, .finD 1])).ds.map (·.closeCalls) = [1, 1] := by decide +kernel

/-- C09: repeating a query whose generated SQL is what the cache holds for its
    (statement, DB) slot reuses the prepared statement: the complete sequential run of the
    operation emits exactly one event, the execution of the cached statement — no `prepare` —
    and leaves the cache and the driver statements untouched -/
theorem sequential_reuse {st : St} (h : Reachable st) {s d id q t : Nat} {x : DStmt}
    (hl : lookup2 st.stmtDB s d = some id) (hx : st.getDS id = some x) (hq : x.sql = q)
    (hs : s ∈ st.liveS) (hd : d ∈ st.liveD) (ht : st.getOp t = none) :
    let st' := run st [.query t s d q, .lookup t, .prepare t, .insert t, .exec t none]
    st'.log = st.log ++ [.exec id d q] ∧ st'.stmtDB = st.stmtDB ∧ st'.dbStmt = st.dbStmt ∧ st'.ds = st.ds := by
  have h1 : step st (.query t s d q) = some { st with ops := ainsert st.ops t { s := s, d := d, sql := q } } :=
    step_query.2 ⟨hs, hd, ht, rfl⟩
  have hr := l5s_tail_start (inv_step h.inv _ h1) (t := t) (o := { s := s, d := d, sql := q })
    (by rw [alook_ainsert, if_pos rfl]) rfl
  have hrun : run st [.query t s d q, .lookup t, .prepare t, .insert t, .exec t none] =
      run { st with ops := ainsert st.ops t { s := s, d := d, sql := q } } (l5s_tail t) := by
    rw [run_cons, h1]; rfl
  rw [hrun]
  rcases hr.events with ⟨_, h2, h3, h4, id', hl', h5⟩ | ⟨hh, _⟩
  · cases hl.symm.trans hl'
    exact ⟨h5, h3, h4, h2⟩
  · cases hh.symm.trans (l5s_hit_iff.2 ⟨id, x, hl, hx, hq⟩)

/-- non-vacuity: a second operation with shape 1 after the example reuses statement 2 -/
example : lookup2 (run {} (exTrace.take 12)).stmtDB 1 1 = some 2 ∧
    ((run {} (exTrace.take 12)).getDS 2).map (·.sql) = some 1 ∧
    1 ∈ (run {} (exTrace.take 12)).liveS ∧ 1 ∈ (run {} (exTrace.take 12)).liveD ∧
    (run {} (exTrace.take 12)).getOp 3 = none ∧
    (run (run {} (exTrace.take 12)) [.query 3 1 1 1, .lookup 3, .prepare 3, .insert 3, .exec 3 none]).log =
      (run {} (exTrace.take 12)).log ++ [.exec 2 1 1] := by decide +kernel

/-- C11: once the caller has dropped every handle, closed every iterator and no operation is
    in flight, garbage collection (with the fuel `runHistory` gives it, or more) empties the
    cache and closes every driver statement — exactly once, at the driver — without losing
    any of them -/
theorem quiescent_closed {st : St} (h : Reachable st) (hq : Quiescent st) {fuel : Nat}
    (hf : st.ds.length + st.stmtDB.length + st.dbStmt.length + 1 ≤ fuel) :
    let st' := gc fuel st
    Reachable st' ∧ st'.stmtDB = [] ∧ st'.dbStmt = [] ∧ st'.ds.length = st.ds.length ∧
      ∀ x ∈ st'.ds, x.closeCalled = true ∧ x.closeCalls = 1 ∧ x.driverClosed = true ∧
        st'.log.count (.close x.id) = 1 := by
  exact gc_quiescent h hq (Nat.le_trans (gcMeasure_le st) (Nat.le_of_succ_le hf))

/-- the fuel that is actually needed: evicted statements + keys of the two maps -/
theorem quiescent_closed_measure {st : St} (h : Reachable st) (hq : Quiescent st) {fuel : Nat}
    (hf : gcMeasure st ≤ fuel) :
    (gc fuel st).stmtDB = [] ∧ (gc fuel st).dbStmt = [] ∧
      ∀ x ∈ (gc fuel st).ds, x.closeCalled = true ∧ x.closeCalls = 1 ∧ x.driverClosed = true := by
  obtain ⟨_, hs, hd, _, hall⟩ := gc_quiescent h hq hf
  exact ⟨hs, hd, fun x hx => ⟨(hall x hx).1, (hall x hx).2.1, (hall x hx).2.2.1⟩⟩

/-- C11: with the fuel `runHistory` gives it, `gc` ends where no finalizer is enabled -/
theorem gc_reaches_fixpoint {st : St} (h : Reachable st) {fuel : Nat}
    (hf : st.ds.length + st.stmtDB.length + st.dbStmt.length + 1 ≤ fuel) :
    Reachable (gc fuel st) ∧ enabledFinalizers (gc fuel st) = [] :=
  ⟨h.gc fuel, (gc_spec fuel st h.inv (Nat.le_trans (gcMeasure_le st) (Nat.le_of_succ_le hf))).1⟩

/-- non-vacuity: drop the DB handle after the example and collect: two statements, both
    closed at the driver, the cache empty; before the collection one was still open -/
example : Quiescent (run {} (exTrace ++ [.dropD 1])) ∧
    (run {} (exTrace ++ [.dropD 1])).stmtDB = [(1, [(1, 2)])] ∧
    (gc 5 (run {} (exTrace ++ [.dropD 1]))).stmtDB = [] ∧
    (gc 5 (run {} (exTrace ++ [.dropD 1]))).ds.map (·.driverClosed) = [true, true] ∧
    (gc 5 (run {} (exTrace ++ [.dropD 1]))).log.drop 4 = [.close 1, .close 2] := by
  unfold Quiescent
  decide +kernel

/-- the bound open statements ≤ cache entries + evicted statements awaiting their finalizer
    is FALSE between `prepare` and `insert`: the freshly prepared statement is neither cached
    nor evicted.  Counterexample: -/
example : let st := run {} [.newS, .newD, .query 1 1 1 0, .lookup 1, .prepare 1]
    openCount st = 1 ∧ entryCount st = 0 ∧ finCount st.ds = 0 ∧ preparedCount st = 1 := by decide +kernel

/-- C11, the variant that holds in every reachable state: the
    driver statements on which `Close` has not been called are at most the cache entries plus
    the evicted statements awaiting their finalizer plus the operations that are between
    `prepare` and `insert` -/
theorem open_bound_partial {st : St} (h : Reachable st) :
    openCount st ≤ entryCount st + finCount st.ds + preparedCount st :=
  open_le h.inv

/-- C11: without the third summand the bound holds whenever no operation is between `prepare` and `insert`
    (in particular in every state of a sequential history) -/
theorem open_bound {st : St} (h : Reachable st) (hno : ∀ p ∈ st.ops, p.2.isPrepared = false) :
    openCount st ≤ entryCount st + finCount st.ds :=
  open_le_of_no_prepared h.inv hno

/-- C11: the cache holds at most one entry per (Statement, DB) pair of live keys -/
theorem entries_bound {st : St} (h : Reachable st) :
    entryCount st ≤ st.stmtDB.length * st.dbStmt.length :=
  entries_le h.inv

/-- non-vacuity: in the example, after both inserts, two statements are open: one cached,
    one evicted and awaiting its finalizer (kept alive by operation 1) -/
example : let st := run {} (exTrace.take 10)
    openCount st = 2 ∧ entryCount st = 1 ∧ finCount st.ds = 1 ∧ preparedCount st = 0 ∧
    st.stmtDB.length * st.dbStmt.length = 1 := by decide +kernel

end Sqlair.Cache
