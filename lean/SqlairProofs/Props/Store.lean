/-
  C17 (store half): what an insert expansion writes is what a select of the same columns
  reads back, row by row, column by column; columns not written read back as NULL.
  The engine is the toy store of `SqlairModel/Store.lean`, not SQLite.
  `execInsert` is `none` not only for a tuple that is not rectangular but also for an unbound placeholder
  and for a literal cell (`cellValue (.lit _) = none`): of such inserts `store_roundtrip` says nothing.
-/
import SqlairModel.Store
import SqlairProofs.Basics

namespace Sqlair

theorem insertTuple_eq_some {params : List (Nat × String)} :
    ∀ {cols : List Bytes} {cells : List Cell} {r : SRow}, insertTuple params cols cells = some r →
      cells.length = cols.length ∧ r.map (·.1) = cols ∧ r.map (some ·.2) = cells.map (cellValue params)
  | [], [], _, h => by cases h; exact ⟨rfl, rfl, rfl⟩
  | [], _ :: _, _, h => by cases h
  | _ :: _, [], _, h => by cases h
  | c :: cs, x :: xs, r, h => by
    unfold insertTuple at h
    split at h
    · next v rest hv hrest =>
      cases h
      obtain ⟨h1, h2, h3⟩ := insertTuple_eq_some hrest
      simp [h1, h2, h3, hv]
    · cases h

theorem paramValue_of_mem {ps : List (Nat × String)} (hnd : (ps.map (·.1)).Nodup) {n : Nat} {v : String}
    (h : (n, v) ∈ ps) : paramValue ps n = some v := (assoc_iff_mem hnd).2 h

theorem rowGet_keys {r : SRow} (hnd : (r.map (·.1)).Nodup) : (r.map (·.1)).map (rowGet r) = r.map (some ·.2) := by
  rw [List.map_map]
  exact List.map_congr_left fun p hp => (assoc_iff_mem hnd).2 hp

theorem execInsert_cons {cols : List Bytes} {x : List Cell} {xs : List (List Cell)} {params : List (Nat × String)}
    {stored : List SRow} :
    execInsert cols (x :: xs) params = some stored ↔
      ∃ r rs, insertTuple params cols x = some r ∧ execInsert cols xs params = some rs ∧ stored = r :: rs := by
  unfold execInsert
  rw [List.mapM_cons]
  cases insertTuple params cols x <;> cases xs.mapM (insertTuple params cols) <;> simp [eq_comm]

theorem execInsert_getElem? {cols : List Bytes} {params : List (Nat × String)} {rows : List (List Cell)}
    {stored : List SRow} (h : execInsert cols rows params = some stored) :
    stored.length = rows.length ∧
    ∀ (r : Nat) (srow : SRow), stored[r]? = some srow →
      ∃ cells, rows[r]? = some cells ∧ insertTuple params cols cells = some srow := by
  have hc := Corr.of_mapM h
  refine ⟨hc.1, fun r srow hr => ?_⟩
  obtain ⟨hrs, rfl⟩ := List.getElem?_eq_some_iff.1 hr
  have hrr : r < rows.length := hc.1 ▸ hrs
  exact ⟨rows[r], List.getElem?_eq_getElem hrr, hc.getElem r hrr hrs⟩

/-- the generated inserts are rectangular (`insert_rectangular`, C04.5 in Props/Bind.lean) -/
theorem execInsert_rectangular {cols : List Bytes} {rows : List (List Cell)} {params : List (Nat × String)}
    {stored : List SRow} (h : execInsert cols rows params = some stored) :
    ∀ r ∈ rows, r.length = cols.length := fun _ hr =>
  let ⟨_, _, hx⟩ := (Corr.of_mapM h).mem hr
  (insertTuple_eq_some hx).1

theorem selectRow_insertTuple {params : List (Nat × String)} {cols : List Bytes} {cells : List Cell} {r : SRow}
    (hnd : cols.Nodup) (h : insertTuple params cols cells = some r) :
    selectRow cols r = cells.map (cellValue params) := by
  obtain ⟨_, hk, hv⟩ := insertTuple_eq_some h
  rw [selectRow, ← hk, rowGet_keys (hk ▸ hnd), hv]

theorem selectRow_getElem? (cols : List Bytes) (srow : SRow) (k : Nat) (c : Bytes) (h : cols[k]? = some c) :
    (selectRow cols srow)[k]? = some (rowGet srow c) := by
  simp [selectRow, h]

/-- C17, store half -/
theorem store_roundtrip {cols : List Bytes} {rows : List (List Cell)} {params : List (Nat × String)}
    {stored : List SRow} (hnd : cols.Nodup) (h : execInsert cols rows params = some stored) :
    stored.map (selectRow cols) = rows.map (fun r => r.map (cellValue params)) :=
  ((Corr.of_mapM h).map_eq fun _ _ hx => (selectRow_insertTuple hnd hx).symm).symm

/-- the case of a member left out by omitempty (C04.7): its column is not among the `cols` of the insert -/
theorem unwritten_column_is_null {params : List (Nat × String)} {cols : List Bytes} {cells : List Cell} {r : SRow}
    (h : insertTuple params cols cells = some r) {c : Bytes} (hc : c ∉ cols) : rowGet r c = none := by
  cases hg : rowGet r c with
  | none => rfl
  | some v =>
    exact absurd ((insertTuple_eq_some h).2.1 ▸ List.mem_map_of_mem (f := (·.1)) (mem_of_assoc hg)) hc

example :
    let cols : List Bytes := [#[97], #[98]]
    let rows : List (List Cell) := [[.ph 0, .ph 1], [.ph 0, .ph 2]]
    let params := [(0, "int64:1"), (1, "string:x"), (2, "string:y")]
    (execInsert cols rows params).map (fun st => st.map (selectRow cols)) =
      some [[some "int64:1", some "string:x"], [some "int64:1", some "string:y"]] := by
  decide +kernel

end Sqlair
