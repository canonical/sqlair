/-
  The predicate the scan layer evaluates on the implementation's observation (C06: `holdsC06obs`,
  `SqlairModel/Spec/L3.lean`, evaluated by `Driver/L3.lean`) holds of the scan model's own result, for all inputs.
  The clause "an error raised before the scan leaves the destinations untouched" rests on `scanRow_error_kinds`:
  `Rows.Scan` ends with one of two errors only, so every other error is `ScanArgs`' and nothing was written.
-/
import SqlairModel.Spec.L3
import SqlairProofs.Scan.Main

namespace Sqlair

theorem destEq_refl (a : Dest) : destEq a a = true := by
  unfold destEq
  simp only [Bool.and_eq_true, List.all_eq_true, Bool.or_eq_true, List.contains_iff_mem]
  refine ⟨⟨⟨?_, ?_⟩, ?_⟩, ?_⟩
  · intro p hp; exact Or.inr hp
  · intro p hp; exact Or.inl hp
  · intro p hp; exact hp
  · intro p hp; exact hp

theorem destsEq_refl (l : List Dest) : destsEq l l = true := by
  unfold destsEq
  simp only [Bool.and_eq_true, beq_self_eq_true, true_and, List.all_eq_true]
  intro p hp
  induction l with
  | nil => simp at hp
  | cons a t ih =>
    simp only [List.zip_cons_cons, List.mem_cons] at hp
    rcases hp with h | h
    · subst h; exact destEq_refl a
    · exact ih h

/-- C06: `Rows.Scan` in the model (`scanRow`) ends with the error "conversion" or "row-too-short", no other -/
theorem scanRow_error_kinds (E : ScanEnv) (ts : List Target) (vs : List DV) (dests : List Dest)
    (ps : List Pending) (d' : List Dest) (e : String)
    (h : scanRow E ts vs dests ps = (d', .error e)) : e = "conversion" ∨ e = "row-too-short" :=
  (scanRow_error_mem E ts vs dests ps (congrArg Prod.snd h)).symm

/-- C06: an error of `Get` (`scanGet`) other than "conversion" and "row-too-short" (`preScanErr`) leaves the
    destination list exactly as it was -/
theorem scanGet_preScanErr_untouched (E : ScanEnv) (tt : TypeTable) (outputs : List Loc) (cols : List Bytes)
    (row : List DV) (dests : List Dest)
    (h : preScanErr (scanGet E tt outputs cols row dests).2 = true) :
    (scanGet E tt outputs cols row dests).1 = dests := by
  cases hg : scanGet E tt outputs cols row dests with
  | mk d' oe =>
    rw [hg] at h
    cases oe with
    | none => cases h
    | some e =>
      rcases (scanGet_error_iff ..).mp hg with ⟨_, rfl⟩ | ⟨ts, _, hr⟩
      · rfl
      · rcases scanRow_error_kinds E ts row dests [] d' e hr with rfl | rfl <;> simp [preScanErr] at h

/-- C06: `holdsC06obs`, the predicate the scan layer evaluates on the implementation (error agreement, destinations,
    pre-scan errors leave the destinations untouched), holds of the model's own result `scanGet`, for all inputs -/
theorem holdsC06obs_model (E : ScanEnv) (tt : TypeTable) (outputs : List Loc) (cols : List Bytes)
    (row : List DV) (dests : List Dest) :
    let m := scanGet E tt outputs cols row dests
    holdsC06obs dests m m.2.isSome m.1 = true := by
  intro m
  unfold holdsC06obs
  simp only [beq_self_eq_true, destsEq_refl, Bool.true_and, Bool.or_eq_true, Bool.not_eq_true',
    Bool.and_eq_false_imp]
  by_cases hp : preScanErr m.2 = true
  · right
    have := scanGet_preScanErr_untouched E tt outputs cols row dests hp
    show destsEq dests m.1 = true
    rw [show m.1 = dests from this]
    exact destsEq_refl _
  · left
    intro _
    simpa using hp

/-- the predicate is not vacuous: an implementation that writes a destination although the columns do not fit, or
    that reports no error where the model reports one, fails it -/
example :
    holdsC06obs [{ form := .ptrStruct, tid := 1, fields := [([0], some "a")] }]
      ([{ form := .ptrStruct, tid := 1, fields := [([0], some "a")] }], some "column-missing") true
      [{ form := .ptrStruct, tid := 1, fields := [([0], some "b")] }] = false ∧
    holdsC06obs [{ form := .ptrStruct, tid := 1, fields := [([0], some "a")] }]
      ([{ form := .ptrStruct, tid := 1, fields := [([0], some "a")] }], some "column-missing") false
      [{ form := .ptrStruct, tid := 1, fields := [([0], some "a")] }] = false := by
  decide +kernel

end Sqlair
