/-
  Props/L2Sound: the observation-level predicates of `SqlairModel/Spec/L2.lean`, which the driver
  (`Driver/L2.lean`) evaluates on what the harness observed at the database driver for C01, C02,
  C03, C04, C07 and C08, are theorems of the model: they hold of `modelBindObs pq`
  (`SqlairProofs/L2Sound/Defs.lean`), the observation of a run that behaves exactly like the
  model, for all classifiers, type tables, nodes, samples and arguments.  So an implementation
  that agrees with the model cannot raise a false alarm.  Where a theorem has a hypothesis (a
  bound on the argument trees, a condition on the node list) or a predicate a guard, a
  `…_needs_…` theorem is a run of the model that fails the check without it.  The token predicates
  `holdsC03` and `holdsC05` are not theorems of the model (`Props/L2Tokens.lean`).
-/
import SqlairProofs.L2Sound.Defs
import SqlairProofs.L2Sound.Present
import SqlairProofs.L2Sound.Bytes
import SqlairProofs.L2Sound.Literals
import SqlairProofs.L2Sound.Exact
import SqlairProofs.L2Sound.Agree
import SqlairProofs.L2Sound.Chunks
import SqlairProofs.Props.Fixtures.L2

namespace Sqlair

namespace L2sEx

theorem cleanIn : cleanForTokens segsIn = true := by
  l2s_decide

example : renderSQL pqIn.pieces = bs "SELECT x WHERE a=@sqlair_0 AND b IN (@sqlair_1, @sqlair_2, @sqlair_3)" := by
  rw [l2s_bs_ofList]
  l2s_decide

theorem sqlLit : renderSQL pqLit.pieces = bs "INSERT INTO t (c, d) VALUES (@sqlair_0, 'x y')" := by
  rw [l2s_bs_ofList]
  l2s_decide

example : renderSQL pqLit.pieces = bs "INSERT INTO t (c, d) VALUES (@sqlair_0, 'x y')" := sqlLit

end L2sEx

/-! ## C03, value level: nothing is made up -/

/-- C03 at the level of values, in its weakest form, without fuel and for all typed expressions
    and all arguments: a value handed to the driver is the driver text of a node of one of the
    argument trees; nothing is made up, truncated or converted on the way. -/
theorem c03_present_fuelfree {tt : TypeTable} {tes : List TExpr} {args : List GoVal} {pq : Primed}
    (hb : bindInputs tt tes args = .ok pq) :
    ∀ p ∈ (modelBindObs pq).params, ∃ a ∈ args, ∃ v k, L2sIn v k a ∧ p.2 = v.h.r := by
  intro p hp
  rw [modelBindObs_params, List.mem_map] at hp
  obtain ⟨q, hq, rfl⟩ := hp
  exact l2s_params_from_args hb q hq

/-- `holdsC03present` for arbitrary typed expressions, not only those `bindTypes` produces.  The
    16 is the fuel of `GoVal.texts 16` in the predicate; `l2s_params_in_texts` is the same for
    every fuel. -/
theorem c03_present_bound {tt : TypeTable} {tes : List TExpr} {args : List GoVal} {pq : Primed}
    (hb : bindInputs tt tes args = .ok pq) (hd : args.all (GoVal.l2s_fits 16) = true) :
    holdsC03present args (modelBindObs pq) = true := by
  unfold holdsC03present
  rw [l2s_guard]
  simp only [Bool.false_eq_true, if_false, List.all_eq_true]
  intro p hp
  rw [modelBindObs_params, List.mem_map] at hp
  obtain ⟨q, hq, rfl⟩ := hp
  obtain ⟨a, ha, hmem⟩ := l2s_params_in_texts hb hd q hq
  rw [List.contains_iff_mem, List.mem_flatMap]
  exact ⟨a, ha, hmem⟩

/-- The value-level check of C03 (`holdsC03present`) cannot raise a false alarm on arguments
    that fit the fuel of `GoVal.texts 16` (`hd`: height at most 16; no `.invalid` node, which
    `GoVal.texts` does not list).  Both parts of `hd` are needed: `c03_present_needs_height`,
    `c03_present_needs_valid`. -/
theorem c03_present_model {C : Cls} {tt : TypeTable} {segs : List OSeg} {samples : List (Option Nat)}
    {tes : List TExpr} {args : List GoVal} {pq : Primed}
    (_hp : bindTypes C tt segs samples = .ok tes) (hb : bindInputs tt tes args = .ok pq)
    (hd : args.all (GoVal.l2s_fits 16) = true) :
    holdsC03present args (modelBindObs pq) = true :=
  c03_present_bound hb hd

/-- the same under `valWF`, the well-formedness checker of the no-panic theorems (C18): what
    Go's type system guarantees of every real `reflect.Value`, here of height at most 16 -/
theorem c03_present_model_valWF {C : Cls} {tt : TypeTable} {segs : List OSeg} {samples : List (Option Nat)}
    {tes : List TExpr} {args : List GoVal} {pq : Primed}
    (hp : bindTypes C tt segs samples = .ok tes) (hb : bindInputs tt tes args = .ok pq)
    (hd : args.all (valWF tt 16) = true) :
    holdsC03present args (modelBindObs pq) = true :=
  c03_present_model hp hb (List.all_eq_true.2 fun a ha => l2s_fits_of_valWF 16 a (List.all_eq_true.1 hd a ha))

/-- on `BindExample` (`Props/Fixtures/Bind.lean`): a bulk insert with two rows, a
    single-value column, a literal column, a plain input and an output -/
example : holdsC03present BindExample.args (modelBindObs BindExample.expected) = true :=
  c03_present_bound BindExample.bindInputs_example (by decide +kernel)

example : (modelBindObs BindExample.expected).params =
    [("sqlair_0", "a0"), ("sqlair_2", "b0"), ("sqlair_4", "c"), ("sqlair_1", "a1"), ("sqlair_3", "b1"),
      ("sqlair_5", "c")] ∧
    holdsC03present BindExample.args (modelBindObs BindExample.expected) = true := by decide +kernel

/-- with `bindTypes`: `SELECT x WHERE a=$U.c AND b IN ($S[:])` -/
example : holdsC03present [L2sEx.argU, L2sEx.argS] (modelBindObs L2sEx.pqIn) = true :=
  c03_present_model L2sEx.prepIn L2sEx.bindIn (by decide +kernel)

example : holdsC03present PrepExample.args
    (modelBindObs (match bindInputs PrepExample.tt PrepExample.tes PrepExample.args with
      | .ok pq => pq | .error _ => ⟨[], [], []⟩)) = true := by decide +kernel

/-- the predicate is not trivially true: a made-up value (`"C"` instead of `"c"`), or a
    truncated one, is rejected -/
example : holdsC03present [L2sEx.argU, L2sEx.argS]
    { modelBindObs L2sEx.pqIn with params := [("sqlair_0", "C"), ("sqlair_1", "x"), ("sqlair_2", "y"), ("sqlair_3", "z")] }
    = false := by decide +kernel

example : holdsC03present BindExample.args
    { modelBindObs BindExample.expected with params := [("sqlair_0", "a")] } = false := by decide +kernel

/-! The height bound is needed: `holdsC03present` is false of the model's own observation of
  sixteen structs (`l2sDeepTT`), each embedding the next, the innermost with the field `A` (tag
  `a`), which sits 17 levels deep in `l2sDeepVal 16`;
  `$T.a` is located by `bindInputs`, but `GoVal.texts 16` stops one level above it.
  (`c03_present_fuelfree` holds of this run as of every run.)  The harness stays within the bound:
  its encoder cuts a value tree at depth 12 (`Table.val`, `/verif/harness/internal/desc/desc.go`). -/

theorem c03_present_needs_height :
    bindTypes PrepExample.C l2sDeepTT l2sDeepSegs [some 0] = .ok l2sDeepTes ∧
    bindInputs l2sDeepTT l2sDeepTes [l2sDeepVal 16] = .ok l2sDeepPq ∧
    holdsC03present [l2sDeepVal 16] (modelBindObs l2sDeepPq) = false ∧
    (l2sDeepVal 16).l2s_fits 16 = false ∧ (l2sDeepVal 16).l2s_fits 17 = true :=
  ⟨l2sDeep_prep, l2sDeep_bind, by decide +kernel⟩

/-! "No `.invalid` node" is needed, an artefact of the model: an `.invalid` node inside an
  argument (no real `reflect.Value` has one as a struct field, slice element or map value) is
  located with the text `""` of the default header, which `GoVal.texts` does not list. -/

def l2sInvalidArg : GoVal := .struct { t := 0, zero := false, r := "{U}" } [.invalid]

def l2sInvalidPq : Primed := { pieces := [.inputs 0 1], params := [(0, "")], outputs := [] }

theorem c03_present_needs_valid :
    bindTypes L2sEx.C L2sEx.tt
      [{ kind := .member, raw := #[], types := [{ ty := bs "U", member := bs "c" }] }] [some 0] =
      .ok [.input (.field 0 (bs "U") L2sEx.fc)] ∧
    bindInputs L2sEx.tt [.input (.field 0 (bs "U") L2sEx.fc)] [l2sInvalidArg] = .ok l2sInvalidPq ∧
    holdsC03present [l2sInvalidArg] (modelBindObs l2sInvalidPq) = false :=
  ⟨by rfl, by rfl, by decide +kernel⟩

/-! ## C02 / C04: literal values of an insert are kept byte for byte -/

theorem literals_verbatim_infix {C : Cls} {tt : TypeTable} {segs : List OSeg} {samples : List (Option Nat)}
    {tes : List TExpr} {args : List GoVal} {pq : Primed}
    (hp : bindTypes C tt segs samples = .ok tes) (hb : bindInputs tt tes args = .ok pq) :
    ∀ s ∈ segs, s.kind = .basicInsert → ∀ b, Val.lit b ∈ s.vals →
      ∃ pre post, renderSQL pq.pieces = pre ++ b ++ post := by
  intro s hs hk b hbv
  -- the node's step gives a literal column, the column's `addToQuery` step a piece containing the text
  obtain ⟨_, _, hc⟩ := bindTypes_typed hp
  obtain ⟨e, he, hstep⟩ := hc.mem hs
  obtain ⟨cols, rfl, hl⟩ := hstep.lits hk
  obtain ⟨c, hlit⟩ := hl b hbv
  obtain ⟨pre, post, rfl⟩ := List.append_of_mem he
  obtain ⟨m, q1, q2, _, _, hq, hp', _⟩ := bindInputs_step_at' hb
  obtain ⟨p, hpc, hinf⟩ := l2s_insert_step_literal hq hlit
  rw [renderSQL_eq_concat]
  exact l2s_infix_concat (List.mem_map.2 ⟨p, List.mem_of_getElem? (hp' p hpc), rfl⟩) hinf

/-- C02 ("literal values of an INSERT" are passed through unchanged) and C04 ("or the literal
    written in the query"), as far as `literalsVerbatim` checks them: each literal of a
    `(cols) VALUES (…)` node occurs somewhere in the SQL, byte for byte; the check does not say
    where.  It cannot raise a false alarm; no further hypothesis. -/
theorem literals_verbatim_model {C : Cls} {tt : TypeTable} {segs : List OSeg} {samples : List (Option Nat)}
    {tes : List TExpr} {args : List GoVal} {pq : Primed}
    (hp : bindTypes C tt segs samples = .ok tes) (hb : bindInputs tt tes args = .ok pq) :
    literalsVerbatim segs (modelBindObs pq) = true := by
  unfold literalsVerbatim
  rw [l2s_guard]
  simp only [Bool.false_eq_true, if_false, List.all_eq_true]
  intro s hs
  by_cases hk : s.kind = .basicInsert
  · rw [Bool.or_eq_true]
    right
    rw [List.all_eq_true]
    intro v hv
    cases v with
    | acc a => rfl
    | lit b => exact l2s_findFrom_isSome_of_infix (literals_verbatim_infix hp hb s hs hk b hv)
  · simp [hk]

example : literalsVerbatim L2sEx.segsLit (modelBindObs L2sEx.pqLit) = true :=
  literals_verbatim_model L2sEx.prepLit L2sEx.bindLit

example : (modelBindObs L2sEx.pqLit).sql = bs "INSERT INTO t (c, d) VALUES (@sqlair_0, 'x y')" ∧
    literalsVerbatim L2sEx.segsLit (modelBindObs L2sEx.pqLit) = true :=
  ⟨L2sEx.sqlLit, literals_verbatim_model L2sEx.prepLit L2sEx.bindLit⟩

/-- the predicate is not trivially true: a literal whose blank was dropped is rejected -/
example : literalsVerbatim L2sEx.segsLit
    { modelBindObs L2sEx.pqLit with sql := bs "INSERT INTO t (c, d) VALUES (@sqlair_0, 'xy')" } = false := by
  rw [l2s_bs_ofList]
  l2s_decide

/-! ## C01, exact form for inputs-only statements -/

/-- of `cleanForTokens` only this is used: no bypass chunk starts with a digit -/
theorem c01_exact_match {C : Cls} {tt : TypeTable} {segs : List OSeg} {samples : List (Option Nat)}
    {tes : List TExpr} {args : List GoVal} {pq : Primed}
    (hp : bindTypes C tt segs samples = .ok tes) (hb : bindInputs tt tes args = .ok pq)
    (hio : inputsOnly segs = true)
    (hclean : ∀ s ∈ segs, s.kind = .bypass → isDigitB (s.raw.getD 0 0) = false) :
    matchInputsOnly segs (renderSQL pq.pieces) 0 = true := by
  have := (l2s_matchInputsOnly (l2s_segs_pieces hp hb) #[] hio hclean).1
  rw [renderSQL_eq_concat]
  simpa using this

/-- C01 in exact form (`holdsC01exact`: for statements whose only expressions are member and
    slice inputs the SQL is the bypass chunks verbatim, one placeholder per member, a comma
    separated placeholder list per slice, nothing else) cannot raise a false alarm; no further
    hypothesis.  Outside its guards `inputsOnly` and `cleanForTokens` the predicate is `true` by
    definition; the second guard is needed (`c01_exact_needs_clean`). -/
theorem c01_exact_model {C : Cls} {tt : TypeTable} {segs : List OSeg} {samples : List (Option Nat)}
    {tes : List TExpr} {args : List GoVal} {pq : Primed}
    (hp : bindTypes C tt segs samples = .ok tes) (hb : bindInputs tt tes args = .ok pq) :
    holdsC01exact segs (modelBindObs pq) = true := by
  unfold holdsC01exact
  by_cases hio : inputsOnly segs = true
  · by_cases hcl : cleanForTokens segs = true
    · have hm := c01_exact_match hp hb hio (l2s_clean_bypass hcl)
      simp only [modelBindObs, hio, hcl]
      simpa using hm
    · simp [hcl]
  · simp [hio]

example : holdsC01exact L2sEx.segsIn (modelBindObs L2sEx.pqIn) = true :=
  c01_exact_model L2sEx.prepIn L2sEx.bindIn

example : inputsOnly L2sEx.segsIn = true ∧ cleanForTokens L2sEx.segsIn = true ∧
    matchInputsOnly L2sEx.segsIn (modelBindObs L2sEx.pqIn).sql 0 = true ∧
    holdsC01exact L2sEx.segsIn (modelBindObs L2sEx.pqIn) = true :=
  ⟨by decide, L2sEx.cleanIn,
    c01_exact_match L2sEx.prepIn L2sEx.bindIn (by decide) (l2s_clean_bypass L2sEx.cleanIn),
    c01_exact_model L2sEx.prepIn L2sEx.bindIn⟩

/-- the predicate is not trivially true: a missing separator, a changed bypass chunk and a
    placeholder too many are rejected -/
example : holdsC01exact L2sEx.segsIn
    { modelBindObs L2sEx.pqIn with sql := bs "SELECT x WHERE a=@sqlair_0 AND b IN (@sqlair_1 @sqlair_2, @sqlair_3)" }
    = false := by
  rw [l2s_bs_ofList]
  simp only [holdsC01exact, L2sEx.cleanIn]
  decide +kernel

example : holdsC01exact L2sEx.segsIn
    { modelBindObs L2sEx.pqIn with sql := bs "SELECT x WHERE a=@sqlair_0 and b IN (@sqlair_1, @sqlair_2, @sqlair_3)" }
    = false := by
  rw [l2s_bs_ofList]
  simp only [holdsC01exact, L2sEx.cleanIn]
  decide +kernel

example : holdsC01exact L2sEx.segsIn
    { modelBindObs L2sEx.pqIn with sql := bs "SELECT x WHERE a=@sqlair_0, @sqlair_9 AND b IN (@sqlair_1)" }
    = false := by
  rw [l2s_bs_ofList]
  simp only [holdsC01exact, L2sEx.cleanIn]
  decide +kernel

/-! the `cleanForTokens` guard is needed: after `$U.c` a bypass chunk that starts with a digit
  extends the digit run of the placeholder, and the matcher rejects the model's own SQL
  `@sqlair_09` -/

def l2sDigitSegs : List OSeg := [
  { kind := .member, raw := bs "$U.c", types := [{ ty := bs "U", member := bs "c" }] },
  { kind := .bypass, raw := bs "9" }]

def l2sDigitPq : Primed := { pieces := [.inputs 0 1, .text (bs "9")], params := [(0, "c")], outputs := [] }

theorem c01_exact_needs_clean :
    bindTypes L2sEx.C L2sEx.tt l2sDigitSegs [some 0] = .ok [.input (.field 0 (bs "U") L2sEx.fc), .bypass (bs "9")] ∧
    bindInputs L2sEx.tt [.input (.field 0 (bs "U") L2sEx.fc), .bypass (bs "9")] [L2sEx.argU] = .ok l2sDigitPq ∧
    inputsOnly l2sDigitSegs = true ∧ cleanForTokens l2sDigitSegs = false ∧
    matchInputsOnly l2sDigitSegs (renderSQL l2sDigitPq.pieces) 0 = false ∧
    holdsC01exact l2sDigitSegs (modelBindObs l2sDigitPq) = true :=
  ⟨by rfl, by rfl, by decide +kernel⟩

/-! ## C01 end to end: the bypass chunks in order -/

/-- C01 end to end (`holdsC01e2e`: the bypass chunks occur in the SQL in order, the first as a
    prefix, the last as a suffix, and a query without expressions is sent unchanged) cannot raise
    a false alarm, under two hypotheses.  `hadj`: no two bypass nodes are adjacent; assumed, it is
    not proved that the parser never produces two; needed (`c01_e2e_needs_noAdj`).  `hq`: without
    an expression the query text is the concatenation of the raw texts; true of every parse
    (`concat_spans`). -/
theorem c01_e2e_model {C : Cls} {tt : TypeTable} {segs : List OSeg} {samples : List (Option Nat)}
    {tes : List TExpr} {args : List GoVal} {pq : Primed} {q : Bytes}
    (hp : bindTypes C tt segs samples = .ok tes) (hb : bindInputs tt tes args = .ok pq)
    (hadj : l2s_noAdjBypass segs = true)
    (hq : hasExpr segs = false → q = concatBytes (segs.map (·.raw))) :
    holdsC01e2e q segs (modelBindObs pq) = true := by
  have h1 : chunksInOrder segs (modelBindObs pq).sql 0 false = true := l2s_chunksInOrder_model hp hb hadj
  unfold holdsC01e2e
  rw [h1]
  cases he : hasExpr segs with
  | true => simp [modelBindObs]
  | false =>
    have : renderSQL pq.pieces = q := by
      rw [hq he, renderSQL_eq_concat, l2s_all_bypass_render (bind_pieces hp hb) he]
    simp [this, modelBindObs]

example : holdsC01e2e (bs "SELECT x WHERE a=$U.c AND b IN ($S[:])") L2sEx.segsIn (modelBindObs L2sEx.pqIn) = true :=
  c01_e2e_model L2sEx.prepIn L2sEx.bindIn (by decide) (by decide)

example : chunksInOrder L2sEx.segsIn (modelBindObs L2sEx.pqIn).sql 0 false = true :=
  l2s_chunksInOrder_model L2sEx.prepIn L2sEx.bindIn (by decide)

/-- the second half: a query without expressions is sent unchanged -/
example : holdsC01e2e (bs "SELECT 1") [{ kind := .bypass, raw := bs "SELECT 1" }]
    (modelBindObs { pieces := [.text (bs "SELECT 1")], params := [], outputs := [] }) = true :=
  c01_e2e_model (C := L2sEx.C) (tt := L2sEx.tt) (samples := []) (args := []) (tes := [.bypass (bs "SELECT 1")])
    (by rfl) (by rfl) (by decide) (fun _ => by decide +kernel)

example : holdsC01e2e (bs "SELECT 1") [{ kind := .bypass, raw := bs "SELECT 1" }]
    { prepOk := true, bindOk := true, sql := bs "SELECT 2", mode := "exec", events := 2 } = false := by
  decide +kernel

/-- not trivially true: a changed chunk and a dropped final chunk are rejected -/
example : holdsC01e2e #[] L2sEx.segsIn
    { modelBindObs L2sEx.pqIn with sql := bs "SELECT x WHERE a=@sqlair_0 AND b in (@sqlair_1)" } = false := by
  rw [l2s_bs_ofList]
  decide +kernel

example : holdsC01e2e #[] L2sEx.segsIn
    { modelBindObs L2sEx.pqIn with sql := bs "SELECT x WHERE a=@sqlair_0 AND b IN (@sqlair_1" } = false := by
  rw [l2s_bs_ofList]
  decide +kernel

/-! The adjacency hypothesis is needed, a property of the predicate and not of the model.  Nodes
  `$U.c`, bypass `s`, bypass `X`: the model renders `@sqlair_0sX`; the greedy matcher finds the
  chunk `s` inside the placeholder (offset 1) and then expects `X` at offset 2. -/

def l2sAdjSegs : List OSeg := [
  { kind := .member, raw := bs "$U.c", types := [{ ty := bs "U", member := bs "c" }] },
  { kind := .bypass, raw := bs "s" }, { kind := .bypass, raw := bs "X" }]

def l2sAdjTes : List TExpr := [.input (.field 0 (bs "U") L2sEx.fc), .bypass (bs "s"), .bypass (bs "X")]

def l2sAdjPq : Primed :=
  { pieces := [.inputs 0 1, .text (bs "s"), .text (bs "X")], params := [(0, "c")], outputs := [] }

theorem c01_e2e_needs_noAdj :
    bindTypes L2sEx.C L2sEx.tt l2sAdjSegs [some 0] = .ok l2sAdjTes ∧
    bindInputs L2sEx.tt l2sAdjTes [L2sEx.argU] = .ok l2sAdjPq ∧
    renderSQL l2sAdjPq.pieces = bs "@sqlair_0sX" ∧
    l2s_noAdjBypass l2sAdjSegs = false ∧
    holdsC01e2e (bs "$U.csX") l2sAdjSegs (modelBindObs l2sAdjPq) = false :=
  ⟨by rfl, by rfl, by decide +kernel⟩

/-! ## agreement: the model's observation never differs from the model -/

theorem affected_model {C : Cls} {tt : TypeTable} {segs : List OSeg} {samples : List (Option Nat)}
    {tes : List TExpr} {args : List GoVal} {pq : Primed}
    (hp : bindTypes C tt segs samples = .ok tes) (hb : bindInputs tt tes args = .ok pq) :
    affected (runModel C tt segs samples args) (modelBindObs pq) = [] := by
  rw [l2s_runModel hp hb]
  unfold affected
  simp only [l2s_firstBadPiece_model, l2s_mode_ne_none]
  simp [modelBindObs]

/-- C04 (with C07, C08): for a statement the model prepares and binds, the accept/reject predicates `holdsC07`,
    `holdsC08`, `holdsC04rej` hold of the model's own observation, and `bindAcceptDiffers` reports no difference -/
theorem accept_model {C : Cls} {tt : TypeTable} {segs : List OSeg} {samples : List (Option Nat)}
    {tes : List TExpr} {args : List GoVal} {pq : Primed}
    (hp : bindTypes C tt segs samples = .ok tes) (hb : bindInputs tt tes args = .ok pq) :
    bindAcceptDiffers (runModel C tt segs samples args) (modelBindObs pq) = none ∧
    holdsC07 (runModel C tt segs samples args) (modelBindObs pq) = true ∧
    holdsC08 (runModel C tt segs samples args) (modelBindObs pq) = true ∧
    holdsC04rej (runModel C tt segs samples args) (modelBindObs pq) = true := by
  rw [l2s_runModel hp hb]
  simp [bindAcceptDiffers, holdsC07, holdsC08, holdsC04rej, modelBindObs]

example : affected (runModel L2sEx.C L2sEx.tt L2sEx.segsLit [some 0] [L2sEx.argU]) (modelBindObs L2sEx.pqLit) = [] :=
  affected_model L2sEx.prepLit L2sEx.bindLit

/-- not trivially empty: a changed literal is attributed to C04, a changed value to C03 -/
example : affected (runModel L2sEx.C L2sEx.tt L2sEx.segsLit [some 0] [L2sEx.argU])
    { modelBindObs L2sEx.pqLit with sql := bs "INSERT INTO t (c, d) VALUES (@sqlair_0, 'xy')" } = ["C04"] := by
  rw [l2s_bs_ofList]
  decide +kernel

example : affected (runModel L2sEx.C L2sEx.tt L2sEx.segsIn [some 0, some 1] [L2sEx.argU, L2sEx.argS])
    { modelBindObs L2sEx.pqIn with params := [("sqlair_0", "C"), ("sqlair_1", "x"), ("sqlair_2", "y"), ("sqlair_3", "z")] }
    = ["C03"] := by
  rw [l2s_runModel L2sEx.prepIn L2sEx.bindIn]
  unfold affected
  simp -zeta only [l2s_firstBadPiece_eq _ _ 0 (Nat.zero_le _), List.drop_zero]
  decide +kernel

end Sqlair
