/-
  Props/L2RowsModel: `holdsC04rows` (C04.7, the value at row r, column c of an INSERT expansion) is
  true of the model's own observation, so the check raises no false alarm on an implementation
  that agrees with the model.  For a statement whose only expression is the insert, the values of
  `pq.params` are the rectangle `c04tail_of_paths` / `c04tail_of_grid` (L2Rows/Rows, Grid) assume:
  row-major, one row per element, the kept members in column order, each the text the index path
  (struct rows) or the key (map rows) reaches; the numbering `sqlair_k` is column-major and does
  not matter to the predicate (`c04tail_model`, L2Rows/MapRows.lean).
-/
import SqlairProofs.L2Rows.MapRows
import SqlairProofs.Props.Fixtures.L2

namespace Sqlair

/-- `holdsC04rows_model` for any argument list: the predicate is vacuous unless there is exactly one argument -/
theorem holdsC04rows_model_args {C : Cls} {tt : TypeTable} {segs : List OSeg} {samples : List (Option Nat)}
    {tes : List TExpr} {args : List GoVal} {pq : Primed}
    (hguard : c04rowsGuards tt segs = true) (hwf : ∀ a ∈ args, ValWF tt a)
    (hp : bindTypes C tt segs samples = .ok tes) (hb : bindInputs tt tes args = .ok pq) :
    holdsC04rows C tt segs args (modelBindObs pq) = true := by
  apply holdsC04rows_of_tail
  intro s a arg hf ht harg hkind hmem
  subst harg
  exact c04tail_model hguard (hwf arg List.mem_cons_self) hp hb hf ht hkind hmem

/-- C04.7, no false alarm on the model: under the guards of the driver (`c04rowsGuards`: `embPtrOK tt`,
    no table-qualified written column; both needed, `Props/L2Rows.lean`), `holdsC04rows` is true of
    the observation of every run with one well-formed argument that the model prepares and binds.
    The predicate says something when the only non-bypass node is `(*) VALUES ($T.*)` or
    `(cols) VALUES ($T.*)`, `T` a struct sample and `arg` a `T`, `*T`, `[]T` or `[]*T` (any number of
    rows, omitempty members omitted or not), or `(cols) VALUES ($M.*)`, `M` a map sample and `arg` an
    `M`, `*M`, `[]M` or `[]*M`; for a pointer to a slice and for every other shape of statement it
    is vacuous.  `ValWF` is used for the struct rows only. -/
theorem holdsC04rows_model {C : Cls} {tt : TypeTable} {segs : List OSeg} {samples : List (Option Nat)}
    {tes : List TExpr} {arg : GoVal} {pq : Primed}
    (hguard : c04rowsGuards tt segs = true) (hwf : ValWF tt arg)
    (hp : bindTypes C tt segs samples = .ok tes) (hb : bindInputs tt tes [arg] = .ok pq) :
    holdsC04rows C tt segs [arg] (modelBindObs pq) = true :=
  holdsC04rows_model_args hguard (fun _ h => List.mem_singleton.1 h ▸ hwf) hp hb

/-- the same on `runModel`, which the driver calls (`Driver/L2.lean`) -/
theorem holdsC04rows_runModel {C : Cls} {tt : TypeTable} {segs : List OSeg} {samples : List (Option Nat)}
    {arg : GoVal} {pq : Primed}
    (hguard : c04rowsGuards tt segs = true) (hwf : ValWF tt arg)
    (hb : (runModel C tt segs samples [arg]).bind = .ok pq) :
    holdsC04rows C tt segs [arg] (modelBindObs pq) = true := by
  obtain ⟨tes, hp, hb⟩ := runModel_bind_ok hb
  exact holdsC04rows_model hguard hwf hp hb

namespace L2RowsEx

/-- the omitempty member `b` is zero in every row and left out; the values go row-major, numbered
    column-major (0 2 1 3) -/
example : ∃ pq, (runModel C ttOK segsAst [some 0] [argOmit]).bind = .ok pq ∧
    pq.params = [(0, "a1"), (2, "x1"), (1, "a2"), (3, "x2")] ∧
    holdsC04rows C ttOK segsAst [argOmit] (modelBindObs pq) = true := by
  obtain ⟨pq, h1, h2⟩ := ok_of_toOption_map (f := Primed.params) modelObs_evals.2.2.1
  exact ⟨pq, h1, h2, holdsC04rows_runModel (by decide +kernel)
    (valWF_sound 8 _ (by decide +kernel)) h1⟩

example : ∃ pq, (runModel C ttOK segsCol [some 0] [argFull]).bind = .ok pq ∧
    pq.params = [(0, "x1"), (2, "a1"), (1, "x2"), (3, "a2")] ∧
    holdsC04rows C ttOK segsCol [argFull] (modelBindObs pq) = true := by
  obtain ⟨pq, h1, h2⟩ := ok_of_toOption_map (f := Primed.params) modelObs_evals.2.2.2
  exact ⟨pq, h1, h2, holdsC04rows_runModel (by decide +kernel)
    (valWF_sound 8 _ (by decide +kernel)) h1⟩

/-- rejected: two values of a row exchanged (first and last conjunct), the value of another row in a column,
    a row lost; the fourth observation is the model's -/
example : holdsC04rows C ttOK segsAst [argOmit] (obsOf ["x1", "a1", "a2", "x2"]) = false ∧
    holdsC04rows C ttOK segsAst [argOmit] (obsOf ["a1", "x2", "a2", "x1"]) = false ∧
    holdsC04rows C ttOK segsAst [argOmit] (obsOf ["a1", "x1"]) = false ∧
    holdsC04rows C ttOK segsAst [argOmit] (obsOf ["a1", "x1", "a2", "x2"]) = true ∧
    holdsC04rows C ttOK segsCol [argFull] (obsOf ["x1", "a1", "a2", "x2"]) = false :=
  obsOf_evals.2

/-- `ttOK` (which has `M` and `*M`) with `[]*M` -/
def ttMap : TypeTable := ttOK ++ #[
  { kind := .slice, kindStr := "slice", name := #[], elem := 5 } ]

def mp (kv : List (String × String)) : GoVal :=
  .ptr { t := 5, zero := false, r := "&M" }
    (some (.map { t := 4, zero := false, r := "map" } (some (kv.map fun (k, v) => (bs k, lf v)))))

def segsMap : List OSeg := [
  { kind := .bypass, raw := bs "INSERT INTO t " },
  { kind := .colInsert, raw := bs "(k, j) VALUES ($M.*)", cols := [col "k", col "j"],
    types := [{ ty := bs "M", member := star }] } ]

def argMaps : GoVal :=
  .slice { t := 6, zero := false, r := "[]*M" } [mp [("j", "1"), ("k", "2"), ("l", "3")], mp [("k", "5"), ("j", "4")]]

example : ∃ pq, (runModel C ttMap segsMap [some 4] [argMaps]).bind = .ok pq ∧
    pq.params = [(0, "2"), (2, "1"), (1, "5"), (3, "4")] ∧
    holdsC04rows C ttMap segsMap [argMaps] (modelBindObs pq) = true ∧
    holdsC04rows C ttMap segsMap [argMaps] (obsOf ["2", "1", "4", "5"]) = false := by
  obtain ⟨pq, h1, h2⟩ := ok_of_toOption_map (f := Primed.params)
    (by decide +kernel : (runModel C ttMap segsMap [some 4] [argMaps]).bind.toOption.map Primed.params =
      some [(0, "2"), (2, "1"), (1, "5"), (3, "4")])
  exact ⟨pq, h1, h2, holdsC04rows_runModel (by decide +kernel) (valWF_sound 8 _ (by decide +kernel)) h1,
    by decide +kernel⟩

end L2RowsEx

end Sqlair
