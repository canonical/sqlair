/-
  Props/DriverClauses: the clauses the drivers evaluate beside the predicates of the specification
  (`SqlairModel/Spec/DriverClauses.lean`: `rowsIffOutputs` (C05.10), `lostProps`, `inputsCounted` (C03),
  `nilEmbAccepted` (C04); `cancelReported` (C14) of `Spec/L4Cancel.lean`) raise no false alarm: the runtime clauses are
  true of every observation whose returns are the reference machine's, the bind-layer clauses of the model's own
  observation.  The two clauses about driver events, `txEndFaithful` and `getReadsFirstOnly`, need the runtime model:
  Props/L4Clauses.lean.
-/
import SqlairProofs.L2Sound.MemberInputs
import SqlairModel.Spec.DriverClauses
import SqlairModel.Spec.L4Cancel
import SqlairProofs.Props.Fixtures.L2

namespace Sqlair

namespace L2RowsEx
open Rt

def cancelCase : Case :=
  { hasOutputs := true, path := "db", ctx := "bg", nrows := 2, badRow := none, fetchErrAt := none,
    closeErr := false, prepareErr := false, runErr := false, txEnd := "", finishers := [], concurrent := 0,
    op := "iter", dests := "", calls := ["next", "close", "close"], cancelAt := some 1 }

def cancelPred : Pred := { returns := ["true", "ctx", "ctx"] }

def cancelObs (rs : List String) : Obs :=
  { returns := rs, events := [], eventCtx := [], eventConn := [], inUse := 0,
    openRows := 0, doubleClose := 0, closedUse := 0, stored := 0, priorKept := true, appended := [],
    outcome := "", finish := [], winners := 0 }

end L2RowsEx

open Rt in
/-- C14, the clause `cancelReported` (Spec/L4Cancel.lean, evaluated by `Driver/Rt.lean`: a cancellation that ends
    iteration early is reported by Close): when every predicted Close returns `ctx`, every observed Close does, and
    `ctx ≠ ""`. -/
theorem cancelReported_of_returns_eq (c : Case) (p : Pred) (o : Obs) (h : o.returns = p.returns) :
    cancelReported c p o = true := by
  unfold cancelReported
  split
  · rfl
  · simp only
    split
    · rfl
    · rename_i hw
      simp only [Bool.or_eq_true, Bool.not_eq_true', not_or, Bool.not_eq_false] at hw
      unfold closeResults
      rw [h]
      rw [List.all_eq_true] at hw ⊢
      intro r hr
      have := hw.2 r hr
      simp only [beq_iff_eq] at this
      subst this
      decide

namespace L2RowsEx
open Rt

example : cancelReported cancelCase cancelPred (cancelObs ["true", "ctx", "ctx"]) = true :=
  cancelReported_of_returns_eq _ _ _ rfl

example : cancelReported cancelCase cancelPred (cancelObs ["true", "ctx", "ctx"]) = true ∧
    cancelReported cancelCase cancelPred (cancelObs ["true", "", "ctx"]) = false := by
  decide +kernel

end L2RowsEx

open Rt in
/-- C05.10 as Get and Run show it (`rowsIffOutputs`, evaluated by `Driver/Rt.lean`) -/
theorem rowsIffOutputs_of_returns_eq (c : Case) (p : Pred) (o : Obs) (h : o.returns = p.returns) :
    rowsIffOutputs c p o = true := by
  unfold rowsIffOutputs
  split
  · rfl
  · simp only [h]
    generalize p.returns.headD "" = x
    by_cases h1 : x = "noRows"
    · subst h1; decide
    · have : (x == "noRows") = false := by simpa using h1
      simp [this]

open Rt L2RowsEx in
example : rowsIffOutputs { cancelCase with op := "get" } { returns := ["noRows"] } (cancelObs ["noRows"]) = true ∧
    rowsIffOutputs { cancelCase with op := "get" } { returns := ["noRows"] } (cancelObs [""]) = false :=
  ⟨rowsIffOutputs_of_returns_eq _ _ _ rfl, by decide +kernel⟩

/-- `lostProps` is the `lost` of `Driver/L2.lean`: the properties blamed when Prepare rejects a statement the
    model prepares -/
theorem lostProps_nil (m : BindModel) (o : BindObs) (segs : List OSeg)
    (h : o.prepOk = true ∨ ∃ e, m.prep = .error e) : lostProps m o segs = [] := by
  unfold lostProps
  rcases h with h | ⟨e, h⟩
  · simp [h]
  · simp [h]

/-- C03: `lostProps` (the properties blamed when Prepare rejects a statement the model prepares) is empty on the
    model's own observation, which always has Prepare accept -/
theorem lostProps_model (m : BindModel) (pq : Primed) (segs : List OSeg) :
    lostProps m (modelBindObs pq) segs = [] :=
  lostProps_nil m _ segs (.inl rfl)

example : lostProps { prep := .ok [], bind := .error "x" } { prepOk := false } L2RowsEx.segsAst = ["C04"] ∧
    lostProps { prep := .ok [], bind := .error "x" } { prepOk := true } L2RowsEx.segsAst = [] := by
  decide +kernel

/-- C03, the clause `inputsCounted` of `Driver/L2.lean`: when all expressions of the statement are member inputs the
    model sends exactly one argument per expression -/
theorem inputsCounted_model {C : Cls} {tt : TypeTable} {segs : List OSeg} {samples : List (Option Nat)}
    {tes : List TExpr} {args : List GoVal} {pq : Primed}
    (hp : bindTypes C tt segs samples = .ok tes) (hb : bindInputs tt tes args = .ok pq) :
    inputsCounted (segs.filter (·.kind != .bypass)) (modelBindObs pq) = true := by
  unfold inputsCounted
  split
  · rfl
  · rename_i hc
    simp only [l2s_guard pq, Bool.false_or, Bool.not_eq_true', Bool.not_eq_false] at hc
    obtain ⟨infos, _, hms⟩ := bindTypes_memSegs hc hp
    obtain ⟨m, qb, _, hq, _, rfl⟩ := bindInputs_ok_unfold hb
    obtain ⟨ps, h1, h2, _⟩ := foldlM_memSegs (chk := fun _ => true) hms (by intros; rfl) {} qb hq
    simp [modelBindObs_params, h1, h2]

namespace L2RowsEx

example : ∃ tes pq, bindTypes C ttOK segsMem [some 0] = .ok tes ∧ bindInputs ttOK tes [row "a1" "x1" "b1"] = .ok pq ∧
    pq.params = [(0, "a1"), (1, "x1")] ∧
    inputsCounted (segsMem.filter (·.kind != .bypass)) (modelBindObs pq) = true ∧
    inputsCounted (segsMem.filter (·.kind != .bypass)) (obsOf ["a1"]) = false := by
  obtain ⟨pq, hb, h3⟩ := ok_of_toOption_map (f := Primed.params) run_segsMem
  obtain ⟨tes, h1, h2⟩ := runModel_bind_ok hb
  exact ⟨tes, pq, h1, h2, h3, inputsCounted_model h1 h2, by decide +kernel⟩

end L2RowsEx

/-- `nilEmbAccepted`, which the driver counts against C04 when an insert is accepted although the model rejects it for
    a member behind a nil embedded pointer, is false of the model's own observation, for every statement the model
    prepares and binds, and (next theorem) of every observation that rejects the arguments: an implementation that
    agrees with the model never trips it. -/
theorem nilEmbAccepted_model {C : Cls} {tt : TypeTable} {segs : List OSeg} {samples : List (Option Nat)}
    {tes : List TExpr} {args : List GoVal} {pq : Primed}
    (hp : bindTypes C tt segs samples = .ok tes) (hb : bindInputs tt tes args = .ok pq) :
    nilEmbAccepted (runModel C tt segs samples args) (modelBindObs pq) segs = false := by
  rw [l2s_runModel hp hb]
  simp [nilEmbAccepted]

/-- C04: whatever the model says, an observation in which the arguments are rejected (`bindOk = false`) never trips
    the clause `nilEmbAccepted` -/
theorem nilEmbAccepted_of_rejected (m : BindModel) (o : BindObs) (segs : List OSeg) (h : o.bindOk = false) :
    nilEmbAccepted m o segs = false := by
  simp [nilEmbAccepted, h]

example : nilEmbAccepted (runModel L2sEx.C L2sEx.tt L2sEx.segsLit [some 0] [L2sEx.argU]) (modelBindObs L2sEx.pqLit) L2sEx.segsLit = false :=
  nilEmbAccepted_model L2sEx.prepLit L2sEx.bindLit

end Sqlair
