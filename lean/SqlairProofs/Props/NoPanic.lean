/-
  Props/NoPanic: property C18 ("no panic, crash or hang on any query text, type sample or argument
  value") for the reflection-based code of the model (`SqlairModel/Types.lean`, `Bind.lean`, `Scan.lean`);
  the parser's share is `c18_parse_no_fuel` (Props/Parser.lean), the runtime's `getAll_fuel_never_exhausted`
  (Props/Runtime.lean) and `reachable_WF` (Runtime/Protocol.lean).

  Where Go's `reflect` primitives would panic the model returns an error class `"panic-…"`;
  `getStructFields` reports fuel exhaustion (the model's stand-in for a hang / stack overflow) as
  `"fuel"`.  The theorems: on well-formed values (`ValWF`: the shape the type descriptors promise, i.e.
  what Go's type system guarantees of every real value), with locators produced by `bindTypes`, no panic
  class is ever returned, and `getStructFields` never runs out of fuel.  The lemmas are in
  `SqlairProofs/NoPanic/*.lean`.  The statements spell a panic class as `e.startsWith "panic-" = true`, the
  body of `IsPanic` (`NoPanic/Defs.lean`), so that they read without that vocabulary.
-/
import SqlairProofs.NoPanic.Locate
import SqlairProofs.NoPanic.FieldType
import SqlairProofs.NoPanic.Prepare

namespace Sqlair

/-! The fixture:
  `type T struct { A int `db:"a"`; *U; B string `db:"b"` }`, `type U struct { C int `db:"c"` }`;
  nodes `$T.a`, `$T.c`, `$T.b`. -/
namespace NoPanicExample

def C : Cls := { letter := fun c => (97 ≤ c && c ≤ 122) || (65 ≤ c && c ≤ 90), digit := fun c => 48 ≤ c && c ≤ 57 }

def tt : TypeTable := #[
  { kind := .struct, kindStr := "struct", name := #[84], fields := [                 -- 0: T
      { name := #[65], tag := #[97], exported := true, anon := false, ty := 3 },
      { name := #[85], tag := #[], exported := true, anon := true, ty := 2 },
      { name := #[66], tag := #[98], exported := true, anon := false, ty := 4 }] },
  { kind := .struct, kindStr := "struct", name := #[85], fields := [                 -- 1: U
      { name := #[67], tag := #[99], exported := true, anon := false, ty := 3 }] },
  { kind := .ptr, kindStr := "ptr", name := #[], elem := 1 },                        -- 2: *U
  { kind := .other, kindStr := "int", name := #[105, 110, 116] },                    -- 3: int
  { kind := .string, kindStr := "string", name := #[115] } ]                         -- 4: string

def fa : SField := { name := #[65], tag := #[97], omitEmpty := false, index := [0] }
def fc : SField := { name := #[67], tag := #[99], omitEmpty := false, index := [1, 0] }
def fb : SField := { name := #[66], tag := #[98], omitEmpty := false, index := [2] }

theorem fields_T : getStructFields C tt (tt.size + 1) [] 0 = .ok [fa, fc, fb] := by rfl

def segs : List OSeg := [
  { kind := .member, raw := #[], types := [{ ty := #[84], member := #[97] }] },
  { kind := .member, raw := #[], types := [{ ty := #[84], member := #[99] }] },
  { kind := .member, raw := #[], types := [{ ty := #[84], member := #[98] }] } ]

def tes : List TExpr := [.input (.field 0 #[84] fa), .input (.field 0 #[84] fc), .input (.field 0 #[84] fb)]

theorem bindTypes_example : bindTypes C tt segs [some 0] = .ok tes := by rfl

def int (r : String) : GoVal := .leaf { t := 3, zero := false, r := r }
def str (r : String) : GoVal := .leaf { t := 4, zero := false, r := r }

/-- `T{A: 1, U: nil, B: "x"}` -/
def vNil : GoVal := .struct { t := 0, zero := false, r := "" }
  [int "1", .ptr { t := 2, zero := true, r := "nil" } none, str "x"]

/-- `T{A: 1, U: &U{C: 7}, B: "x"}` -/
def vSet : GoVal := .struct { t := 0, zero := false, r := "" }
  [int "1", .ptr { t := 2, zero := false, r := "&U" } (some (.struct { t := 1, zero := false, r := "" } [int "7"])), str "x"]

/-- ill-formed: a leaf where the struct `U` is promised behind the embedded pointer -/
def vBad : GoVal := .struct { t := 0, zero := false, r := "" }
  [int "1", .ptr { t := 2, zero := false, r := "&U" } (some (.leaf { t := 1, zero := false, r := "?" })), str "x"]

/-- ill-formed: a leaf of the struct type `T` -/
def vBad2 : GoVal := .leaf { t := 0, zero := false, r := "?" }

theorem vNil_wf : valWF tt 3 vNil = true := by decide
theorem vSet_wf : valWF tt 4 vSet = true := by decide
theorem vBad_not_wf : ∀ fuel, fuel ≤ 10 → valWF tt fuel vBad = false := by decide
theorem vBad2_not_wf : ¬ ValWF tt vBad2 := by
  intro h; cases h with
  | leaf _ hk => revert hk; decide

theorem bindInputs_vSet :
    bindInputs tt tes [vSet] = .ok
      { pieces := [.inputs 0 1, .inputs 1 1, .inputs 2 1],
        params := [(0, "1"), (1, "7"), (2, "x")], outputs := [] } := by rfl
theorem bindInputs_vNil : bindInputs tt tes [vNil] = .error "nil-embedded-pointer" := by rfl
/-- the hypothesis `ValWF` is needed: on ill-formed values the model does panic -/
theorem bindInputs_vBad : bindInputs tt tes [vBad] = .error "panic-field-of-non-struct" := by rfl
theorem bindInputs_vBad2 : bindInputs tt tes [vBad2] = .error "panic-field-of-non-struct" := by rfl
theorem panic_isPanic : "panic-field-of-non-struct".startsWith "panic-" = true := by decide +kernel

end NoPanicExample

/-! A second fixture, with bulk slices, maps and interfaces:
  `type T struct { A int `db:"a"` }`, `[]*T`, `type M map[string]any`, `type S []int`;
  nodes `(*) VALUES ($T.*, $M.k)` and `$S[:]`. -/
namespace NoPanicExample2

def tt : TypeTable := #[
  { kind := .struct, kindStr := "struct", name := #[84], fields := [                 -- 0: T
      { name := #[65], tag := #[97], exported := true, anon := false, ty := 3 }] },
  { kind := .ptr, kindStr := "ptr", name := #[], elem := 0 },                        -- 1: *T
  { kind := .slice, kindStr := "slice", name := #[], elem := 1 },                    -- 2: []*T
  { kind := .other, kindStr := "int", name := #[105, 110, 116] },                    -- 3: int
  { kind := .string, kindStr := "string", name := #[115] },                          -- 4: string
  { kind := .iface, kindStr := "interface", name := #[] },                           -- 5: any
  { kind := .map, kindStr := "map", name := #[77], key := 4, elem := 5 },            -- 6: M
  { kind := .slice, kindStr := "slice", name := #[83], elem := 3 } ]                 -- 7: S

def segs : List OSeg := [
  { kind := .astInsert, raw := #[], types := [{ ty := #[84], member := star }, { ty := #[77], member := #[107] }] },
  { kind := .slice, raw := #[], types := [{ ty := #[83], member := #[] }] } ]

def int (r : String) : GoVal := .leaf { t := 3, zero := false, r := r }
def rowT (r : String) : GoVal := .ptr { t := 1, zero := false, r := "&T" } (some (.struct { t := 0, zero := false, r := "" } [int r]))

def args : List GoVal := [
  .slice { t := 2, zero := false, r := "" } [rowT "1", rowT "2"],
  .map { t := 6, zero := false, r := "" } (some [(#[107], .iface { t := 5, zero := false, r := "5" } (some (int "5")))]),
  .slice { t := 7, zero := false, r := "" } [int "8", int "9"] ]

/-- a nil `*T` among the rows: still well-formed, rejected without panic -/
def argsNil : List GoVal := [
  .slice { t := 2, zero := false, r := "" } [rowT "1", .ptr { t := 1, zero := true, r := "nil" } none],
  args[1]!, args[2]! ]

theorem args_wf : ∀ a ∈ args ++ argsNil, valWF tt 5 a = true := by decide

theorem bind_example : ∃ tes, bindTypes NoPanicExample.C tt segs [some 0, some 6, some 7] = .ok tes ∧
    (bindInputs tt tes args).isOk = true ∧
    bindInputs tt tes argsNil = .error "nil-pointer-in-slice" := ⟨_, rfl, rfl, rfl⟩

end NoPanicExample2

/-- the L2 driver (`Driver/L2.lean`) runs the Boolean `valWF` on every argument the harness generates;
    it decides `ValWF` (`NoPanic/Defs.lean`), the hypothesis of the theorems below -/
theorem valWF_spec {tt : TypeTable} {v : GoVal} : ValWF tt v ↔ ∃ fuel, valWF tt fuel v = true :=
  ⟨ValWF.complete, fun ⟨n, h⟩ => valWF_sound n v h⟩

open NoPanicExample in
example : ValWF tt vNil ∧ ValWF tt vSet := ⟨valWF_spec.2 ⟨3, vNil_wf⟩, valWF_spec.2 ⟨4, vSet_wf⟩⟩

open NoPanicExample2 in
example : ∀ a ∈ args ++ argsNil, ValWF tt a := fun a ha => valWF_spec.2 ⟨5, args_wf a ha⟩

/-- the invariant of the recursion (`getStructFields_no_fuel_inv`, `NoPanic/Fuel.lean`): `visiting` holds
    pairwise distinct ids of the table and the fuel exceeds the number of remaining ids -/
theorem getStructFields_no_fuel_visiting (C : Cls) (tt : TypeTable) (fuel : Nat) (visiting : List Nat)
    (tid : Nat) (hnd : visiting.Nodup) (hlt : ∀ x ∈ visiting, x < tt.size)
    (hfuel : tt.size < fuel + visiting.length) :
    getStructFields C tt fuel visiting tid ≠ .error "fuel" :=
  fun h => getStructFields_no_fuel_inv fuel visiting tid hnd hlt hfuel "fuel" h rfl

/-- C18, no hang on a type sample: with the fuel `getArgInfo` passes, `getStructFields` never reports
    fuel exhaustion; the `visiting` set (as in arginfo.go) ends an embedding cycle as
    "recursive-embedding" first.  No hypothesis on the table or the id: an id outside the table has the
    default descriptor without fields, so `visiting` only ever holds ids of the table. -/
theorem getStructFields_no_fuel (C : Cls) (tt : TypeTable) (tid : Nat) :
    getStructFields C tt (tt.size + 1) [] tid ≠ .error "fuel" :=
  getStructFields_no_fuel_visiting C tt (tt.size + 1) [] tid List.nodup_nil (fun _ hx => nomatch hx)
    (Nat.lt_succ_self _)

/-- `getStructFields_no_fuel` for a well-formed table and an id inside it; neither hypothesis is used -/
theorem getStructFields_no_fuel_of_tableWF (C : Cls) (tt : TypeTable) (_ : TableWF tt) (tid : Nat)
    (_ : tid < tt.size) : getStructFields C tt (tt.size + 1) [] tid ≠ .error "fuel" :=
  getStructFields_no_fuel C tt tid

theorem getArgInfo_no_fuel (C : Cls) (tt : TypeTable) (tid : Nat) : getArgInfo C tt tid ≠ .error "fuel" :=
  fun h => getArgInfo_errIn (P := (· ≠ "fuel")) (by simp) (by simp)
    (fun _ hs hf => getStructFields_no_fuel C tt tid (hf ▸ hs)) (.inr (by simp)) "fuel" h rfl

example :
    let tt : TypeTable := #[{ kind := .struct, kindStr := "struct", name := #[84], fields := [
      { name := #[84], tag := #[], exported := true, anon := true, ty := 0 }] }]
    getStructFields NoPanicExample.C tt (tt.size + 1) [] 0 = .error "recursive-embedding" ∧ TableWF tt :=
  ⟨by rfl, by decide⟩

example : TableWF NoPanicExample.tt := by decide

/-- C18 for Prepare: the errors of `bindTypes` form the closed list `prepareErrorClasses`
    (`NoPanic/Prepare.lean`) -/
theorem bindTypes_error_classes {C : Cls} {tt : TypeTable} {segs : List OSeg} {samples : List (Option Nat)} :
    ∀ e, bindTypes C tt segs samples = .error e → e ∈ prepareErrorClasses :=
  bindTypes_errIn

/-- C18 for Prepare, without hypothesis: `bindTypes` never hangs on a type sample (no "fuel"), never
    panics and never reports the internal error of `getArgInfo` for an unsupported kind, since
    `generateArgInfo` has checked the kind before -/
theorem bindTypes_no_panic {C : Cls} {tt : TypeTable} {segs : List OSeg} {samples : List (Option Nat)} :
    ∀ e, bindTypes C tt segs samples = .error e →
      e ≠ "fuel" ∧ ¬ (e.startsWith "panic-" = true) ∧ e ≠ "internal-unsupported-type" :=
  fun e he => prepareErrorClasses_ok e (bindTypes_errIn e he)

example :
    let tt : TypeTable := #[
      { kind := .struct, kindStr := "struct", name := #[84], fields := [
          { name := #[85], tag := #[], exported := true, anon := true, ty := 3 }] },     -- 0: T {*U}
      { kind := .struct, kindStr := "struct", name := #[85], fields := [
          { name := #[84], tag := #[], exported := true, anon := true, ty := 2 }] },     -- 1: U {*T}
      { kind := .ptr, kindStr := "ptr", name := #[], elem := 0 },                        -- 2: *T
      { kind := .ptr, kindStr := "ptr", name := #[], elem := 1 } ]                       -- 3: *U
    bindTypes NoPanicExample.C tt [] [some 0] = .error "recursive-embedding" := by rfl

/-- C18: on a well-formed value of the struct type `tid`, following the index path of a field that
    `getStructFields` computed for `tid`, `fieldByIndex` (`reflect.Value.FieldByIndexErr`) finds a
    well-formed value or stops at a nil embedded pointer: no index out of range, no field of a
    non-struct. -/
theorem fieldByIndex_no_panic {C : Cls} {tt : TypeTable} {fuel : Nat} {vis : List Nat} {tid : Nat}
    {fields : List SField} {f : SField} {v : GoVal}
    (hg : getStructFields C tt fuel vis tid = .ok fields) (hf : f ∈ fields)
    (hk : (tt.get tid).kind = .struct) (hv : ValWF tt v) (ht : v.tid = tid) :
    (∃ r, fieldByIndex v f.index true = .ok r ∧ ValWF tt r) ∨
      fieldByIndex v f.index true = .error "nil-embedded-pointer" :=
  fieldByIndex_wf hv ht hk (getStructFields_paths _ _ _ _ hg f hf)

theorem fieldByIndex_no_panic' {C : Cls} {tt : TypeTable} {fuel : Nat} {vis : List Nat} {tid : Nat}
    {fields : List SField} {f : SField} {v : GoVal}
    (hg : getStructFields C tt fuel vis tid = .ok fields) (hf : f ∈ fields)
    (hk : (tt.get tid).kind = .struct) (hv : ValWF tt v) (ht : v.tid = tid) :
    ∀ e, fieldByIndex v f.index true = .error e → ¬ (e.startsWith "panic-" = true) :=
  fun e he => inputErrorClasses_not_panic e
    (fieldByIndex_errIn hv ht hk (getStructFields_paths _ _ _ _ hg f hf) e he)

open NoPanicExample in
example : (∃ r, fieldByIndex vSet fc.index true = .ok r ∧ ValWF tt r) ∨
    fieldByIndex vSet fc.index true = .error "nil-embedded-pointer" :=
  fieldByIndex_no_panic fields_T (by simp) rfl (valWF_spec.2 ⟨4, vSet_wf⟩) rfl

open NoPanicExample in
example : fieldByIndex vSet fc.index true = .ok (int "7") ∧
    fieldByIndex vNil fc.index true = .error "nil-embedded-pointer" ∧
    fieldByIndex vBad fc.index true = .error "panic-field-of-non-struct" := ⟨rfl, rfl, rfl⟩

/-- the hypothesis `hk` (the type is a struct type) is needed: in an ill-formed table whose
    non-struct type 0 has a field list, `getStructFields` computes the path `[0]`, a leaf is a
    well-formed value of type 0, and `fieldByIndex` panics -/
example :
    let tt : TypeTable := #[{ kind := .other, kindStr := "int", name := #[84], fields := [
      { name := #[65], tag := #[97], exported := true, anon := false, ty := 0 }] }]
    let v : GoVal := .leaf { t := 0, zero := false, r := "" }
    getStructFields NoPanicExample.C tt 2 [] 0 = .ok [{ name := #[65], tag := #[97], omitEmpty := false, index := [0] }] ∧
    valWF tt 1 v = true ∧ fieldByIndex v [0] true = .error "panic-field-of-non-struct" :=
  ⟨by rfl, by decide, by rfl⟩

/-- what `bindTypes` guarantees of all its locators (inputs, insert columns, outputs): `Loc.GenOK`
    extends `Loc.kindOK` (`bindTypes_inputLocs_kindOK`) by "a field locator carries a field that
    `getStructFields` computed for its struct type", so its index path exists in every well-formed value -/
theorem bindTypes_locs_genOK' {C : Cls} {tt : TypeTable} {segs : List OSeg}
    {samples : List (Option Nat)} {tes : List TExpr} (h : bindTypes C tt segs samples = .ok tes) :
    ∀ te ∈ tes, ∀ l ∈ te.allLocs, l.GenOK C tt :=
  bindTypes_locs_genOK h

/-- C18: on an argument table built by `validateInputs` from `ValWF` arguments, an input locator of a
    prepared statement makes `locateParams` fail only with a class of the closed list `inputErrorClasses`
    (`locateParams_errIn`), none of which is a panic class -/
theorem locateParams_no_panic {C : Cls} {tt : TypeTable} {segs : List OSeg}
    {samples : List (Option Nat)} {tes : List TExpr} (h : bindTypes C tt segs samples = .ok tes)
    {args : List GoVal} {m : TypeToValue} (hwf : ∀ a ∈ args, ValWF tt a)
    (hm : validateInputs tt args [] = .ok m) {te : TExpr} (hte : te ∈ tes) {l : Loc}
    (hl : l ∈ te.inputLocs) : ∀ e, locateParams tt m l = .error e → ¬ (e.startsWith "panic-" = true) :=
  fun e he => inputErrorClasses_not_panic e (locateParams_errIn (validateInputs_ttvWF (fun a ha => .inr (hwf a ha)) hm)
    (bindTypes_inputLocs_genOK h te hte l hl) e he)

open NoPanicExample in
example : ∀ e, locateParams tt [(0, vNil)] (.field 0 #[84] fc) = .error e → ¬ (e.startsWith "panic-" = true) :=
  locateParams_no_panic bindTypes_example (args := [vNil])
    (List.forall_mem_singleton.2 (valWF_spec.2 ⟨3, vNil_wf⟩))
    rfl (te := .input (.field 0 #[84] fc)) (by simp [tes]) (by simp [TExpr.inputLocs])

/-- C18 for Query: on well-formed arguments, some of which may be untyped nils (`ArgWF`: `.invalid` is
    not `ValWF`), the errors of `bindInputs` on a prepared statement form the closed list
    `inputErrorClasses`, with no panic and no internal class in it -/
theorem bindInputs_error_classes_args {C : Cls} {tt : TypeTable} {segs : List OSeg}
    {samples : List (Option Nat)} {tes : List TExpr} (h : bindTypes C tt segs samples = .ok tes)
    {args : List GoVal} (hwf : ∀ a ∈ args, ArgWF tt a) :
    ∀ e, bindInputs tt tes args = .error e → e ∈ inputErrorClasses ∧ ¬ (e.startsWith "panic-" = true) ∧ ¬ isInternal e := by
  intro e he
  have hc := bindInputs_closed (bindTypes_inputLocs_genOK h) (bindTypes_noSlice h) hwf e he
  exact ⟨hc, inputErrorClasses_not_panic e hc, inputErrorClasses_not_internal e hc⟩

open NoPanicExample in
example : bindInputs tt tes [.invalid] = .error "nil-argument" ∧ ArgWF tt .invalid := ⟨rfl, Or.inl rfl⟩

/-- C18 for Query: `BindInputs` of a prepared statement never panics on arguments that have the shape of
    their types (`ValWF`, so no untyped nil; with those, `bindInputs_error_classes_args`) -/
theorem bindInputs_no_panic {C : Cls} {tt : TypeTable} {segs : List OSeg}
    {samples : List (Option Nat)} {tes : List TExpr} (h : bindTypes C tt segs samples = .ok tes)
    {args : List GoVal} (hwf : ∀ a ∈ args, ValWF tt a) :
    ∀ e, bindInputs tt tes args = .error e → ¬ (e.startsWith "panic-" = true) :=
  fun e he => (bindInputs_error_classes_args h (fun a ha => .inr (hwf a ha)) e he).2.1

/-- the second half needs no well-formedness: `no_internal_error` (Props/Bind.lean) -/
theorem bindInputs_no_panic_no_internal {C : Cls} {tt : TypeTable} {segs : List OSeg}
    {samples : List (Option Nat)} {tes : List TExpr} (h : bindTypes C tt segs samples = .ok tes)
    {args : List GoVal} (hwf : ∀ a ∈ args, ValWF tt a) :
    ∀ e, bindInputs tt tes args = .error e → ¬ (e.startsWith "panic-" = true) ∧ ¬ isInternal e :=
  fun e he => (bindInputs_error_classes_args h (fun a ha => .inr (hwf a ha)) e he).2

open NoPanicExample in
example : ∀ e, bindInputs tt tes [vNil] = .error e → ¬ (e.startsWith "panic-" = true) :=
  bindInputs_no_panic bindTypes_example
    (List.forall_mem_singleton.2 (valWF_spec.2 ⟨3, vNil_wf⟩))

open NoPanicExample2 in
example : ∀ tes, bindTypes NoPanicExample.C tt segs [some 0, some 6, some 7] = .ok tes →
    ∀ e, bindInputs tt tes argsNil = .error e → ¬ (e.startsWith "panic-" = true) :=
  fun _ h => bindInputs_no_panic h
    (fun a ha => valWF_spec.2 ⟨5, args_wf a (List.mem_append_right _ ha)⟩)

open NoPanicExample in
/-- the theorem applies to the accepted argument too (there its premise is never met),
    and the hypothesis `ValWF` cannot be dropped: `bindInputs_vBad` -/
example : (bindInputs tt tes [vSet]).isOk = true ∧
    bindInputs tt tes [vNil] = .error "nil-embedded-pointer" ∧
    (∃ e, bindInputs tt tes [vBad] = .error e ∧ e.startsWith "panic-" = true) :=
  ⟨by rw [bindInputs_vSet]; rfl, bindInputs_vNil, _, bindInputs_vBad, panic_isPanic⟩

/-! Scan side: `scanGet` is a total function returning a pair and the scan model has no panic class;
  the degenerate value treated here is the type id 0 of `fieldTypeOf`'s `none` branch. -/

/-- C18, scan side: for every locator of a prepared statement (in particular its outputs), whatever the
    destinations, the field type that `locateTarget` reports was found by following existing fields of
    the table: `fieldTypeOf` never took its degenerate branch (`none` in `fieldTypeOf?`; where that answers
    `some t`, the `fieldTypeOf` of the model answers `t`: `fieldTypeOf?_eq_some`, NoPanic/FieldType.lean) -/
theorem locateTarget_no_oob {C : Cls} {tt : TypeTable} {segs : List OSeg}
    {samples : List (Option Nat)} {tes : List TExpr} (h : bindTypes C tt segs samples = .ok tes)
    {te : TExpr} (hte : te ∈ tes) {l : Loc} (hl : l ∈ te.allLocs)
    (dests : List Dest) (m : List (Nat × Nat)) {di fty : Nat} {idx : List Nat} {cat : FieldCat}
    (ht : locateTarget tt dests m l = .ok (.field di idx fty cat)) :
    fieldTypeOf? tt l.tid idx true = some fty :=
  locateTarget_field_type (bindTypes_locs_genOK h te hte l hl) ht

/-- `&T.c` into a `*T` destination whose embedded pointer is set -/
example :
    let tt := NoPanicExample.tt
    let l : Loc := .field 0 #[84] NoPanicExample.fc
    let d : Dest := { form := .ptrStruct, tid := 0, fields := [([0], some "1"), ([1, 0], some "7"), ([2], some "x")] }
    locateTarget tt [d] [(0, 0)] l = .ok (.field 0 [1, 0] 3 .proxy) ∧
    fieldTypeOf? tt 0 [1, 0] true = some 3 ∧
    -- a path that leaves the table hits the degenerate branch
    fieldTypeOf? tt 0 [1, 5] true = none ∧ fieldTypeOf tt 0 [1, 5] true = 0 :=
  ⟨by rfl, by rfl, by rfl, by rfl⟩

end Sqlair
