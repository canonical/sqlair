/-
  Props/Fixtures/Bind: the concrete statements, type tables and arguments on which the bind-layer
  theorems of `Props/*.lean` are instantiated, with the evaluations of the model on them that several of
  these files start from.
-/
import SqlairModel.Bind

namespace Sqlair

/-! Hand-built typed expressions (no `bindTypes`: the type table lists no fields) over the structs `T` (`A`
  tagged `a`, `B` tagged `b,omitempty`) and `U` (`C` tagged `c`): the text `I`; an insert with the columns
  `a`, `b` as `$T.*` gives them, `c` as an explicit `$U.c` and `d` with the literal `1`; the input `$U.c`;
  the output columns `c` into `U.C` and `a` into `T.A`.  With `[]T{{"a0", "b0"}, {"a1", "b1"}}` and `U{"c"}`
  the insert has two rows and the driver gets six arguments. -/
namespace BindExample

def tt : TypeTable := #[
  { kind := .struct, kindStr := "struct", name := #[84] },            -- 0: T
  { kind := .slice, kindStr := "slice", name := #[], elem := 0 },     -- 1: []T
  { kind := .struct, kindStr := "struct", name := #[85] },            -- 2: U
  { kind := .string, kindStr := "string", name := #[] } ]             -- 3: string

def fa : SField := { name := #[65], tag := #[97], omitEmpty := false, index := [0] }
def fb : SField := { name := #[66], tag := #[98], omitEmpty := true, index := [1] }
def fc : SField := { name := #[67], tag := #[99], omitEmpty := false, index := [0] }

def tes : List TExpr := [
  .bypass #[73],
  .insert [.insert (.field 0 #[84] fa) #[97] false, .insert (.field 0 #[84] fb) #[98] false,
           .insert (.field 2 #[85] fc) #[99] true, .literal #[100] #[49]],
  .input (.field 2 #[85] fc),
  .output [(#[99], .field 2 #[85] fc), (#[97], .field 0 #[84] fa)] ]

def row (a b : String) : GoVal :=
  .struct { t := 0, zero := false, r := "" }
    [.leaf { t := 3, zero := false, r := a }, .leaf { t := 3, zero := false, r := b }]

def args : List GoVal := [
  .slice { t := 1, zero := false, r := "" } [row "a0" "b0", row "a1" "b1"],
  .struct { t := 2, zero := false, r := "" } [.leaf { t := 3, zero := false, r := "c" }] ]

def expected : Primed :=
  { pieces := [.text #[73],
      .insert [#[97], #[98], #[99], #[100]]
        [[.ph 0, .ph 2, .ph 4, .lit #[49]], [.ph 1, .ph 3, .ph 4, .lit #[49]]],
      .inputs 5 1,
      .outputs 0 [#[99], #[97]]],
    params := [(0, "a0"), (2, "b0"), (4, "c"), (1, "a1"), (3, "b1"), (5, "c")],
    outputs := [.field 2 #[85] fc, .field 0 #[84] fa] }

theorem bindInputs_example : bindInputs tt tes args = .ok expected := by rfl

end BindExample

/-! A successful Prepare and Query, for the theorems that assume `bindTypes`.  The type table has the struct
  `T` (fields `A` tagged `a`, `B` tagged `b,omitempty`), `[]T`, the struct `U` (field `C` tagged `c`) and
  `string`; the nodes are the text `I`, `(*) VALUES ($T.*, $U.c)`, `$U.c` and `&U.*`; the samples are `T`
  and `U`; the arguments are those of `BindExample`. -/
namespace PrepExample

def C : Cls := { letter := fun c => (97 ≤ c && c ≤ 122) || (65 ≤ c && c ≤ 90), digit := fun c => 48 ≤ c && c ≤ 57 }

def tt : TypeTable := #[
  { kind := .struct, kindStr := "struct", name := #[84], fields := [
      { name := #[65], tag := #[97], exported := true, anon := false, ty := 3 },
      { name := #[66], tag := #[98, 44, 111, 109, 105, 116, 101, 109, 112, 116, 121], exported := true, anon := false, ty := 3 }] },
  { kind := .slice, kindStr := "slice", name := #[], elem := 0 },
  { kind := .struct, kindStr := "struct", name := #[85], fields := [
      { name := #[67], tag := #[99], exported := true, anon := false, ty := 3 }] },
  { kind := .string, kindStr := "string", name := #[] } ]

def segs : List OSeg := [
  { kind := .bypass, raw := #[73] },
  { kind := .astInsert, raw := #[], types := [{ ty := #[84], member := star }, { ty := #[85], member := #[99] }] },
  { kind := .member, raw := #[], types := [{ ty := #[85], member := #[99] }] },
  { kind := .output, raw := #[], types := [{ ty := #[85], member := star }] } ]

def samples : List (Option Nat) := [some 0, some 2]

def fa : SField := { name := #[65], tag := #[97], omitEmpty := false, index := [0] }
def fb : SField := { name := #[66], tag := #[98], omitEmpty := true, index := [1] }
def fc : SField := { name := #[67], tag := #[99], omitEmpty := false, index := [0] }

def tes : List TExpr := [
  .bypass #[73],
  .insert [.insert (.field 0 #[84] fa) #[97] false, .insert (.field 0 #[84] fb) #[98] false,
           .insert (.field 2 #[85] fc) #[99] true],
  .input (.field 2 #[85] fc),
  .output [(#[99], .field 2 #[85] fc)] ]

theorem bindTypes_example : bindTypes C tt segs samples = .ok tes := by rfl

def row (a b : String) : GoVal :=
  .struct { t := 0, zero := false, r := "" }
    [.leaf { t := 3, zero := false, r := a }, .leaf { t := 3, zero := false, r := b }]

def args : List GoVal := [
  .slice { t := 1, zero := false, r := "" } [row "a0" "b0", row "a1" "b1"],
  .struct { t := 2, zero := false, r := "" } [.leaf { t := 3, zero := false, r := "c" }] ]

theorem bindInputs_example : ∃ pq, bindInputs tt tes args = .ok pq ∧ pq.params.length = 6 := ⟨_, rfl, rfl⟩

end PrepExample

/-! Rejected inserts over `T`, `[]T`, `U`, `[]U`: the columns `a`, `b` (omitempty) of `T` and `c` of `U` as an
  asterisk gives them, `colBx` the `b` of an explicit `$T.b`; `rowT a bz` has a zero `B` when `bz` holds. -/
namespace RejectExample

def tt : TypeTable := #[
  { kind := .struct, kindStr := "struct", name := #[84] },            -- 0: T
  { kind := .slice, kindStr := "slice", name := #[], elem := 0 },     -- 1: []T
  { kind := .struct, kindStr := "struct", name := #[85] },            -- 2: U
  { kind := .string, kindStr := "string", name := #[] },              -- 3: string
  { kind := .slice, kindStr := "slice", name := #[], elem := 2 } ]    -- 4: []U

def fa : SField := { name := #[65], tag := #[97], omitEmpty := false, index := [0] }
def fb : SField := { name := #[66], tag := #[98], omitEmpty := true, index := [1] }
def fc : SField := { name := #[67], tag := #[99], omitEmpty := false, index := [0] }

def colA : TCol := .insert (.field 0 #[84] fa) #[97] false
def colB : TCol := .insert (.field 0 #[84] fb) #[98] false
def colBx : TCol := .insert (.field 0 #[84] fb) #[98] true
def colC : TCol := .insert (.field 2 #[85] fc) #[99] false

def rowT (a : String) (bz : Bool) : GoVal :=
  .struct { t := 0, zero := false, r := "" }
    [.leaf { t := 3, zero := false, r := a }, .leaf { t := 3, zero := bz, r := "b" }]
def rowU : GoVal := .struct { t := 2, zero := false, r := "" } [.leaf { t := 3, zero := false, r := "c" }]
def sliceT (els : List GoVal) : GoVal := .slice { t := 1, zero := false, r := "" } els
def sliceU (els : List GoVal) : GoVal := .slice { t := 4, zero := false, r := "" } els

theorem mismatched : bindInputs tt [.insert [colA, colC]]
    [sliceT [rowT "x" false, rowT "y" false], sliceU [rowU, rowU, rowU]] =
    .error "mismatched-bulk-lengths" := rfl

end RejectExample

end Sqlair
