/-
  `parseNodes` and `parseError`: the views of a run of `parse` that `decide` can compare with a literal
  (`Except` has no `DecidableEq`); the parser-level examples of `Props/*` are stated in them.
-/
import SqlairModel.Parser

namespace Sqlair

def parseNodes (E : Env) : Option (List (SegKind × Nat × Nat)) :=
  match parse E with
  | .ok segs => some (segs.map fun s => (s.kind, s.a, s.b))
  | .error _ => none

def parseError (E : Env) : Option PErr :=
  match parse E with
  | .ok _ => none
  | .error e => some e

theorem parse_of_parseError {E : Env} {e : PErr} (h : parseError E = some e) : parse E = .error e := by
  unfold parseError at h
  cases hp : parse E with
  | ok segs => rw [hp] at h; cases h
  | error e' => rw [hp] at h; exact congrArg _ (Option.some.inj h)

theorem parse_of_parseNodes {E : Env} {l : List (SegKind × Nat × Nat)} (h : parseNodes E = some l) :
    ∃ segs, parse E = .ok segs ∧ segs.map (fun s => (s.kind, s.a, s.b)) = l := by
  unfold parseNodes at h
  cases hp : parse E with
  | error e => rw [hp] at h; cases h
  | ok segs => rw [hp] at h; exact ⟨segs, rfl, Option.some.inj h⟩

end Sqlair
