/-
  Props/Fixtures/L2: the concrete statements, type tables, arguments and observations on which the
  theorems about the predicates of the harness (`Props/L2*.lean`) are instantiated, with the
  kernel evaluations of the model and of `holdsC04rows` on them that more than one of these files
  starts from.
-/
import SqlairProofs.L2Sound.Defs
import SqlairModel.Spec.L2Rows
import SqlairProofs.Props.Fixtures.Bind

namespace Sqlair

/-! ## a member and a slice input, an insert with a literal, over `type U struct { C string "c" }`, `type S []string`, `string` -/
namespace L2sEx

def C : Cls := PrepExample.C

def tt : TypeTable := #[
  { kind := .struct, kindStr := "struct", name := bs "U", fields := [
      { name := bs "C", tag := bs "c", exported := true, anon := false, ty := 2 }] },
  { kind := .slice, kindStr := "slice", name := bs "S", elem := 2 },
  { kind := .string, kindStr := "string", name := #[] } ]

def fc : SField := { name := bs "C", tag := bs "c", omitEmpty := false, index := [0] }

def leaf (s : String) : GoVal := .leaf { t := 2, zero := false, r := s }
def argU : GoVal := .struct { t := 0, zero := false, r := "{U}" } [leaf "c"]
def argS : GoVal := .slice { t := 1, zero := false, r := "[S]" } [leaf "x", leaf "y", leaf "z"]

/-- `SELECT x WHERE a=$U.c AND b IN ($S[:])` -/
def segsIn : List OSeg := [
  { kind := .bypass, raw := bs "SELECT x WHERE a=" },
  { kind := .member, raw := bs "$U.c", types := [{ ty := bs "U", member := bs "c" }] },
  { kind := .bypass, raw := bs " AND b IN (" },
  { kind := .slice, raw := bs "$S[:]", types := [{ ty := bs "S", member := #[] }] },
  { kind := .bypass, raw := bs ")" } ]

def tesIn : List TExpr := [
  .bypass (bs "SELECT x WHERE a="), .input (.field 0 (bs "U") fc), .bypass (bs " AND b IN ("),
  .input (.slice 1 (bs "S")), .bypass (bs ")") ]

def pqIn : Primed :=
  { pieces := [.text (bs "SELECT x WHERE a="), .inputs 0 1, .text (bs " AND b IN ("), .inputs 1 3,
      .text (bs ")")],
    params := [(0, "c"), (1, "x"), (2, "y"), (3, "z")],
    outputs := [] }

theorem prepIn : bindTypes C tt segsIn [some 0, some 1] = .ok tesIn := by rfl
theorem bindIn : bindInputs tt tesIn [argU, argS] = .ok pqIn := by rfl

def segsLit : List OSeg := [
  { kind := .bypass, raw := bs "INSERT INTO t " },
  { kind := .basicInsert, raw := bs "(c, d) VALUES ($U.c, 'x y')",
    cols := [{ table := #[], column := bs "c", func := false }, { table := #[], column := bs "d", func := false }],
    vals := [.acc { ty := bs "U", member := bs "c" }, .lit (bs "'x y'")] } ]

def tesLit : List TExpr := [
  .bypass (bs "INSERT INTO t "),
  .insert [.insert (.field 0 (bs "U") fc) (bs "c") true, .literal (bs "d") (bs "'x y'")] ]

def pqLit : Primed :=
  { pieces := [.text (bs "INSERT INTO t "), .insert [bs "c", bs "d"] [[.ph 0, .lit (bs "'x y'")]]],
    params := [(0, "c")],
    outputs := [] }

theorem prepLit : bindTypes C tt segsLit [some 0] = .ok tesLit := by rfl
theorem bindLit : bindInputs tt tesLit [argU] = .ok pqLit := by rfl

end L2sEx

/-! ## a member 16 structs deep: `T0` embedding `T1` … embedding `T15 { A string "a" }`

  All sixteen are named `T` in the table: `$T.a` with the sample `some i` and the value
  `l2sDeepVal (16 - i)` is about `Ti`. -/

def l2sDeepTT : TypeTable :=
  ((List.range 15).map fun i =>
    ({ kind := .struct, kindStr := "struct", name := bs "T", fields := [
        { name := bs "E", tag := #[], exported := true, anon := true, ty := i + 1 }] } : TypeDesc)).toArray ++
  #[{ kind := .struct, kindStr := "struct", name := bs "T", fields := [
        { name := bs "A", tag := bs "a", exported := true, anon := false, ty := 16 }] },
    { kind := .string, kindStr := "string", name := #[] }]

def l2sDeepVal : Nat → GoVal
  | 0 => .leaf { t := 16, zero := false, r := "deep" }
  | n + 1 => .struct { t := 15 - n, zero := false, r := "{}" } [l2sDeepVal n]

def l2sDeepSegs : List OSeg := [{ kind := .member, raw := bs "$T.a", types := [{ ty := bs "T", member := bs "a" }] }]

def l2sDeepTes : List TExpr :=
  [.input (.field 0 (bs "T") { name := bs "A", tag := bs "a", omitEmpty := false,
                               index := [0, 0, 0, 0, 0, 0, 0, 0, 0, 0, 0, 0, 0, 0, 0, 0] })]

def l2sDeepPq : Primed := { pieces := [.inputs 0 1], params := [(0, "deep")], outputs := [] }

theorem l2sDeep_prep : bindTypes PrepExample.C l2sDeepTT l2sDeepSegs [some 0] = .ok l2sDeepTes := by rfl

theorem l2sDeep_bind : bindInputs l2sDeepTT l2sDeepTes [l2sDeepVal 16] = .ok l2sDeepPq := by rfl

/-! ## `SELECT &Q.* FROM t` over a struct whose one column tag is a parameter -/

def l2sTagTT (tag : String) : TypeTable := #[
  { kind := .struct, kindStr := "struct", name := bs "Q", fields := [
      { name := bs "F", tag := bs tag, exported := true, anon := false, ty := 1 }] },
  { kind := .string, kindStr := "string", name := #[] } ]

def l2sTagSegs : List OSeg := [
  { kind := .bypass, raw := bs "SELECT " },
  { kind := .output, raw := bs "&Q.*", types := [{ ty := bs "Q", member := bs "*" }] },
  { kind := .bypass, raw := bs " FROM t" } ]

def l2sTagPq (tag : String) : Primed :=
  { pieces := [.text (bs "SELECT "), .outputs 0 [bs tag], .text (bs " FROM t")], params := [],
    outputs := [.field 0 (bs "Q") { name := bs "F", tag := bs tag, omitEmpty := false, index := [0] }] }

/-! ## rows: `INSERT … VALUES ($T.*)` over `[]T` with an embedded struct and an omitempty member -/
namespace L2RowsEx

def C : Cls := PrepExample.C

/-- `type T struct { A string "a"; E; B string "b,omitempty" }`, `[]T`, `string`,
    `type E struct { X string "x" }`, `type M map[string]string`, `*M`,
    `type T2 struct { *M; A string "a" }`, `type U struct { B string "b"; A string "a" }` -/
def tt : TypeTable := #[
  { kind := .struct, kindStr := "struct", name := bs "T", fields := [
      { name := bs "A", tag := bs "a", exported := true, anon := false, ty := 2 },
      { name := bs "E", tag := #[], exported := true, anon := true, ty := 3 },
      { name := bs "B", tag := bs "b,omitempty", exported := true, anon := false, ty := 2 }] },
  { kind := .slice, kindStr := "slice", name := #[], elem := 0 },
  { kind := .string, kindStr := "string", name := #[] },
  { kind := .struct, kindStr := "struct", name := bs "E", fields := [
      { name := bs "X", tag := bs "x", exported := true, anon := false, ty := 2 }] },
  { kind := .map, kindStr := "map", name := bs "M", elem := 2, key := 2 },
  { kind := .ptr, kindStr := "ptr", name := #[], elem := 4 },
  { kind := .struct, kindStr := "struct", name := bs "T2", fields := [
      { name := bs "M", tag := #[], exported := true, anon := true, ty := 5 },
      { name := bs "A", tag := bs "a", exported := true, anon := false, ty := 2 }] },
  { kind := .struct, kindStr := "struct", name := bs "U", fields := [
      { name := bs "B", tag := bs "b", exported := true, anon := false, ty := 2 },
      { name := bs "A", tag := bs "a", exported := true, anon := false, ty := 2 }] } ]

/-- the same table without `T2` and `U` (so that `embPtrOK` holds) -/
def ttOK : TypeTable := tt.extract 0 6

def fa : SField := { name := bs "A", tag := bs "a", omitEmpty := false, index := [0] }
def fx : SField := { name := bs "X", tag := bs "x", omitEmpty := false, index := [1, 0] }
def fb : SField := { name := bs "B", tag := bs "b", omitEmpty := true, index := [2] }

def lf (s : String) : GoVal := .leaf { t := 2, zero := s == "", r := s }
def row (a x b : String) : GoVal :=
  .struct { t := 0, zero := false, r := "{T}" } [lf a, .struct { t := 3, zero := false, r := "{E}" } [lf x], lf b]
def bulk (rows : List GoVal) : GoVal := .slice { t := 1, zero := false, r := "[]T" } rows

def col (c : String) (t : String := "") : Col := { table := bs t, column := bs c, func := false }

def segsAst : List OSeg := [
  { kind := .bypass, raw := bs "INSERT INTO t " },
  { kind := .astInsert, raw := bs "(*) VALUES ($T.*)", cols := [col "*"], types := [{ ty := bs "T", member := star }] } ]

def segsCol : List OSeg := [
  { kind := .bypass, raw := bs "INSERT INTO t " },
  { kind := .colInsert, raw := bs "(x, a) VALUES ($T.*)", cols := [col "x", col "a"],
    types := [{ ty := bs "T", member := star }] } ]

def argFull : GoVal := bulk [row "a1" "x1" "b1", row "a2" "x2" "b2"]
def argOmit : GoVal := bulk [row "a1" "x1" "", row "a2" "x2" ""]

def argT2 : GoVal :=
  .struct { t := 6, zero := false, r := "{T2}" }
    [.ptr { t := 5, zero := false, r := "&M" } (some (.map { t := 4, zero := false, r := "map" } (some [(bs "a", lf "from the map")]))),
     lf "from the field"]

def modelObs (tt : TypeTable) (segs : List OSeg) (samples : List (Option Nat)) (args : List GoVal) : Option BindObs :=
  match (runModel C tt segs samples args).bind with
  | .ok pq => some (modelBindObs pq)
  | .error _ => none

def obsOf (vals : List String) : BindObs :=
  { prepOk := true, bindOk := true, mode := "exec", events := 2,
    params := (List.range vals.length).zip vals |>.map fun (i, v) => (s!"sqlair_{i}", v) }

/-- the three runs in one kernel evaluation; `Props/L2Rows.lean` and `Props/L2RowsModel.lean` take the
    conjuncts -/
theorem modelObs_evals :
    ((modelObs ttOK segsAst [some 0] [argFull]).map (·.params.map (·.2)) = some ["a1", "b1", "x1", "a2", "b2", "x2"] ∧
     (modelObs ttOK segsAst [some 0] [argOmit]).map (·.params.map (·.2)) = some ["a1", "x1", "a2", "x2"] ∧
     (modelObs ttOK segsCol [some 0] [argFull]).map (·.params.map (·.2)) = some ["x1", "a1", "x2", "a2"]) ∧
    ((modelObs ttOK segsAst [some 0] [argFull]).map (holdsC04rows C ttOK segsAst [argFull]) = some true ∧
     (modelObs ttOK segsAst [some 0] [argOmit]).map (holdsC04rows C ttOK segsAst [argOmit]) = some true ∧
     (modelObs ttOK segsCol [some 0] [argFull]).map (holdsC04rows C ttOK segsCol [argFull]) = some true) ∧
    ((runModel C ttOK segsAst [some 0] [argOmit]).bind.toOption.map Primed.params =
       some [(0, "a1"), (2, "x1"), (1, "a2"), (3, "x2")] ∧
     (runModel C ttOK segsCol [some 0] [argFull]).bind.toOption.map Primed.params =
       some [(0, "x1"), (2, "a1"), (1, "x2"), (3, "a2")]) := by
  decide +kernel

/-- likewise, on hand-made observations -/
theorem obsOf_evals :
    (holdsC04rows C ttOK segsAst [argFull] (obsOf ["a1", "x1", "b1", "a2", "b2", "x2"]) = false ∧
    holdsC04rows C ttOK segsAst [argFull] (obsOf ["a1", "b1", "x1"]) = false ∧
    holdsC04rows C ttOK segsAst [argFull] (obsOf ["a2", "b2", "x2", "a1", "b1", "x1"]) = false ∧
    holdsC04rows C ttOK segsCol [argFull] (obsOf ["x1", "a1", "x2", "a1"]) = false ∧
    holdsC04rows C ttOK segsCol [argFull] (obsOf ["a1", "x1", "a2", "x2"]) = false ∧
    holdsC04rows C ttOK segsAst [argFull] (obsOf ["a1", "b1", "x1", "a2", "b2", "x2"]) = true) ∧
    (holdsC04rows C ttOK segsAst [argOmit] (obsOf ["x1", "a1", "a2", "x2"]) = false ∧
    holdsC04rows C ttOK segsAst [argOmit] (obsOf ["a1", "x2", "a2", "x1"]) = false ∧
    holdsC04rows C ttOK segsAst [argOmit] (obsOf ["a1", "x1"]) = false ∧
    holdsC04rows C ttOK segsAst [argOmit] (obsOf ["a1", "x1", "a2", "x2"]) = true ∧
    holdsC04rows C ttOK segsCol [argFull] (obsOf ["x1", "a1", "a2", "x2"]) = false) := by
  decide +kernel

/-- `SELECT 1 WHERE a=$T.a AND x=$T.x` -/
def segsMem : List OSeg := [
  { kind := .bypass, raw := bs "SELECT 1 WHERE a=" },
  { kind := .member, raw := bs "$T.a", types := [{ ty := bs "T", member := bs "a" }] },
  { kind := .bypass, raw := bs " AND x=" },
  { kind := .member, raw := bs "$T.x", types := [{ ty := bs "T", member := bs "x" }] } ]

theorem run_segsMem : (runModel C ttOK segsMem [some 0] [row "a1" "x1" "b1"]).bind.toOption.map Primed.params =
    some [(0, "a1"), (1, "x1")] := by decide +kernel

end L2RowsEx

end Sqlair
