/-
  Props/Typed: acceptance by Prepare (C07) and by Query (C08) stated declaratively (`WellTyped`, `ArgsOK`)
  and proved equivalent, in both directions, to the executable model `SqlairModel/Bind.lean`, for all type
  tables, nodes, samples, typed expressions and arguments.  The specifications and the lemmas are in
  `SqlairProofs/Typed/*.lean`.  The specifications are `Prop`s built from ∀/∃/membership over nodes, samples
  and arguments plus simple projections, with two exceptions: the struct case of `SampleInfo` is
  "`getStructFields` succeeds with these fields", whose success `StructOK` characterises; `Accepts` inside
  `ArgsOK` (Bind/Accept.lean) is built from Boolean transcriptions of the checks of `validateInputs`.
  The second half of C07 (running a prepared statement never reports an internal error) is
  `no_internal_error`, Props/Bind.lean.
-/
import SqlairProofs.Typed.Reading
import SqlairProofs.Typed.Struct
import SqlairProofs.Typed.Args
import SqlairProofs.Props.Fixtures.Bind

namespace Sqlair

/-! The fixture:
  `type T struct { A string `db:"a"`; B string `db:"b"` }`, `type M map[string]string`, `type S []string`,
  `type R struct { *R }`; the nodes are written as the query fragments they stand for. -/

namespace TypedExample

def C : Cls := { letter := fun c => (97 ≤ c && c ≤ 122) || (65 ≤ c && c ≤ 90), digit := fun c => 48 ≤ c && c ≤ 57 }

def tt : TypeTable := #[
  { kind := .struct, kindStr := "struct", name := #[84], fields := [
      { name := #[65], tag := #[97], exported := true, anon := false, ty := 3 },
      { name := #[66], tag := #[98], exported := true, anon := false, ty := 3 }] },   -- 0: T
  { kind := .map, kindStr := "map", name := #[77], key := 3, elem := 3 },              -- 1: M
  { kind := .slice, kindStr := "slice", name := #[83], elem := 3 },                    -- 2: S
  { kind := .string, kindStr := "string", name := #[] },                               -- 3: string
  { kind := .ptr, kindStr := "ptr", name := #[], elem := 0 },                          -- 4: *T
  { kind := .struct, kindStr := "struct", name := #[82], fields := [
      { name := #[82], tag := #[], exported := true, anon := true, ty := 6 }] },       -- 5: R embeds *R
  { kind := .ptr, kindStr := "ptr", name := #[], elem := 5 } ]                         -- 6: *R

def fa : SField := { name := #[65], tag := #[97], omitEmpty := false, index := [0] }
def fb : SField := { name := #[66], tag := #[98], omitEmpty := false, index := [1] }

def infoT : ArgInfo := .struct 0 #[84] [fa, fb] [#[97], #[98]]
def infoM : ArgInfo := .map 1 #[77]
def infoS : ArgInfo := .slice 2 #[83]

def infos : List (Bytes × ArgInfo) := [(#[84], infoT), (#[77], infoM)]

/-- `(*) VALUES ($T.*, $M.k)` -/
def insertStar : OSeg :=
  { kind := .astInsert, raw := #[], types := [{ ty := #[84], member := star }, { ty := #[77], member := #[107] }] }
/-- `&T.a` -/
def outTa : OSeg := { kind := .output, raw := #[], types := [{ ty := #[84], member := #[97] }] }
/-- `$T.a` -/
def inTa : OSeg := { kind := .member, raw := #[], types := [{ ty := #[84], member := #[97] }] }
/-- `$S[:]` -/
def inS : OSeg := { kind := .slice, raw := #[], types := [{ ty := #[83], member := #[] }] }
/-- `(a, x) VALUES ($T.*, $M.*)`: column `a` provided by `T`, column `x` by the asterisk map -/
def colIns : OSeg :=
  { kind := .colInsert, raw := #[],
    cols := [{ table := #[], column := #[97], func := false }, { table := #[], column := #[120], func := false }],
    types := [{ ty := #[84], member := star }, { ty := #[77], member := star }] }
/-- `(a) VALUES ($T.*, $T.a)`: the explicit `$T.a` comes last and assigns: one provider -/
def colInsAssign : OSeg :=
  { kind := .colInsert, raw := #[], cols := [{ table := #[], column := #[97], func := false }],
    types := [{ ty := #[84], member := star }, { ty := #[84], member := #[97] }] }
/-- `(a) VALUES ($T.a, $T.*)`: the asterisk comes last and appends: two providers -/
def colInsAppend : OSeg :=
  { kind := .colInsert, raw := #[], cols := [{ table := #[], column := #[97], func := false }],
    types := [{ ty := #[84], member := #[97] }, { ty := #[84], member := star }] }

end TypedExample

open TypedExample

/-- lets the `example`s below evaluate the executable side of an equivalence (`decide +kernel`) and
    carry the answer across it -/
instance {ε α : Type} (x : Except ε α) : Decidable (∃ a, x = .ok a) :=
  match x with
  | .ok a => isTrue ⟨a, rfl⟩
  | .error _ => isFalse nofun

/-- C07: `GenerateArgInfo` (arginfo.go) accepts exactly the sample lists without a nil
    sample whose types are named structs, maps or slices (so not pointers) with pairwise distinct names,
    each valid by itself (`SampleInfo`). -/
theorem generateArgInfo_ok_iff {C : Cls} {tt : TypeTable} {samples : List (Option Nat)}
    {infos : List (Bytes × ArgInfo)} :
    generateArgInfo C tt samples [] = .ok infos ↔ SamplesOK C tt samples infos :=
  generateArgInfo_nil_ok_iff

theorem TypedExample.generateArgInfo_eq : generateArgInfo C tt [some 0, some 1] [] = .ok infos := by rfl
theorem TypedExample.getStructFields_T : getStructFields C tt (tt.size + 1) [] 0 = .ok [fa, fb] := by rfl

example : generateArgInfo C tt [some 0, some 1] [] = .ok infos := generateArgInfo_eq
example : SamplesOK C tt [some 0, some 1] infos := generateArgInfo_ok_iff.1 generateArgInfo_eq
/-- a direct proof of the declarative side (not through the theorem) -/
example : SamplesOK C tt [some 0, some 1] infos :=
  ⟨[0, 1], rfl, by decide +kernel, by decide +kernel, rfl,
    List.forall_mem_cons.2 ⟨⟨rfl, .inr (.inr ⟨rfl, _, getStructFields_T, by decide +kernel, by rfl⟩)⟩,
      List.forall_mem_cons.2 ⟨⟨rfl, .inl ⟨rfl, rfl, rfl⟩⟩, nofun⟩⟩⟩
/-- rejected: a nil sample, a pointer sample, the same name twice, an embedding cycle -/
example : ¬ ∃ infos, SamplesOK C tt [some 0, none] infos :=
  mt (Exists.imp fun _ => generateArgInfo_ok_iff.2) (by decide +kernel)
example : ¬ ∃ infos, SamplesOK C tt [some 4] infos :=
  mt (Exists.imp fun _ => generateArgInfo_ok_iff.2) (by decide +kernel)
example : ¬ ∃ infos, SamplesOK C tt [some 0, some 0] infos :=
  mt (Exists.imp fun _ => generateArgInfo_ok_iff.2) (by decide +kernel)
example : ¬ ∃ infos, SamplesOK C tt [some 5] infos :=
  mt (Exists.imp fun _ => generateArgInfo_ok_iff.2) (by decide +kernel)

/-- C07, struct samples: the field analysis `getStructFields` (arginfo.go) succeeds iff on every
    embedding path from the type no struct occurs twice (no embedding cycle) and every struct on it has
    only exported tagged fields, whose tags parse (`StructOK`).  This makes the struct case of `SampleInfo`
    declarative (`sampleInfo_struct_iff`). -/
theorem getStructFields_ok_iff_structOK {C : Cls} {tt : TypeTable} {tid : Nat} :
    (∃ fs, getStructFields C tt (tt.size + 1) [] tid = .ok fs) ↔ StructOK C tt tid := by
  -- the call `getArgInfo` makes: fuel for every type, nothing visited yet
  rw [getStructFields_ok_iff _ _ _ List.nodup_nil (List.forall_mem_nil _) (Nat.le_add_left _ _)]
  simp only [List.append_nil, StructOK]

theorem sampleInfo_struct_iff {C : Cls} {tt : TypeTable} {tid : Nat} (hk : (tt.get tid).kind = .struct) :
    (∃ info, SampleInfo C tt tid info) ↔
      StructOK C tt tid ∧ ∀ fields, getStructFields C tt (tt.size + 1) [] tid = .ok fields →
        (fields.map (·.tag)).Nodup := by
  unfold SampleInfo
  simp only [hk, reduceCtorEq, false_and, false_or, true_and]
  rw [← getStructFields_ok_iff_structOK]
  constructor
  · rintro ⟨info, fields, h1, h2, _⟩
    exact ⟨⟨fields, h1⟩, fun fields' h' => Except.ok.inj (h1.symm.trans h') ▸ h2⟩
  · rintro ⟨⟨fields, h1⟩, h2⟩
    exact ⟨_, fields, h1, h2 fields h1, rfl⟩

example : StructOK C tt 0 := getStructFields_ok_iff_structOK.1 ⟨_, getStructFields_T⟩
/-- `R` embeds `*R`: the path `R → R` repeats `R` (direct proof on the declarative side) -/
example : ¬ StructOK C tt 5 := fun h =>
  absurd (h [5] (.cons ⟨_, .head _, ⟨rfl, rfl, rfl, rfl⟩, rfl⟩ (.nil 5))).1 (by decide)

/-- C07: the `bindTypes` method of the node's expression kind (bindtypes.go; `bindSeg` in the model)
    accepts it iff `NodeOK` holds: the clauses of the property about members, kinds, syntactic forms,
    counts and double destinations. -/
theorem bindSeg_ok_iff (st : TEB) (s : OSeg) :
    (∃ st', bindSeg st s = .ok st') ↔ NodeOK st.argInfos st.outputUsed s :=
  (bindSeg_spec st s).1

theorem bindSeg_argInfos_eq {st st' : TEB} {s : OSeg} (h : bindSeg st s = .ok st') :
    st'.argInfos = st.argInfos :=
  bindSeg_argInfos h

theorem bindSeg_argUsed {st st' : TEB} {s : OSeg} (h : bindSeg st s = .ok st') :
    ∀ n, n ∈ st'.argUsed ↔ n ∈ st.argUsed ∨ n ∈ nodeTypes s :=
  ((bindSeg_spec st s).2 st' h).used

theorem bindSeg_outputUsed {st st' : TEB} {s : OSeg} (h : bindSeg st s = .ok st') :
    ∀ d, d ∈ st'.outputUsed ↔ d ∈ st.outputUsed ∨ d ∈ nodeDests st.argInfos s :=
  ((bindSeg_spec st s).2 st' h).outs

example : NodeOK infos [] insertStar := (bindSeg_ok_iff { argInfos := infos } insertStar).1 (by decide +kernel)
example : NodeOK infos [] colIns := (bindSeg_ok_iff { argInfos := infos } colIns).1 (by decide +kernel)
example : NodeOK infos [] colInsAssign := (bindSeg_ok_iff { argInfos := infos } colInsAssign).1 (by decide +kernel)
/-- order matters in the provider rule -/
example : ¬ NodeOK infos [] colInsAppend :=
  mt (bindSeg_ok_iff { argInfos := infos } colInsAppend).2 (by decide +kernel)
example : (providers infos colInsAssign.types #[97]).length = 1 := by decide +kernel
example : (providers infos colInsAppend.types #[97]).length = 2 := by decide +kernel
/-- `&T.a` is accepted when fresh and rejected when `T.a` is already a destination -/
example : NodeOK infos [] outTa := (bindSeg_ok_iff { argInfos := infos } outTa).1 (by decide +kernel)
theorem TypedExample.nodeDests_outTa : nodeDests infos outTa = [#[84, 46, 97]] := by decide +kernel
example : nodeDests infos outTa = [#[84, 46, 97]] := nodeDests_outTa
example : ¬ NodeOK infos [#[84, 46, 97]] outTa :=
  mt (bindSeg_ok_iff { argInfos := infos, outputUsed := [#[84, 46, 97]] } outTa).2 (by decide +kernel)
/-- slice syntax on a struct is rejected, on a named slice accepted (direct proof) -/
example : ¬ NodeOK infos [] { inS with types := [{ ty := #[84], member := #[] }] } :=
  mt (bindSeg_ok_iff { argInfos := infos } _).2 (by decide +kernel)
example : NodeOK [(#[83], infoS)] [] inS := ⟨_, rfl, 2, #[83], rfl⟩
example {st' : TEB} (h : bindSeg { argInfos := infos } outTa = .ok st') :
    ∀ d, d ∈ st'.outputUsed ↔ d = #[84, 46, 97] := by
  intro d; rw [bindSeg_outputUsed h, nodeDests_outTa]; simp

/-- C07, first half: `ParsedExpr.BindTypes` (bindtypes.go, the part of Prepare after parsing) succeeds
    iff the parsed query is `WellTyped` against the samples: valid samples, every node `NodeOK` after
    the nodes before it, every sample named by some node.  It holds of every list of nodes, not only of
    parser output. -/
theorem bindTypes_ok_iff_wellTyped {C : Cls} {tt : TypeTable} {segs : List OSeg}
    {samples : List (Option Nat)} :
    (∃ tes, bindTypes C tt segs samples = .ok tes) ↔ WellTyped C tt segs samples := by
  -- both sides name the infos of the samples; from them, `NodesOK` is the node loop and "every sample
  -- occurs in a node" is `checkAllArgsUsed` on the names the loop has marked
  have key : ∀ infos, ((∃ st, bindSegs { argInfos := infos } segs = .ok st) ↔ NodesOK infos [] segs) ∧
      ∀ st, bindSegs { argInfos := infos } segs = .ok st →
        (infos.all (fun p => st.argUsed.contains p.1) = true ↔ ∀ p ∈ infos, ∃ s ∈ segs, p.1 ∈ nodeTypes s) := by
    intro infos
    obtain ⟨b1, b2⟩ := bindSegs_spec segs { argInfos := infos } [] fun _ => Iff.rfl
    refine ⟨b1, fun st hb => List.all_eq_true.trans (forall₂_congr fun p _ => ?_)⟩
    rw [List.contains_iff_mem, (b2 st hb).used, List.mem_flatMap]
    exact or_iff_right List.not_mem_nil
  simp only [bindTypes_ok_iff, generateArgInfo_nil_ok_iff]
  constructor
  · rintro ⟨_, infos, st, hg, hs, hall, _⟩
    exact ⟨infos, hg, (key infos).1.1 ⟨st, hs⟩, ((key infos).2 st hs).1 hall⟩
  · rintro ⟨infos, hg, hn, hu⟩
    obtain ⟨st, hs⟩ := (key infos).1.2 hn
    exact ⟨_, infos, st, hg, hs, ((key infos).2 st hs).2 hu, rfl⟩

theorem TypedExample.bindTypes_insertStar : ∃ tes, bindTypes C tt [insertStar] [some 0, some 1] = .ok tes := by
  decide +kernel
example : WellTyped C tt [insertStar] [some 0, some 1] := bindTypes_ok_iff_wellTyped.1 bindTypes_insertStar
/-- the same, proved directly on the declarative side (not through the theorem) -/
example : WellTyped C tt [insertStar] [some 0, some 1] := by
  -- every sample is used: `infos.map (·.1)` and `nodeTypes insertStar` are the same list
  refine ⟨infos, generateArgInfo_ok_iff.1 generateArgInfo_eq, ?_,
    fun _ hp => ⟨_, .head _, List.mem_map_of_mem (f := Prod.fst) hp⟩⟩
  intro pre s post he
  obtain ⟨rfl, ⟨⟩⟩ | ⟨-, ⟨⟩⟩ := List.singleton_eq_append_iff.1 he
  show ∀ a ∈ [_, _], AccessorOK infos a
  exact List.forall_mem_cons.2
    ⟨⟨fun _ => ⟨0, #[84], [fa, fb], [#[97], #[98]], rfl, List.cons_ne_nil _ _⟩, fun h => absurd rfl h⟩,
     List.forall_mem_cons.2 ⟨⟨fun h => absurd h (by decide +kernel), fun _ => ⟨infoM, rfl, trivial⟩⟩, nofun⟩⟩
/-- rejected: `&T.a` twice -/
example : ¬ WellTyped C tt [outTa, outTa] [some 0] := mt bindTypes_ok_iff_wellTyped.2 (by decide +kernel)
/-- rejected: sample `M` unused -/
example : ¬ WellTyped C tt [inTa] [some 0, some 1] := mt bindTypes_ok_iff_wellTyped.2 (by decide +kernel)
/-- rejected: type `M` named by the query has no sample -/
example : ¬ WellTyped C tt [insertStar] [some 0] := mt bindTypes_ok_iff_wellTyped.2 (by decide +kernel)

/-- C07, the direction ⇒ in the words of the property text, for its clauses about samples (those about
    members, kinds and counts are `NodeOK` itself): no nil sample, only named structs, maps and slices,
    names (`t.Name()`, unqualified) pairwise distinct, exactly one sample for every type name in a node,
    every sample named by some node.  `bindTypes_ok_imp` (Props/E2E.lean) is the same reading over the
    `Option` samples, a corollary of this one. -/
theorem prepare_ok_reading {C : Cls} {tt : TypeTable} {segs : List OSeg} {samples : List (Option Nat)}
    {tes : List TExpr} (h : bindTypes C tt segs samples = .ok tes) :
    ∃ tids : List Nat, samples = tids.map some ∧
      (∀ tid ∈ tids, ((tt.get tid).kind = .struct ∨ (tt.get tid).kind = .map ∨ (tt.get tid).kind = .slice) ∧
        (sampleName tt tid).size ≠ 0) ∧
      (tids.map (sampleName tt)).Nodup ∧
      (∀ s ∈ segs, ∀ T ∈ nodeTypes s, ∃ tid ∈ tids, sampleName tt tid = T ∧
        ∀ tid' ∈ tids, sampleName tt tid' = T → tid' = tid) ∧
      (∀ tid ∈ tids, ∃ s ∈ segs, sampleName tt tid ∈ nodeTypes s) := by
  obtain ⟨infos, hs, hn, hu⟩ := bindTypes_ok_iff_wellTyped.1 ⟨tes, h⟩
  obtain ⟨tids, rfl, h2, h3, _⟩ := id hs
  refine ⟨tids, rfl, h2, h3, ?_, ?_⟩
  · intro s hsm T hT
    obtain ⟨pre, post, rfl⟩ := List.append_of_mem hsm
    obtain ⟨ai, hai⟩ := Option.isSome_iff_exists.1 ((hn pre s post rfl).types_have_samples T hT)
    obtain ⟨tid, hm, hname, _⟩ := (hs.lookup_iff T ai).1 hai
    obtain ⟨_, ht, ⟨⟩⟩ := List.mem_map.1 hm
    exact ⟨tid, ht, hname, fun tid' ht' hname' => inj_of_nodup_map h3 ht' ht (hname'.trans hname.symm)⟩
  · intro tid ht
    have hm : sampleName tt tid ∈ infos.map (·.1) := hs.keys ▸ List.mem_map_of_mem ht
    obtain ⟨p, hp, he⟩ := List.mem_map.1 hm
    obtain ⟨s, hs1, hs2⟩ := hu p hp
    exact ⟨s, hs1, he ▸ hs2⟩

example := bindTypes_insertStar.elim fun _ => prepare_ok_reading

/-- C08: `LocateParams` of the three locators (valuelocator.go) finds the parameters `p` iff the
    relation `Located` (Typed/Locate.lean) holds: the value comes from the argument of the located type,
    passed as `T` or `*T`, or else from every row of a non-empty bulk argument `[]T`/`[]*T`. -/
theorem locateParams_ok_iff_located {tt : TypeTable} {m : TypeToValue} {l : Loc} {p : Params} :
    locateParams tt m l = .ok p ↔ Located tt m l p :=
  locateParams_ok_iff

/-- the field `c` of the `U` argument of `PrepExample` (direct proofs on the declarative side) -/
example : Located PrepExample.tt (PrepExample.args.map argEntry) (.field 2 #[85] PrepExample.fc)
    { vals := ["c"], om := false, bulk := false, argType := 2 } :=
  .field (s := PrepExample.args[1]!) (v := .leaf { t := 3, zero := false, r := "c" }) rfl rfl
/-- … and the bulk reading of field `a` of `T` through the `[]T` argument -/
example : Located PrepExample.tt (PrepExample.args.map argEntry) (.field 0 #[84] PrepExample.fa)
    { vals := ["a0", "a1"], om := false, bulk := true, argType := 1 } :=
  .fieldBulk (h := { t := 1, zero := false, r := "" })
    (els := [PrepExample.row "a0" "b0", PrepExample.row "a1" "b1"]) rfl rfl (List.cons_ne_nil _ _)
    (by decide +kernel) (by decide +kernel)
example : ¬ ∃ p, Located PrepExample.tt (PrepExample.args.map argEntry) (.field 7 #[86] PrepExample.fc) p :=
  mt (Exists.imp fun _ => locateParams_ok_iff_located.2) (by decide +kernel)

/-- C08, first half: Query (`BindInputs`) accepts exactly the `ArgsOK` argument lists: `ValidateInputs`
    accepts them, every typed expression locates its parameters in them, every argument is read by some
    expression.  The property speaks of prepared statements; the hypothesis is not used:
    `bindInputs_ok_iff_argsOK` (Typed/Args.lean) holds of all typed expressions. -/
theorem bindInputs_ok_iff_argsOK_prepared {C : Cls} {tt : TypeTable} {segs : List OSeg}
    {samples : List (Option Nat)} {tes : List TExpr} (_ : bindTypes C tt segs samples = .ok tes)
    (args : List GoVal) : (∃ pq, bindInputs tt tes args = .ok pq) ↔ ArgsOK tt tes args :=
  bindInputs_ok_iff_argsOK

example : ArgsOK PrepExample.tt PrepExample.tes PrepExample.args :=
  (bindInputs_ok_iff_argsOK_prepared PrepExample.bindTypes_example _).1
    (PrepExample.bindInputs_example.imp fun _ => And.left)
/-- rejected: the `U` argument is missing -/
example : ¬ ArgsOK PrepExample.tt PrepExample.tes [PrepExample.args[0]!] :=
  mt bindInputs_ok_iff_argsOK.2 (by decide +kernel)
/-- rejected: an argument no expression uses -/
example : ¬ ArgsOK PrepExample.tt [PrepExample.tes[2]!] PrepExample.args :=
  mt bindInputs_ok_iff_argsOK.2 (by decide +kernel)

/-- C08, second half, as far as the bind model goes: when `bindInputs` reports an error there is no
    `Primed` (no SQL, no parameters) that could be sent, and the arguments are not `ArgsOK`.  That
    `DB.Query`/`TX.Query` (sqlair.go) then store the error and never build the run closure is outside the
    model; the harness observes it (`holdsC08`, Spec/L2.lean: a rejected Query leaves no driver event). -/
theorem rejected_args_reach_nothing {tt : TypeTable} {tes : List TExpr} {args : List GoVal} {e : String}
    (h : bindInputs tt tes args = .error e) :
    (¬ ∃ pq, bindInputs tt tes args = .ok pq) ∧ ¬ ArgsOK tt tes args :=
  have : ¬ ∃ pq, bindInputs tt tes args = .ok pq := by rintro ⟨_, hpq⟩; cases h.symm.trans hpq
  ⟨this, mt bindInputs_ok_iff_argsOK.2 this⟩

/-- rejected: bulk arguments of different lengths -/
example : ¬ ArgsOK RejectExample.tt [.insert [RejectExample.colA, RejectExample.colC]]
    [RejectExample.sliceT [RejectExample.rowT "x" false, RejectExample.rowT "y" false],
     RejectExample.sliceU [RejectExample.rowU, RejectExample.rowU, RejectExample.rowU]] :=
  (rejected_args_reach_nothing RejectExample.mismatched).2
/-- rejected: a bulk argument for a standalone input -/
example : ¬ ArgsOK RejectExample.tt [.input (.field 0 #[84] RejectExample.fa)]
    [RejectExample.sliceT [RejectExample.rowT "x" false]] :=
  (rejected_args_reach_nothing (e := "bulk-outside-insert") rfl).2
/-- rejected: the same type twice -/
example : ¬ ArgsOK RejectExample.tt [.input (.field 0 #[84] RejectExample.fa)]
    [RejectExample.rowT "x" false, RejectExample.rowT "y" false] :=
  (rejected_args_reach_nothing (e := "type-provided-twice") rfl).2

/-- C08, the direction ⇒ in the words of the property text: every argument passes the per-argument
    checks (`argOK`); no two have the same type (`argKey`: `T` and `*T` count as the same); a standalone
    input finds an argument of exactly its type, a locator of an insert expression one of its type or,
    when there is none, a bulk `[]T`/`[]*T`; every argument is read by some locator. -/
theorem query_ok_reading {tt : TypeTable} {tes : List TExpr} {args : List GoVal} {pq : Primed}
    (h : bindInputs tt tes args = .ok pq) :
    (∀ a ∈ args, argOK tt a = true) ∧
    (args.map argKey).Nodup ∧
    (∀ l, TExpr.input l ∈ tes → ∃ a ∈ args, argKey a = l.tid) ∧
    (∀ cols, TExpr.insert cols ∈ tes → ∀ l ∈ cols.filterMap TCol.loc?,
      (∃ a ∈ args, argKey a = l.tid) ∨
      ((∀ b ∈ args, argKey b ≠ l.tid) ∧
        ∃ a ∈ args, isSliceOf tt (argKey a) l.tid = true ∨ isSliceOfPtr tt (argKey a) l.tid = true)) ∧
    (∀ a ∈ args, ∃ te ∈ tes, ∃ l ∈ te.inputLocs,
      argKey a = l.tid ∨ isSliceOf tt (argKey a) l.tid = true ∨ isSliceOfPtr tt (argKey a) l.tid = true) := by
  obtain ⟨hacc, hte, hused⟩ := bindInputs_ok_iff_argsOK.1 ⟨pq, h⟩
  refine ⟨hacc.1, ?_, ?_, ?_, ?_⟩
  · exact hacc.nodup_keys
  · intro l hl
    obtain ⟨p, hp, _, hb⟩ := hte _ hl
    rcases hp.arg with h1 | h1
    · exact h1.2.2
    · rw [hb] at h1; cases h1.1
  · intro cols hc l hl
    obtain ⟨c, hcm, hcl⟩ := List.mem_filterMap.1 hl
    cases c with
    | literal _ _ => cases hcl
    | insert l' col ex =>
      cases hcl
      obtain ⟨p, hp, _⟩ := (hte _ hc).1 _ hcm
      rcases hp.arg with h1 | ⟨_, hn, a, ha, _, hs⟩
      · exact Or.inl h1.2.2
      · exact Or.inr ⟨hn, a, ha, hs⟩
  · intro a ha
    obtain ⟨te, hte', l, hl, p, hp, hk⟩ := hused a ha
    refine ⟨te, hte', l, hl, ?_⟩
    rcases hp.arg with h1 | ⟨_, _, b, hb, hbk, hs⟩
    · exact Or.inl (hk.symm.trans h1.2.1)
    · exact Or.inr ((hbk.trans hk) ▸ hs)

example := query_ok_reading BindExample.bindInputs_example

end Sqlair
