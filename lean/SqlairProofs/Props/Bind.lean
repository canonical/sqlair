/-
  Props/Bind: the bind-layer properties (C03 placeholders and arguments, C04 INSERT expansion, C05 output
  aliases, the internal-error clause of C07, argument order under C16, the share of `bindInputs` in C01) as
  theorems about the model `SqlairModel/Bind.lean`, for all type tables, typed expressions and argument
  lists.  In `bindInputs tt tes args = .ok pq`, `pq.pieces` is the generated SQL before `renderSQL`,
  `phsOf pq.pieces` the numbers `n` of its placeholders `@sqlair_n`, `pq.params` the arguments
  `sql.Named("sqlair_n", v)` as pairs `(n, v)` in the order the driver gets them.  What holds of a whole
  statement (C03.1, .2, .4, C04.5, C05.9) is a field of the builder invariant `QBInv`, kept by every
  `addToQuery` step (`bindInputs_inv`); what holds of one expression is read off its step
  (`addToQuery_input_spec`, `addToQuery_insert_spec`) and put at its place in the statement by
  `bindInputs_step_at'`, all in `SqlairProofs/Bind/*.lean`.

  The labels number the clauses of the property texts (`properties.jsonl`) that are proved here:
    C03.1  no duplicate argument names
    C03.2  no placeholder without argument, no argument without placeholder
    C03.3  `$S[:]` becomes one placeholder per element of the slice, in element order, and none for an
           empty slice
    C03.4  each occurrence of an input expression outside an INSERT form gets its own placeholder, in
           textual order
    C04.5  every tuple has exactly as many values as there are columns
    C04.6  the number of tuples is the length of the supplied slice(s), or one
    C04.7  the value at row r, column c; an omitempty member that is zero in every row disappears
    C04.8  unequal lengths, an empty slice, a zero/non-zero mix, an explicit zero omitempty member are rejected
    C05.9  every generated column carries an alias that is unique within the statement and identifies its
           destination
    C05.10 a statement returns rows exactly when it contains an output expression
    C05.11 a SQL wildcard is never generated
    C07.12 running a prepared statement never reports an internal error
    C16.13 the result does not depend on the order of the arguments.  No sentence of C16 says this: it is
           the case "permutation" of the argument lists the C08 text quantifies over, and
           `lean/obligations.json` lists the theorems under C16 (same SQL and arguments for the same
           argument values)
-/
import SqlairProofs.Bind.Reject
import SqlairProofs.Bind.Errors
import SqlairProofs.Bind.LocKinds
import SqlairProofs.Bind.PermPrepared
import SqlairProofs.Bind.ParserNodes
import SqlairProofs.Props.Fixtures.Bind

namespace Sqlair

/-- C03.1 -/
theorem params_nodup {tt : TypeTable} {tes : List TExpr} {args : List GoVal} {pq : Primed}
    (h : bindInputs tt tes args = .ok pq) : (pq.params.map (·.1)).Nodup := by
  obtain ⟨qb, inv, _, hp, _⟩ := bindInputs_inv h
  rw [hp]; exact inv.nodup

open BindExample in
example : (expected.params.map (·.1)).Nodup := params_nodup bindInputs_example

/-- C03.2 -/
theorem placeholders_eq_params {tt : TypeTable} {tes : List TExpr} {args : List GoVal} {pq : Primed}
    (h : bindInputs tt tes args = .ok pq) :
    ∀ n, n ∈ phsOf pq.pieces ↔ n ∈ pq.params.map (·.1) := by
  obtain ⟨qb, inv, hpc, hp, _⟩ := bindInputs_inv h
  rw [hp, hpc]; exact inv.iff

open BindExample in
example : 4 ∈ phsOf expected.pieces ∧ 4 ∈ expected.params.map (·.1) :=
  ⟨(placeholders_eq_params bindInputs_example 4).2 (by decide), by decide⟩

/-- C03.4.  Strictly increasing from piece to piece also gives "its own placeholder"; the insert
    pieces, of which the clause does not speak, are covered as well. -/
theorem inputs_fresh_and_ordered {tt : TypeTable} {tes : List TExpr} {args : List GoVal} {pq : Primed}
    (h : bindInputs tt tes args = .ok pq) :
    pq.pieces.Pairwise (fun p p' => ∀ a ∈ p.phs, ∀ b ∈ p'.phs, a < b) := by
  obtain ⟨qb, inv, hpc, _⟩ := bindInputs_inv h
  rw [hpc]; exact inv.ordered

/-- C03.4 -/
theorem inputs_fresh_and_ordered_at {tt : TypeTable} {tes : List TExpr} {args : List GoVal} {pq : Primed}
    (h : bindInputs tt tes args = .ok pq) {pre mid post : List Piece} {p p' : Piece}
    (hp : pq.pieces = pre ++ p :: mid ++ p' :: post) :
    ∀ a ∈ p.phs, ∀ b ∈ p'.phs, a < b := by
  have := inputs_fresh_and_ordered h
  rw [hp, List.append_assoc, List.pairwise_append] at this
  have h2 := this.2.1
  rw [List.cons_append, List.pairwise_cons] at h2
  exact h2.1 p' (by simp)

open BindExample in
example : ∀ a ∈ (Piece.insert [#[97], #[98], #[99], #[100]]
      [[.ph 0, .ph 2, .ph 4, .lit #[49]], [.ph 1, .ph 3, .ph 4, .lit #[49]]]).phs,
    ∀ b ∈ (Piece.inputs 5 1).phs, a < b :=
  inputs_fresh_and_ordered_at (pre := [.text #[73]]) (mid := []) (post := [.outputs 0 [#[99], #[97]]])
    bindInputs_example rfl

/-- C03.3, for the step of `$S[:]` (`typedInputExpr.addToQuery`, bindinputs.go, with the slice locator) -/
theorem slice_input_expansion {tt : TypeTable} {m : TypeToValue} {qb qb' : QB} {tid : Nat} {n : Bytes}
    (h : addToQuery tt m qb (.input (.slice tid n)) = .ok qb') :
    ∃ hd els, ttvGet m tid = some (.slice hd els) ∧
      qb'.pieces = qb.pieces ++ [.inputs qb.inputCount els.length] ∧
      qb'.params = qb.params ++
        ((List.range els.length).zip els).map (fun (i, e) => (qb.inputCount + i, e.h.r)) ∧
      qb'.inputCount = qb.inputCount + els.length := by
  obtain ⟨p, s⟩ := addToQuery_input_spec h
  obtain ⟨hd, els, hg, hv⟩ := locateParams_slice s.located
  refine ⟨hd, els, hg, ?_, ?_, ?_⟩
  · rw [s.pieces, hv]; simp
  · rw [s.params, hv, inputParams_map]
  · rw [s.inputCount, hv]; simp

/-- C03.3 -/
theorem slice_input_params_getElem {tt : TypeTable} {m : TypeToValue} {qb qb' : QB} {tid : Nat} {n : Bytes}
    (h : addToQuery tt m qb (.input (.slice tid n)) = .ok qb') :
    ∃ hd els, ttvGet m tid = some (.slice hd els) ∧ qb'.params.length = qb.params.length + els.length ∧
      ∀ i, i < els.length →
        qb'.params[qb.params.length + i]? = els[i]?.map (fun e => (qb.inputCount + i, e.h.r)) := by
  obtain ⟨p, s⟩ := addToQuery_input_spec h
  obtain ⟨hd, els, hg, hv⟩ := locateParams_slice s.located
  refine ⟨hd, els, hg, by rw [s.params, hv]; simp [inputParams_length], ?_⟩
  intro i hi
  rw [s.params, List.getElem?_append_right (Nat.le_add_right _ _), Nat.add_sub_cancel_left, inputParams_getElem?, hv]
  simp; rfl

example :
    let m : TypeToValue := [(0, .slice { t := 0, zero := false, r := "" }
      [.leaf { t := 1, zero := false, r := "x" }, .leaf { t := 1, zero := false, r := "y" }])]
    ∃ qb', addToQuery #[{ kind := .slice, kindStr := "slice", name := #[83], elem := 1 }] m
      { inputCount := 7 } (.input (.slice 0 #[83])) = .ok qb' ∧
      qb'.pieces = [.inputs 7 2] ∧ qb'.params = [(7, "x"), (8, "y")] := ⟨_, rfl, rfl, rfl⟩

/-- C03, the clause without a number above ("the argument behind the placeholder that replaced `$T.member`
    is the current value of the field or map key"), up to `locateParams`: the arguments of the step are the
    values `p.vals` the locator finds, in order.  Which values these are is `locateParams_ok_iff_located`
    (`Props/Typed.lean`). -/
theorem input_placeholder_values {tt : TypeTable} {m : TypeToValue} {qb qb' : QB} {loc : Loc}
    (h : addToQuery tt m qb (.input loc) = .ok qb') :
    ∃ p, locateParams tt m loc = .ok p ∧ p.om = false ∧ p.bulk = false ∧
      qb'.pieces = qb.pieces ++ [.inputs qb.inputCount p.vals.length] ∧
      qb'.params = qb.params ++ inputParams qb.inputCount p.vals ∧
      (∀ i, (inputParams qb.inputCount p.vals)[i]? = p.vals[i]?.map (fun v => (qb.inputCount + i, v))) ∧
      qb'.inputCount = qb.inputCount + p.vals.length := by
  obtain ⟨p, s⟩ := addToQuery_input_spec h
  exact ⟨p, s.located, s.not_om, s.not_bulk, s.pieces, s.params, inputParams_getElem? _ _, s.inputCount⟩

/-- C03.3, converse of `slice_input_expansion`: with a slice supplied for `S` the step succeeds -/
theorem slice_input_expansion_ok {tt : TypeTable} {m : TypeToValue} {qb : QB} {tid : Nat} {n : Bytes}
    {hd : VH} {els : List GoVal} (hg : ttvGet m tid = some (.slice hd els)) :
    addToQuery tt m qb (.input (.slice tid n)) = .ok { qb with
      argUsed := markUsed qb.argUsed tid
      inputCount := qb.inputCount + els.length
      params := qb.params ++
        ((List.range els.length).zip els).map (fun (i, e) => (qb.inputCount + i, e.h.r))
      pieces := qb.pieces ++ [.inputs qb.inputCount els.length] } := by
  rw [addToQuery_input, locateParams_ok_iff.2 (.slice hg), bind_ok]
  simp only [Bool.false_eq_true, if_false, inputParams_map, List.length_map]

example {tt : TypeTable} {m : TypeToValue} {qb : QB} {tid : Nat} {n : Bytes} {hd : VH}
    (hg : ttvGet m tid = some (.slice hd [])) :
    ∃ qb', addToQuery tt m qb (.input (.slice tid n)) = .ok qb' ∧ qb'.params = qb.params ∧
      qb'.pieces = qb.pieces ++ [.inputs qb.inputCount 0] :=
  ⟨_, slice_input_expansion_ok hg, by simp, by simp⟩

/-- C03.3 at `bindInputs` -/
theorem slice_input_expansion_bindInputs {tt : TypeTable} {pre post : List TExpr} {tid : Nat} {n : Bytes}
    {args : List GoVal} {pq : Primed}
    (h : bindInputs tt (pre ++ .input (.slice tid n) :: post) args = .ok pq) :
    ∃ m hd els c, validateInputs tt args [] = .ok m ∧ ttvGet m tid = some (.slice hd els) ∧
      pq.pieces[pre.length]? = some (.inputs c els.length) ∧
      ∃ before after, pq.params = before ++
        ((List.range els.length).zip els).map (fun (i, e) => (c + i, e.h.r)) ++ after := by
  obtain ⟨m, q1, q2, hm, _, hs, hp, hps⟩ := bindInputs_step_at' h
  obtain ⟨hd, els, hg, h1, h2, _⟩ := slice_input_expansion hs
  exact ⟨m, hd, els, q1.inputCount, hm, hg, hp _ h1, hps _ h2⟩

/-- C03, more than the text asks: the placeholder numbers leave no gaps -/
theorem placeholders_dense {tt : TypeTable} {tes : List TExpr} {args : List GoVal} {pq : Primed}
    (h : bindInputs tt tes args = .ok pq) : ∃ k, ∀ n, n ∈ phsOf pq.pieces ↔ n < k := by
  obtain ⟨qb, inv, hpc, _⟩ := bindInputs_inv h
  exact ⟨qb.inputCount, fun n => by rw [hpc]; exact ⟨inv.bound n, inv.dense n⟩⟩

open BindExample in
example : ∃ k, ∀ n, n ∈ phsOf expected.pieces ↔ n < k := placeholders_dense bindInputs_example

/-- C01, the part of `bindInputs`: a bypass chunk goes into the SQL unchanged and at its position
    (`addBypass`, querybuilder.go).  The parser's part is in `Props/Parser.lean` and `Props/Exact.lean`,
    the composition in `Props/E2E.lean`. -/
theorem pieces_correspond {tt : TypeTable} {tes : List TExpr} {args : List GoVal} {pq : Primed}
    (h : bindInputs tt tes args = .ok pq) :
    pq.pieces.length = tes.length ∧
    ∀ pre chunk post, tes = pre ++ .bypass chunk :: post → pq.pieces[pre.length]? = some (.text chunk) := by
  constructor
  · exact (bindInputs_grow h).1
  · intro pre chunk post hte
    subst hte
    obtain ⟨m, q1, q2, _, _, hs, hp, _⟩ := bindInputs_step_at' h
    apply hp
    cases hs; rfl

open BindExample in
example : expected.pieces.length = tes.length := (pieces_correspond bindInputs_example).1

/-- C04.5 -/
theorem insert_rectangular {tt : TypeTable} {tes : List TExpr} {args : List GoVal} {pq : Primed}
    (h : bindInputs tt tes args = .ok pq) :
    ∀ cols rows, Piece.insert cols rows ∈ pq.pieces → ∀ r ∈ rows, r.length = cols.length := by
  obtain ⟨qb, inv, hpc, _⟩ := bindInputs_inv h
  rw [hpc]; exact inv.rect

open BindExample in
example : ∀ r ∈ [[Cell.ph 0, .ph 2, .ph 4, .lit #[49]], [.ph 1, .ph 3, .ph 4, .lit #[49]]],
    r.length = [#[97], #[98], #[99], (#[100] : Bytes)].length :=
  insert_rectangular bindInputs_example _ _ (.tail _ (.head _))

/-- C04.6.  "The supplied slice(s)" are the bulk columns found by `bindCols` (the column loop of
    `typedInsertExpr.addToQuery`, bindinputs.go); a successful step never has 0 rows. -/
theorem insert_row_count {tt : TypeTable} {m : TypeToValue} {qb qb' : QB} {cols : List TCol}
    (h : addToQuery tt m qb (.insert cols) = .ok qb') :
    ∃ qb1 bcs numRows names rows,
      bindCols tt m cols qb [] false 1 = .ok (qb1, bcs, numRows) ∧
      qb'.pieces = qb.pieces ++ [.insert names rows] ∧
      rows.length = numRows ∧ 1 ≤ numRows ∧
      ((∀ bc ∈ bcs, bc.bulk = false) → numRows = 1) ∧
      (∀ bc ∈ bcs, bc.bulk = true → bc.vals.length = numRows) := by
  obtain ⟨bcs, numRows, s⟩ := addToQuery_insert_spec h
  obtain ⟨qb1, hb⟩ := s.bound
  exact ⟨qb1, bcs, numRows, _, _, hb, s.pieces, insRows_length .., s.rows_pos, s.no_bulk, s.bulk_len⟩

/-- C04.6 at `bindInputs` -/
theorem insert_row_count_bindInputs {tt : TypeTable} {pre post : List TExpr} {cols : List TCol}
    {args : List GoVal} {pq : Primed} (h : bindInputs tt (pre ++ .insert cols :: post) args = .ok pq) :
    ∃ m q1 qb1 bcs numRows names rows, validateInputs tt args [] = .ok m ∧
      bindCols tt m cols q1 [] false 1 = .ok (qb1, bcs, numRows) ∧
      pq.pieces[pre.length]? = some (.insert names rows) ∧
      rows.length = numRows ∧ 1 ≤ numRows ∧
      ((∀ bc ∈ bcs, bc.bulk = false) → numRows = 1) ∧
      (∀ bc ∈ bcs, bc.bulk = true → bc.vals.length = numRows) := by
  obtain ⟨m, q1, q2, hm, _, hs, hp, _⟩ := bindInputs_step_at' h
  obtain ⟨qb1, bcs, numRows, names, rows, hb, hpc, h1, h2, h3, h4⟩ := insert_row_count hs
  exact ⟨m, q1, qb1, bcs, numRows, names, rows, hm, hb, hp _ hpc, h1, h2, h3, h4⟩

open BindExample in
example : ∃ names rows, expected.pieces[1]? = some (.insert names rows) ∧ rows.length = 2 := by
  obtain ⟨m, q1, qb1, bcs, numRows, names, rows, _, _, hp, hl, _⟩ :=
    insert_row_count_bindInputs (pre := [.bypass #[73]]) (post := tes.drop 2) (cols := _) bindInputs_example
  exact ⟨names, rows, hp, by cases hp; rfl⟩

/-- C04.7, omission: column list, tuples and arguments are computed from the bound columns with
    `om = false` alone (`addInsert`, querybuilder.go).  `ColsBound` ties a bound column to its typed column:
    `om`, `bulk` and the values are those of `locateParams`, and `Located.field`, `Located.fieldBulk`
    (`Typed/Locate.lean`) say that `om` is "omitempty and zero", in every row for a bulk argument. -/
theorem insert_omit_spec {tt : TypeTable} {m : TypeToValue} {qb qb' : QB} {cols : List TCol}
    (h : addToQuery tt m qb (.insert cols) = .ok qb') :
    ∃ qb1 bcs numRows, bindCols tt m cols qb [] false 1 = .ok (qb1, bcs, numRows) ∧
      ColsBound tt m cols bcs ∧
      qb'.pieces = qb.pieces ++
        [.insert ((bcs.filter (fun bc => !bc.om)).map (·.column))
          ((List.range numRows).map fun r => (bcs.filter (fun bc => !bc.om)).map (·.cellAt r))] ∧
      qb'.params = qb.params ++
        (List.range numRows).flatMap fun r => (bcs.filter (fun bc => !bc.om)).filterMap (·.paramAt r) := by
  obtain ⟨bcs, numRows, s⟩ := addToQuery_insert_spec h
  obtain ⟨qb1, hb⟩ := s.bound
  exact ⟨qb1, bcs, numRows, hb, s.cols, s.pieces, s.params⟩

/-- the insert expression of `BindExample`: two bulk columns of two rows, a single-value column and a
    literal column give five arguments -/
example : ∃ qb', addToQuery BindExample.tt
    [(1, BindExample.args[0]!), (2, BindExample.args[1]!)] {} (BindExample.tes[1]!) = .ok qb' ∧
    qb'.params.length = 5 := ⟨_, rfl, rfl⟩

/-- C04.7, the value at row `r` of a column, case by case as in `boundInsertColumn.parameter`
    (querybuilder.go): the single value of a non-slice argument has one placeholder, written in every row
    and handed to the driver once, with row 0.  `BChain`: a column that reserves numbers starts at the
    running input count, so numbers run down the columns while the arguments are emitted row by row. -/
theorem insert_cell_spec {tt : TypeTable} {m : TypeToValue} {qb qb' : QB} {cols : List TCol}
    (h : addToQuery tt m qb (.insert cols) = .ok qb') :
    ∃ qb1 bcs numRows, bindCols tt m cols qb [] false 1 = .ok (qb1, bcs, numRows) ∧
      BChain qb.inputCount bcs ∧ qb'.inputCount = bcsEnd qb.inputCount bcs ∧
      ∀ bc ∈ bcs, ∀ r, r < numRows →
        (bc.vals = [] → bc.cellAt r = .lit bc.literal ∧ bc.paramAt r = none) ∧
        (bc.bulk = false → ∀ v, bc.vals = [v] →
          bc.cellAt r = .ph bc.first ∧ bc.paramAt r = if r = 0 then some (bc.first, v) else none) ∧
        (bc.bulk = true → ∃ v, bc.vals[r]? = some v ∧
          bc.cellAt r = .ph (bc.first + r) ∧ bc.paramAt r = some (bc.first + r, v)) ∧
        (bc.bulk = false → bc.vals.length ≤ 1) := by
  obtain ⟨bcs, numRows, s⟩ := addToQuery_insert_spec h
  obtain ⟨qb1, hb⟩ := s.bound
  exact ⟨qb1, bcs, numRows, hb, s.ok.chain, s.inputCount, fun bc hbc r hr => s.cell hbc hr⟩

/-- C04.7 at `bindInputs` -/
theorem insert_spec_bindInputs {tt : TypeTable} {pre post : List TExpr} {cols : List TCol}
    {args : List GoVal} {pq : Primed} (h : bindInputs tt (pre ++ .insert cols :: post) args = .ok pq) :
    ∃ m q1 qb1 bcs numRows, validateInputs tt args [] = .ok m ∧
      bindCols tt m cols q1 [] false 1 = .ok (qb1, bcs, numRows) ∧ ColsBound tt m cols bcs ∧
      BChain q1.inputCount bcs ∧
      pq.pieces[pre.length]? = some
        (.insert ((bcs.filter (fun bc => !bc.om)).map (·.column))
          ((List.range numRows).map fun r => (bcs.filter (fun bc => !bc.om)).map (·.cellAt r))) ∧
      ∃ before after, pq.params = before ++
        ((List.range numRows).flatMap fun r => (bcs.filter (fun bc => !bc.om)).filterMap (·.paramAt r))
        ++ after := by
  obtain ⟨m, q1, q2, hm, _, hs, hp, hps⟩ := bindInputs_step_at' h
  obtain ⟨bcs, numRows, s⟩ := addToQuery_insert_spec hs
  obtain ⟨qb1, hb⟩ := s.bound
  exact ⟨m, q1, qb1, bcs, numRows, hm, hb, s.cols, s.ok.chain, hp _ s.pieces, hps _ s.params⟩

open BindExample in
example := insert_spec_bindInputs (pre := [.bypass #[73]]) (post := tes.drop 2) bindInputs_example

/-- C04.8: the four rejected situations of the text, as conditions on the columns and the validated
    arguments `m`.  In `emptyBulk` and `omitemptyMix` no argument of the member's own type is given
    (`hg`), so the locator falls back on the `[]T` or `[]*T` that `locateBulk` finds. -/
inductive InsertRejected (tt : TypeTable) (m : TypeToValue) (cols : List TCol) : Prop
  | mismatchedBulk (l1 l2 : Loc) (c1 c2 : Bytes) (e1 e2 : Bool) (p1 p2 : Params)
      (h1 : TCol.insert l1 c1 e1 ∈ cols) (h2 : TCol.insert l2 c2 e2 ∈ cols)
      (hp1 : locateParams tt m l1 = .ok p1) (hp2 : locateParams tt m l2 = .ok p2)
      (hb1 : p1.bulk = true) (hb2 : p2.bulk = true) (hne : p1.vals.length ≠ p2.vals.length)
  | emptyBulk (l : Loc) (c : Bytes) (ex : Bool) (hd : VH) (h : TCol.insert l c ex ∈ cols)
      (hl : ∀ t n, l ≠ .slice t n) (hg : ttvGet m l.tid = none)
      (hbulk : locateBulk tt m l.tid = some (.slice hd []))
  | omitemptyMix (tid : Nat) (n : Bytes) (f : SField) (c : Bytes) (ex : Bool) (hd : VH) (els : List GoVal)
      (h : TCol.insert (.field tid n f) c ex ∈ cols) (hf : f.omitEmpty = true)
      (hg : ttvGet m tid = none) (hbulk : locateBulk tt m tid = some (.slice hd els))
      (e1 e2 s1 s2 v1 v2 : GoVal) (h1 : e1 ∈ els) (h2 : e2 ∈ els)
      (hs1 : bulkElem e1 = .ok s1) (hs2 : bulkElem e2 = .ok s2)
      (hv1 : fieldByIndex s1 f.index true = .ok v1) (hv2 : fieldByIndex s2 f.index true = .ok v2)
      (hz1 : v1.h.zero = true) (hz2 : v2.h.zero = false)
  | explicitZero (l : Loc) (c : Bytes) (p : Params) (h : TCol.insert l c true ∈ cols)
      (hp : locateParams tt m l = .ok p) (hom : p.om = true)

/-- C04.8 at `addToQuery` -/
theorem insert_rejections_step {tt : TypeTable} {m : TypeToValue} {cols : List TCol}
    (hr : InsertRejected tt m cols) (qb : QB) : ∃ e, addToQuery tt m qb (.insert cols) = .error e := by
  -- a successful step would have located every insert column
  refine exists_error_of_not_ok fun qb' hres => ?_
  obtain ⟨bcs, numRows, s⟩ := addToQuery_insert_spec hres
  cases hr with
  | mismatchedBulk l1 l2 c1 c2 e1 e2 p1 p2 h1 h2 hp1 hp2 hb1 hb2 hne =>
    obtain ⟨q1, hq1, _, hl1⟩ := s.located h1
    obtain ⟨q2, hq2, _, hl2⟩ := s.located h2
    rw [hp1] at hq1; cases hq1
    rw [hp2] at hq2; cases hq2
    exact hne ((hl1 hb1).trans (hl2 hb2).symm)
  | emptyBulk l c ex hd h hl hg hbulk =>
    obtain ⟨q, hq, _⟩ := s.located h
    rw [locateParams_rejects_empty_bulk hl hg hbulk] at hq; cases hq
  | omitemptyMix tid n f c ex hd els h hf hg hbulk e1 e2 s1 s2 v1 v2 h1 h2 hs1 hs2 hv1 hv2 hz1 hz2 =>
    obtain ⟨q, hq, _⟩ := s.located h
    obtain ⟨e, he⟩ := bulkFieldVals_rejects_mix hf h1 h2 hs1 hs2 hv1 hv2 hz1 hz2
    have hne : els.isEmpty = false := by cases els with | nil => cases h1 | cons _ _ => rfl
    simp [locateParams, hg, hbulk, hne, he] at hq
  | explicitZero l c p h hp hom =>
    obtain ⟨q, hq, hex, _⟩ := s.located h
    rw [hp] at hq; cases hq
    cases hex hom

/-- C04.8.  "Before anything reaches the driver": `bindInputs` fails, and `DB.Query` (sqlair.go) then
    keeps the error and builds nothing to run. -/
theorem insert_rejections {tt : TypeTable} {tes : List TExpr} {args : List GoVal} {m : TypeToValue}
    {cols : List TCol} (hm : validateInputs tt args [] = .ok m) (hte : TExpr.insert cols ∈ tes)
    (hr : InsertRejected tt m cols) : ∃ e, bindInputs tt tes args = .error e :=
  bindInputs_error_of_step hm hte (insert_rejections_step hr)

/-- C04.8, the last case, for `$T.member` outside an insert (`typedInputExpr.addToQuery`, bindinputs.go) -/
theorem input_rejection_explicit_zero {tt : TypeTable} {tes : List TExpr} {args : List GoVal}
    {m : TypeToValue} {l : Loc} {p : Params} (hm : validateInputs tt args [] = .ok m)
    (hte : TExpr.input l ∈ tes) (hp : locateParams tt m l = .ok p) (hom : p.om = true) :
    ∃ e, bindInputs tt tes args = .error e :=
  bindInputs_error_of_step hm hte (fun _ => ⟨_, input_rejects_explicit_zero hp hom⟩)

namespace RejectExample

example : bindInputs tt [.insert [colA, colC]]
    [sliceT [rowT "x" false, rowT "y" false], sliceU [rowU, rowU, rowU]] =
    .error "mismatched-bulk-lengths" := mismatched
example : bindInputs tt [.insert [colA]] [sliceT []] = .error "empty-slice" := rfl
example : bindInputs tt [.insert [colA, colB]] [sliceT [rowT "x" true, rowT "y" false]] =
    .error "omitempty-mix" := rfl
example : bindInputs tt [.insert [colA, colBx]] [rowT "x" true] = .error "omitempty-explicit-zero" := rfl
example : bindInputs tt [.input (.field 0 #[84] fb)] [rowT "x" true] = .error "omitempty-explicit-zero" := rfl
/-- not a rejection: `colB` is not explicit (it stands for a column that came from `$T.*`), and zero in
    both rows, so it is omitted -/
example : bindInputs tt [.insert [colA, colB]] [sliceT [rowT "x" true, rowT "y" true]] =
    .ok { pieces := [.insert [#[97]] [[.ph 0], [.ph 1]]], params := [(0, "x"), (1, "y")], outputs := [] } := rfl

example : InsertRejected tt [(0, rowT "x" true)] [colA, colBx] :=
  .explicitZero (.field 0 #[84] fb) #[98] { vals := ["b"], om := true, bulk := false, argType := 0 }
    (.tail _ (.head _)) rfl rfl

example : ∃ e, bindInputs tt [.insert [colA, colBx]] [rowT "x" true] = .error e :=
  insert_rejections (m := [(0, rowT "x" true)]) (cols := [colA, colBx]) rfl (.head _)
    (.explicitZero (.field 0 #[84] fb) #[98] { vals := ["b"], om := true, bulk := false, argType := 0 }
      (.tail _ (.head _)) rfl rfl)

end RejectExample

/-- C05.9.  Unique: the alias numbers (`k` of `AS _sqlair_k`, `writeOutput` in querybuilder.go) are
    `0, …, n-1` in textual order.  Identifies its destination: the `k`-th column text and the `k`-th entry
    of `pq.outputs`, which is where the column with alias `k` is scanned to, are the `k`-th pair of the
    typed expressions. -/
theorem aliases_dense {tt : TypeTable} {tes : List TExpr} {args : List GoVal} {pq : Primed}
    (h : bindInputs tt tes args = .ok pq) :
    aliasesOf pq.pieces = List.range pq.outputs.length ∧
    (∀ pre first cols post, pq.pieces = pre ++ Piece.outputs first cols :: post →
      first = (pre.map Piece.numOut).sum) ∧
    pq.outputs.length = (pq.pieces.map Piece.numOut).sum ∧
    pq.pieces.flatMap Piece.outCols = (tes.flatMap TExpr.outCols).map (·.1) ∧
    pq.outputs = (tes.flatMap TExpr.outCols).map (·.2) := by
  obtain ⟨qb, inv, hpc, _, hout⟩ := bindInputs_inv h
  obtain ⟨_, hcols, houts⟩ := bindInputs_grow h
  refine ⟨by rw [hout, hpc, inv.outLen]; exact inv.aliases, ?_, by rw [hout, hpc, inv.outLen]; exact inv.outCount,
    hcols, houts⟩
  intro pre first cols post hp
  have := inv.firsts
  rw [← hpc, hp, outFirstsOK_append, outFirstsOK_cons] at this
  simpa using this.2.1 first cols rfl

open BindExample in
example : aliasesOf expected.pieces = [0, 1] := (aliases_dense bindInputs_example).1

/-- C05.10, with `HasOutputs` (query.go: `len(pq.outputs) > 0`, which chooses `QueryContext` over
    `ExecContext` in sqlair.go) read as `pq.outputs ≠ []`; an output expression counts if it has a column. -/
theorem hasOutputs_iff {tt : TypeTable} {tes : List TExpr} {args : List GoVal} {pq : Primed}
    (h : bindInputs tt tes args = .ok pq) :
    pq.outputs ≠ [] ↔ ∃ cols, TExpr.output cols ∈ tes ∧ cols ≠ [] := by
  rw [(bindInputs_grow h).2.2]
  constructor
  · intro hne
    obtain ⟨x, hx⟩ := List.exists_mem_of_ne_nil _ hne
    simp only [List.mem_map, List.mem_flatMap] at hx
    obtain ⟨c, ⟨te, hte, hc⟩, _⟩ := hx
    cases te with
    | output cols => exact ⟨cols, hte, List.ne_nil_of_mem hc⟩
    | _ => simp [TExpr.outCols] at hc
  · rintro ⟨cols, hte, hne⟩
    obtain ⟨c, hc⟩ := List.exists_mem_of_ne_nil _ hne
    apply List.ne_nil_of_mem (a := c.2)
    simp only [List.mem_map, List.mem_flatMap]
    exact ⟨c, ⟨_, hte, hc⟩, rfl⟩

open BindExample in
example : expected.outputs ≠ [] :=
  (hasOutputs_iff bindInputs_example).2
    ⟨[(#[99], .field 2 #[85] fc), (#[97], .field 0 #[84] fa)], .tail _ (.tail _ (.tail _ (.head _))),
      List.cons_ne_nil _ _⟩

/-- C05.11 for one output node, partial: the node is arbitrary but for `NodeNoStarEnd s` (its members and
    columns are `*` or do not end with the byte `*`), and the struct tags do not end with `*`
    (`ValidTagsEnd`, which `generateArgInfo_validTagsEnd` gives).  Without the hypothesis on the node the
    `t.*` half is false of the model: the member `x.*` of a map type generates the column `x.*` (an
    `example` in `Bind/Tag.lean`).  The parser builds no such node (`parse_nodeNoStarEnd`,
    `Bind/ParserNodes.lean`), which gives `no_wildcard_generated` below. -/
theorem no_wildcard_generated_partial {st st' : TEB} {s : OSeg} (hk : s.kind = .output)
    (h : bindSeg st s = .ok st') (hv : ValidTagsEnd st.argInfos) (hn : NodeNoStarEnd s) :
    ∃ cols, st'.exprs = st.exprs ++ [.output cols] ∧
      ∀ c ∈ cols, c.1 ≠ star ∧ ∀ t, c.1 ≠ t ++ dot ++ star :=
  bindSeg_no_wildcard hk h hv hn

/-- C05.11 for `bindTypes`, partial in the same way.  `hC`: the classifier (`unicode.IsLetter`,
    `unicode.IsDigit` in `parseTag`, arginfo.go) does not take `*` for a letter or a digit; with one that
    does, a field tagged `*` is accepted and `&T.*` generates the column `*` (an `example` in
    `Bind/Tag.lean`). -/
theorem no_wildcard_prepared_partial {C : Cls} (hC : C.letter 42 = false ∧ C.digit 42 = false)
    {tt : TypeTable} {segs : List OSeg} {samples : List (Option Nat)} {tes : List TExpr}
    (h : bindTypes C tt segs samples = .ok tes) (hn : ∀ s ∈ segs, NodeNoStarEnd s) :
    ∀ cols, TExpr.output cols ∈ tes → ∀ c ∈ cols, c.1 ≠ star ∧ ∀ t, c.1 ≠ t ++ dot ++ star :=
  bindTypes_no_wildcard hC h hn

open PrepExample in
example : ∀ cols, TExpr.output cols ∈ tes → ∀ c ∈ cols, c.1 ≠ star ∧ ∀ t, c.1 ≠ t ++ dot ++ star :=
  no_wildcard_prepared_partial (C := C) (by decide) bindTypes_example (by
    intro s hs
    rcases hs with _ | ⟨_, _ | ⟨_, _ | ⟨_, _ | ⟨_, hs⟩⟩⟩⟩
    case tail.tail.tail.tail => cases hs
    all_goals (unfold NodeNoStarEnd NoStarEnd; decide))

/-- C05.11 in full, for the typed expressions of a query that went through `parse` (with `decodeRune`, the
    port of `utf8.DecodeRuneInString`) and `bindTypes`, for every type table.  `hC` is needed in the parser too:
    with `*` a letter the member of `&T.a*` is the name `a*` (an `example` in `Bind/ParserNodes.lean`). -/
theorem no_wildcard_generated (inp : Bytes) {C : Cls}
    (hC : C.letter 42 = false ∧ C.digit 42 = false)
    {tt : TypeTable} {segs : List Seg} {samples : List (Option Nat)} {tes : List TExpr}
    (hp : parse { inp := inp, dec := decodeRune, letter := C.letter, digit := C.digit } = .ok segs)
    (hb : bindTypes C tt (segs.map (Seg.toOSeg inp)) samples = .ok tes) :
    ∀ cols, TExpr.output cols ∈ tes → ∀ c ∈ cols, c.1 ≠ star ∧ ∀ t, c.1 ≠ t ++ dot ++ star :=
  parse_bindTypes_no_wildcard_decodeRune inp hC hp hb

/-- `SELECT &T.* FROM t` (`ParserNodesEx.q1`) with a struct `T` tagged `a`, `b`: both hypotheses hold -/
example : (bindTypes ParserNodesEx.cls ParserNodesEx.tt
      (ParserNodesEx.segs1.map (Seg.toOSeg ParserNodesEx.q1)) [some 0]).isOk = true ∧
    ∀ tes, bindTypes ParserNodesEx.cls ParserNodesEx.tt
      (ParserNodesEx.segs1.map (Seg.toOSeg ParserNodesEx.q1)) [some 0] = .ok tes →
    ∀ cols, TExpr.output cols ∈ tes → ∀ c ∈ cols, c.1 ≠ star ∧ ∀ t, c.1 ≠ t ++ dot ++ star :=
  ⟨by rfl, fun _ hb => no_wildcard_generated ParserNodesEx.q1 (C := ParserNodesEx.cls) (by decide)
    ParserNodesEx.parse_q1 hb⟩

/-- C07.12: "internal error: no bulk insert value" of `boundInsertColumn.parameter` (querybuilder.go) is
    unreachable, for hand-built typed expressions too: after `bindCols` every bulk column has `numRows`
    values and every other column at most one. -/
theorem addInsert_total_after_bindCols {tt : TypeTable} {m : TypeToValue} {qb qb1 : QB}
    {cols : List TCol} {bcs : List BCol} {numRows : Nat}
    (hb : bindCols tt m cols qb [] false 1 = .ok (qb1, bcs, numRows)) :
    ∃ qb', addInsert qb1 bcs numRows = .ok qb' :=
  addInsert_ok (bindCols_shape hb)

/-- C07.12: the two `internal error` returns on the way of `BindInputs` (`insertColumn.bindInputs`,
    bindinputs.go; `boundInsertColumn.parameter`, querybuilder.go) are unreachable for the typed
    expressions of `bindTypes`, whatever the arguments: `bindTypes` puts no slice locator in an insert
    column (`bindTypes_noSlice`).  Of C07 only this clause is proved here; which statements Prepare
    accepts is in `Props/Typed.lean`. -/
theorem no_internal_error {C : Cls} {tt : TypeTable} {segs : List OSeg} {samples : List (Option Nat)}
    {tes : List TExpr} (h : bindTypes C tt segs samples = .ok tes) (args : List GoVal) :
    bindInputs tt tes args ≠ .error "internal-multiple-values" ∧
    bindInputs tt tes args ≠ .error "internal-no-bulk-value" := by
  have hns := bindTypes_noSlice h
  constructor
  · intro he; exact bindInputs_no_internal_error hns args _ he (Or.inl rfl)
  · intro he; exact bindInputs_no_internal_error hns args _ he (Or.inr rfl)

open PrepExample in
example : bindInputs tt tes args ≠ .error "internal-multiple-values" :=
  (no_internal_error bindTypes_example args).1

/-- the hypothesis is needed: a hand-built insert column with a slice locator reaches the internal error -/
example :
    let tt : TypeTable := #[{ kind := .slice, kindStr := "slice", name := #[83], elem := 1 }]
    let v : GoVal := .slice { t := 0, zero := false, r := "" }
      [.leaf { t := 1, zero := false, r := "x" }, .leaf { t := 1, zero := false, r := "y" }]
    bindInputs tt [.insert [.insert (.slice 0 #[83]) #[97] false]] [v] =
      .error "internal-multiple-values" := rfl

/-- C16.13, partial: acceptance and the whole result of `bindInputs` (SQL pieces, arguments, outputs) do not
    depend on the order of the arguments, for the typed expressions of `bindTypes` and under `SliceCanon tt`;
    `toOption`, because the error reported may differ.  For arbitrary typed expressions and type tables the
    statement is false of the model (`Bind/Perm.lean`), in two ways.
    The "type and its slice" test of `ValidateInputs` (validate.go) is asymmetric for an anonymous `[]P`
    with `P` a pointer type other than the anonymous `*T` of a struct or map `T`: with hand-built typed
    expressions one order is accepted and the other rejected
    (`bindInputs_perm_counterexample_named_slice`, `bindInputs_perm_counterexample_named_ptr`; excluded by
    `PtrSliceSym` in `bindInputs_perm_invariant_partial`).  For a prepared statement this changes the error
    only: no expression of `bindTypes` can use an argument of such a type, so the order that passes the
    test fails too, at the latest with "argument-not-used" (`Bind/PermPrepared.lean`).
    A type table with two ids for one `[]T` makes the bulk look-up depend on the order
    (`bindInputs_perm_counterexample_noncanonical`); `reflect.Type` values are canonical, so `SliceCanon tt`
    excludes an artefact of the model only. -/
theorem bindInputs_perm_invariant_prepared_partial {C : Cls} {tt : TypeTable} {segs : List OSeg}
    {samples : List (Option Nat)} {tes : List TExpr} (h : bindTypes C tt segs samples = .ok tes)
    (hB : SliceCanon tt) {args args' : List GoVal} (hp : args.Perm args') :
    (bindInputs tt tes args).toOption = (bindInputs tt tes args').toOption :=
  bindInputs_perm_invariant_of_kindOK tt tes (bindTypes_inputLocs_kindOK h) (hB.on _) hp

open PrepExample in
example : (bindInputs tt tes args).toOption = (bindInputs tt tes args.reverse).toOption ∧
    (bindInputs tt tes args).isOk = true :=
  ⟨bindInputs_perm_invariant_prepared_partial bindTypes_example
    ((sliceCanon_iff_range tt).2 (by decide +kernel)) (List.reverse_perm _).symm, rfl⟩

end Sqlair
