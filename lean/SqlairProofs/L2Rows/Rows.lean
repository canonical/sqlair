/-
  L2Rows/Rows: the row-level lemma (`ByTag`) and the rectangle lemma (`Grid`) put together:
  `holdsC04rows` accepts every observation whose values are, row by row, the texts the index
  paths of `getStructFields` reach (`fieldByIndex`), for a selection of the fields of `T` that
  is the column list of the statement or a sublist of the sorted tags.
-/
import SqlairProofs.L2Rows.ByTag
import SqlairProofs.L2Rows.Grid
import SqlairProofs.Typed.Samples

namespace Sqlair

variable {tt : TypeTable} {C : Cls} {tid tid' : Nat} {n : Bytes} {fields : List SField} {stags : List Bytes}

/-- the struct a row of type `T` or `*T` stands for: `ValidateInputs` dereferences the argument
    (`reflect.Indirect`), `structField.LocateParams` a pointer element of a bulk slice -/
def rowStruct (row : GoVal) : GoVal := indirect row

theorem rowStruct_eq (row : GoVal) : rowStruct row = indirect row := rfl

/-- `""` where the path fails; the path of a field of `T` does not, in a `RowOf` row on which
    `tagsOfVal` succeeds (`row_by_tag`) -/
def fbiText (row : GoVal) (idx : List Nat) : String :=
  match fieldByIndex (rowStruct row) idx true with
  | .ok v => v.h.r
  | .error _ => ""

theorem fbiText_of_ok {row v : GoVal} {idx : List Nat} (h : fieldByIndex (rowStruct row) idx true = .ok v) :
    fbiText row idx = v.h.r := by
  rw [fbiText, h]

def RowOf (tt : TypeTable) (tid : Nat) (row : GoVal) : Prop :=
  ValWF tt row ∧ (row.tid = tid ∨ ∃ h p, row = .ptr h (some p) ∧ p.tid = tid)

theorem rowOf_of_indirect {tid : Nat} {arg : GoVal} (hwf : ValWF tt arg)
    (ht : (indirect arg).tid = tid) : RowOf tt tid arg := by
  refine ⟨hwf, ?_⟩
  cases arg with
  | ptr h p =>
    cases p with
    | none => exact .inl ht
    | some q => exact .inr ⟨h, q, rfl, ht⟩
  | _ => exact .inl ht

/-- `getStructFields_row`, applied to the row or under its pointer (which spends one unit of the fuel 8);
    stated for C04 as `c04rows_row_by_tag` (`Props/L2Rows.lean`) -/
theorem row_by_tag (hemb : embPtrOK tt = true)
    (hinfo : getArgInfo C tt tid = .ok (.struct tid' n fields stags))
    {row : GoVal} (hrow : RowOf tt tid row) {tags : List Bytes} (ht : tagsOfVal C tt 8 row = some tags) :
    tags = fields.map (·.tag) ∧
    ∀ f ∈ fields, ∃ fv, fieldByIndex (rowStruct row) f.index true = .ok fv ∧
      valueByTag C tt 8 row f.tag = some fv := by
  obtain ⟨_, _, hk, hnd, _, hgs⟩ := getArgInfo_struct hinfo
  obtain ⟨hwf, hty⟩ := hrow
  rcases hty with hty | ⟨h, p, rfl, hp⟩
  · obtain ⟨hw, fsw, rfl, _⟩ := hwf.struct_inv (by rw [hty]; exact hk)
    exact (getStructFields_row hemb hgs hwf hty ht).imp_right fun h => h hnd
  · have hpwf : ValWF tt p := by
      cases hwf with
      | ptr _ _ _ _ h => exact h
    obtain ⟨hw, fsw, rfl, _⟩ := hpwf.struct_inv (by rw [hp]; exact hk)
    rw [tagsOfVal_ptr] at ht
    have := getStructFields_row hemb hgs hpwf hp ht
    exact ⟨this.1, fun f hf => valueByTag_ptr C tt 7 h _ f.tag ▸ this.2 hnd f hf⟩

/-- C04 for struct rows, up to the bookkeeping of the bind layer (`c04tail_model`). The tags of the
    first row are those of the fields of `T` (`row_by_tag`), which have no duplicates, so the
    `sortBytes tags.eraseDups` of the predicate is `stags` -/
theorem c04tail_of_paths {rows : List GoVal} {o : BindObs}
    {s : OSeg}
    (hemb : embPtrOK tt = true)
    (hinfo : getArgInfo C tt tid = .ok (.struct tid' n fields stags))
    (hrows : ∀ row ∈ rows, RowOf tt tid row)
    (sel : List SField) (hsel : ∀ f ∈ sel, f ∈ fields)
    (hvals : o.params.map (·.2) = (rows.map fun row => sel.map fun f => fbiText row f.index).flatten)
    (hcols : (s.kind = .colInsert ∧ s.cols.map (·.column) = sel.map (·.tag)) ∨
      (s.kind = .astInsert ∧ (sel.map (·.tag)).Sublist stags)) :
    c04tail C tt s o rows = true := by
  cases hm : rows.mapM (tagsOfVal C tt 8) with
  | none => exact c04tail_of_mapM_none hm
  | some tagLists =>
    have hcorr := Corr.of_mapM hm
    obtain ⟨_, _, _, hnd, hst, _⟩ := getArgInfo_struct hinfo
    refine c04tail_of_grid (tag := SField.tag) (cell := fun row f => fbiText row f.index) hvals ?_ ?_
    · intro row hr f hf
      obtain ⟨tags, _, ht⟩ := hcorr.mem hr
      obtain ⟨fv, h1, h2⟩ := (row_by_tag hemb hinfo (hrows row hr) ht).2 f (hsel f hf)
      exact ⟨fv, h2, (fbiText_of_ok h1).symm⟩
    · rcases hcols with ⟨hk, hc⟩ | ⟨hk, hc⟩
      · exact .inl ⟨hk, hc⟩
      · refine .inr ⟨hk, ?_⟩
        intro tags tl he
        rw [hm] at he
        cases he
        obtain ⟨r0, hr0, hy⟩ := hcorr.mem_right (b := tags) List.mem_cons_self
        rw [(row_by_tag hemb hinfo (hrows r0 hr0) hy).1, eraseDups_of_nodup hnd, ← hst]
        exact hc

end Sqlair
