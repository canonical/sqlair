/-
  L2Rows/ByTag: the member search by tag (`valueByTag`, `tagsOfVal`) against the index paths
  `getStructFields` computes.  For a well-formed struct value whose embedded pointers do not
  point to maps or pointers (`embPtrOK`), whenever `tagsOfVal` succeeds it lists the tags of
  `getStructFields` in the same order, and `valueByTag` is the look-up by tag in the list of the fields
  paired with the values their index paths reach (`RowAssoc`); with pairwise different tags,
  `valueByTag … f.tag` is therefore the value `fieldByIndex … f.index` reaches (`getStructFields_row`).
  One induction over `FieldsFrom` (Typed/Fields.lean): `RowLoop` is its statement, `RowLoop.cons` its step, given what
  the head field contributes to the two searches (`RowStep`).
-/
import SqlairModel.Spec.L2Rows
import SqlairProofs.NoPanic.ValWF
import SqlairProofs.Typed.Fields

namespace Sqlair

variable {tt : TypeTable}

/-- `embPtrOK` (Spec/L2Rows.lean) for one field descriptor, as a proposition -/
def EmbCond (tt : TypeTable) (fd : FieldDesc) : Prop :=
  fd.anon = true → fd.exported = true → fd.tag.size = 0 → (tt.get fd.ty).kind = .ptr →
    (tt.get (tt.get fd.ty).elem).kind ≠ .map ∧ (tt.get (tt.get fd.ty).elem).kind ≠ .ptr

theorem embPtrOK_field (h : embPtrOK tt = true) {i : Nat} {f : FieldDesc} (hf : f ∈ (tt.get i).fields) :
    EmbCond tt f := by
  intro ha he ht hk
  unfold TypeTable.get at hf
  by_cases hi : i < tt.size
  · have hmem : tt.getD i default ∈ tt := by
      simp [Array.getD, hi]
    unfold embPtrOK at h
    rw [Array.all_eq_true'] at h
    have := h _ hmem
    rw [List.all_eq_true] at this
    have := this f hf
    simpa [ha, he, ht, hk] using this
  · have : tt.getD i default = default := by simp [Array.getD, hi]
    rw [this] at hf
    cases hf

/-- the function `tagsOfVal` folds over the (descriptor, value) pairs of a struct, under a name; the two
    must stay the same text (`tagsOfVal_struct` is `rfl`) -/
def tovStep (C : Cls) (tt : TypeTable) (k : Nat) (acc : Option (List Bytes)) (p : FieldDesc × GoVal) :
    Option (List Bytes) :=
  match acc with
  | none => none
  | some l =>
    if p.1.tag.size != 0 then
      match parseTag C p.1.tag with
      | .ok (name, _) => if p.1.exported then some (l ++ [name]) else some l
      | .error _ => none
    else if p.1.anon && p.1.exported then
      match p.2 with
      | .struct .. => (tagsOfVal C tt k p.2).map (l ++ ·)
      | .ptr _ (some q) => (tagsOfVal C tt k q).map (l ++ ·)
      | .ptr _ none => none
      | _ => some l
    else some l

/-- likewise for the search of `valueByTag` (`valueByTag_struct`) -/
def vbtStep (C : Cls) (tt : TypeTable) (k : Nat) (tag : Bytes) (p : FieldDesc × GoVal) : Option GoVal :=
  if p.1.tag.size != 0 then
    match parseTag C p.1.tag with
    | .ok (name, _) => if name == tag && p.1.exported then some p.2 else none
    | .error _ => none
  else if p.1.anon && p.1.exported then
    match p.2 with
    | .struct .. => valueByTag C tt k p.2 tag
    | .ptr _ (some q) => valueByTag C tt k q tag
    | _ => none
  else none

theorem tagsOfVal_struct (C : Cls) (tt : TypeTable) (k : Nat) (h : VH) (fs : List GoVal) :
    tagsOfVal C tt (k + 1) (.struct h fs) = ((tt.get h.t).fields.zip fs).foldl (tovStep C tt k) (some []) := by
  unfold tagsOfVal tovStep
  rfl

theorem valueByTag_struct (C : Cls) (tt : TypeTable) (k : Nat) (h : VH) (fs : List GoVal) (tag : Bytes) :
    valueByTag C tt (k + 1) (.struct h fs) tag = ((tt.get h.t).fields.zip fs).findSome? (vbtStep C tt k tag) := by
  unfold valueByTag vbtStep
  rfl

theorem tagsOfVal_ptr (C : Cls) (tt : TypeTable) (k : Nat) (h : VH) (p : GoVal) :
    tagsOfVal C tt (k + 1) (.ptr h (some p)) = tagsOfVal C tt k p := rfl

theorem valueByTag_ptr (C : Cls) (tt : TypeTable) (k : Nat) (h : VH) (p : GoVal) (tag : Bytes) :
    valueByTag C tt (k + 1) (.ptr h (some p)) tag = valueByTag C tt k p tag := rfl

theorem valueByTag_map_arg {C : Cls} {arg : GoVal} {h : VH} {kv : Option (List (Bytes × GoVal))}
    (hi : indirect arg = .map h kv) (key : Bytes) : valueByTag C tt 8 arg key = mapIndex kv key := by
  rcases indirect_cases arg with ⟨hd, p, rfl, hp⟩ | hp <;>
  · rw [hp] at hi
    subst hi
    rfl

theorem tovStep_foldl_none (C : Cls) (tt : TypeTable) (k : Nat) : ∀ ps : List (FieldDesc × GoVal),
    ps.foldl (tovStep C tt k) none = none := by
  intro ps
  induction ps with
  | nil => rfl
  | cons p rest ih => simpa [List.foldl_cons, tovStep] using ih

theorem fbi_struct_first (h : VH) (fs : List GoVal) (idx : List Nat) (hne : idx ≠ []) :
    fieldByIndex (.struct h fs) idx false = fieldByIndex (.struct h fs) idx true := by
  cases idx with
  | nil => exact absurd rfl hne
  | cons j rest => rfl

theorem fbi_struct_append (h : VH) (pre : List GoVal) (x : GoVal) (post : List GoVal) (rest : List Nat) :
    fieldByIndex (.struct h (pre ++ x :: post)) (pre.length :: rest) true = fieldByIndex x rest false := by
  rw [fieldByIndex_struct, List.getElem?_append_right (Nat.le_refl _), Nat.sub_self]
  rfl

theorem tagsOfVal_none_of_kind {C : Cls} {q : GoVal} (hq : ValWF tt q)
    (h1 : (tt.get q.tid).kind ≠ .struct) (h2 : (tt.get q.tid).kind ≠ .map) (h3 : (tt.get q.tid).kind ≠ .ptr)
    (k : Nat) : tagsOfVal C tt k q = none := by
  cases k with
  | zero => rfl
  | succ k =>
    cases hq with
    | struct hd fs hk _ _ _ => exact absurd hk h1
    | ptrNil hd hk => exact absurd hk h3
    | ptr hd p hk _ _ => exact absurd hk h3
    | mapNil hd hk => exact absurd hk h2
    | map hd kv hk _ _ => exact absurd hk h2
    | _ => rfl

/-- the first alternative is the nil pointer; `.struct hw fsw` is the value of the field or what it points to -/
theorem rowStep_embedding (C : Cls) (k : Nat) {fd : FieldDesc} {fv : GoVal}
    (hemb : fd.Embedding tt) (hwf : ValWF tt fv) (hty : fv.tid = fd.ty) :
    (∀ l, tovStep C tt k (some l) (fd, fv) = none) ∨
    ∃ hw fsw, ValWF tt (.struct hw fsw) ∧ hw.t = embTarget tt fd ∧
      (∀ l, tovStep C tt k (some l) (fd, fv) = (tagsOfVal C tt k (.struct hw fsw)).map (l ++ ·)) ∧
      (∀ t, vbtStep C tt k t (fd, fv) = valueByTag C tt k (.struct hw fsw) t) ∧
      ∀ idx, idx ≠ [] → fieldByIndex fv idx false = fieldByIndex (.struct hw fsw) idx true := by
  obtain ⟨ha, htag, he, hk⟩ := hemb
  unfold embTarget at hk ⊢
  by_cases hkp : (tt.get fd.ty).kind = .ptr
  · rw [if_pos (beq_iff_eq.2 hkp)] at hk ⊢
    rcases hwf.ptr_inv (hty ▸ hkp) with ⟨hd, rfl⟩ | ⟨hd, q, rfl, hqt, hqwf⟩
    · exact .inl fun l => by simp [tovStep, htag, ha, he]
    · have hqt' : q.tid = (tt.get fd.ty).elem := by rw [hqt, hty]
      obtain ⟨hw, fsw, rfl, _⟩ := hqwf.struct_inv (hqt' ▸ hk)
      exact .inr ⟨hw, fsw, hqwf, hqt', fun l => by simp [tovStep, htag, ha, he],
        fun t => by simp [vbtStep, htag, ha, he], fun idx hne => by
          cases idx with
          | nil => exact absurd rfl hne
          | cons j r => rfl⟩
  · rw [if_neg fun h => hkp (beq_iff_eq.1 h)] at hk ⊢
    obtain ⟨hw, fsw, rfl, _⟩ := hwf.struct_inv (hty ▸ hk)
    exact .inr ⟨hw, fsw, hwf, hty, fun l => by simp [tovStep, htag, ha, he],
      fun t => by simp [vbtStep, htag, ha, he], fbi_struct_first hw fsw⟩

def pickTag (t : Bytes) (p : SField × GoVal) : Option GoVal := if p.1.tag == t then some p.2 else none

/-- first alternative: `tagsOfVal` gives up on the pair.  The index paths of `new` are relative to the field value `fv`. -/
def RowStep (C : Cls) (tt : TypeTable) (k : Nat) (fd : FieldDesc) (fv : GoVal) (new : List SField) : Prop :=
  (∀ l, tovStep C tt k (some l) (fd, fv) = none) ∨
  ∃ mv : List (SField × GoVal), new = mv.map (·.1) ∧
    (∀ l, tovStep C tt k (some l) (fd, fv) = some (l ++ new.map (·.tag))) ∧
    (∀ t, vbtStep C tt k t (fd, fv) = mv.findSome? (pickTag t)) ∧
    ∀ p ∈ mv, fieldByIndex fv p.1.index false = .ok p.2

theorem RowStep.nil {C : Cls} {k : Nat} {fd : FieldDesc} {fv : GoVal}
    (h1 : ∀ l, tovStep C tt k (some l) (fd, fv) = some l) (h2 : ∀ t, vbtStep C tt k t (fd, fv) = none) :
    RowStep C tt k fd fv [] :=
  .inr ⟨[], rfl, fun l => by rw [h1 l, List.map_nil, List.append_nil], h2, nofun⟩

/-- `getStructFields` skips such a field.  Where `EmbCond` is needed: on a non-nil embedded pointer to a non-struct
    `tagsOfVal` gives up only because the target is no map, whose keys it would list, and no pointer, which it would
    follow. -/
theorem rowStep_skip (C : Cls) (k : Nat) {fd : FieldDesc} {fv : GoVal}
    (htag : fd.tag.size = 0) (hemb : ¬ fd.Embedding tt) (hwf : ValWF tt fv) (hty : fv.tid = fd.ty)
    (hcond : EmbCond tt fd) : RowStep C tt k fd fv [] := by
  by_cases hae : fd.anon = true ∧ fd.exported = true
  · obtain ⟨ha, he⟩ := hae
    have hk : (tt.get (embTarget tt fd)).kind ≠ .struct := fun hk => hemb ⟨ha, htag, he, hk⟩
    unfold embTarget at hk
    by_cases hkp : (tt.get fd.ty).kind = .ptr
    · rw [if_pos (beq_iff_eq.2 hkp)] at hk
      rcases hwf.ptr_inv (hty ▸ hkp) with ⟨hd, rfl⟩ | ⟨hd, q, rfl, hqt, hqwf⟩
      · exact .inl fun l => by simp [tovStep, htag, ha, he]
      · have hqt' : q.tid = (tt.get fd.ty).elem := by rw [hqt, hty]
        have hc := hcond ha he htag hkp
        have hnone := tagsOfVal_none_of_kind (C := C) hqwf (hqt' ▸ hk) (hqt' ▸ hc.1) (hqt' ▸ hc.2) k
        exact .inl fun l => by simp [tovStep, htag, ha, he, hnone]
    · rw [if_neg fun h => hkp (beq_iff_eq.1 h)] at hk
      cases hwf with
      | struct hd fs hks _ _ _ => exact absurd (hty ▸ hks) hk
      | ptrNil hd hkk => exact absurd (hty ▸ hkk) hkp
      | ptr hd p hkk _ _ => exact absurd (hty ▸ hkk) hkp
      | _ => exact .nil (fun l => by simp [tovStep, htag, ha, he]) fun t => by simp [vbtStep, htag, ha, he]
  · have hae' : (fd.anon && fd.exported) = false := by simpa using hae
    exact .nil (fun l => by simp [tovStep, htag, hae']) fun t => by simp [vbtStep, htag, hae']

variable {C : Cls}

/-- `find` is the search by tag: `valueByTag` on `w` (`RowLoop.struct`), inside `RowLoop` the search in the pairs still
    to come -/
structure RowAssoc (w : GoVal) (find : Bytes → Option GoVal) (fields : List SField) (mv : List (SField × GoVal)) : Prop where
  fields : fields = mv.map (·.1)
  path : ∀ p ∈ mv, p.1.index ≠ [] ∧ fieldByIndex w p.1.index true = .ok p.2
  find : ∀ t, find t = mv.findSome? (pickTag t)

theorem findSome?_pickTag {mv : List (SField × GoVal)} (hnd : (mv.map (·.1.tag)).Nodup) {p : SField × GoVal}
    (hp : p ∈ mv) : mv.findSome? (pickTag p.1.tag) = some p.2 := by
  induction mv with
  | nil => cases hp
  | cons q rest ih =>
    rw [List.map_cons, List.nodup_cons] at hnd
    rw [findSome?_cons_or]
    rcases List.mem_cons.1 hp with rfl | hp
    · simp [pickTag]
    · rw [pickTag, if_neg fun e => hnd.1 (by rw [eq_of_beq e]; exact List.mem_map_of_mem (f := (·.1.tag)) hp)]
      exact ih hnd.2 hp

/-- generalised over the values already passed (`pre`, so that the next field has position `pre.length` and the
    index paths point into `pre ++ ps.map (·.2)`) and the tags listed so far (`l0`) -/
def RowLoop (C : Cls) (tt : TypeTable) (fds : List FieldDesc) (i : Nat) (new : List SField) : Prop :=
  ∀ (k : Nat) (hw : VH) (ps : List (FieldDesc × GoVal)) (pre : List GoVal),
    ps.map (·.1) = fds → pre.length = i →
    (∀ p ∈ ps, ValWF tt p.2 ∧ p.2.tid = p.1.ty ∧ EmbCond tt p.1) →
    ∀ l0 tags, ps.foldl (tovStep C tt k) (some l0) = some tags →
      tags = l0 ++ new.map (·.tag) ∧
      ∃ mv, RowAssoc (.struct hw (pre ++ ps.map (·.2))) (fun t => ps.findSome? (vbtStep C tt k t)) new mv

theorem RowLoop.struct (hemb : embPtrOK tt = true) {tid : Nat} {fields : List SField}
    (h : RowLoop C tt (tt.get tid).fields 0 fields) {k : Nat} {hw : VH} {fsw : List GoVal}
    (hwf : ValWF tt (.struct hw fsw)) (htid : hw.t = tid) {tags : List Bytes}
    (htags : tagsOfVal C tt k (.struct hw fsw) = some tags) :
    tags = fields.map (·.tag) ∧ ∃ mv, RowAssoc (.struct hw fsw) (valueByTag C tt k (.struct hw fsw)) fields mv := by
  cases k with
  | zero => cases htags
  | succ k =>
    rw [tagsOfVal_struct] at htags
    cases hwf with
    | struct _ _ hk hlen hty hwfs =>
      subst htid
      have := h k hw ((tt.get hw.t).fields.zip fsw) []
        (List.map_fst_zip (Nat.le_of_eq hlen.symm)) rfl (by
          intro ⟨fd, fv⟩ hp
          obtain ⟨j, hj⟩ := List.mem_iff_getElem?.1 hp
          obtain ⟨h1, h2⟩ := List.getElem?_zip_eq_some.1 hj
          exact ⟨hwfs fv (List.mem_of_getElem? h2), hty j fv fd h2 h1,
            embPtrOK_field hemb (List.mem_of_getElem? h1)⟩) [] tags htags
      rw [List.nil_append, List.nil_append, List.map_snd_zip (Nat.le_of_eq hlen)] at this
      exact ⟨this.1, this.2.imp fun mv h => ⟨h.fields, h.path, fun t => (valueByTag_struct ..).trans (h.find t)⟩⟩

/-- the one place where the values already passed (`pre`) and the tags listed so far move on: the paths of the step,
    relative to the field value, get the position `pre.length` in front -/
theorem RowLoop.cons {fd : FieldDesc} {rest : List FieldDesc} {i : Nat} {new fs : List SField}
    (hstep : ∀ k fv, ValWF tt fv → fv.tid = fd.ty → EmbCond tt fd → RowStep C tt k fd fv new)
    (ih : RowLoop C tt rest (i + 1) fs) :
    RowLoop C tt (fd :: rest) i (new.map (fun nf => { nf with index := i :: nf.index }) ++ fs) := by
  intro k hw ps pre hps hi hall l0 tags hf
  obtain ⟨⟨fd', fv⟩, ps, rfl, (rfl : fd' = fd), rfl⟩ := List.map_eq_cons_iff.1 hps
  obtain ⟨hfvwf, hfvty, hcond⟩ := hall _ List.mem_cons_self
  rw [List.foldl_cons] at hf
  rcases hstep k fv hfvwf hfvty hcond with hnone | ⟨mv1, hnew, ht, hv, hpath⟩
  · rw [hnone, tovStep_foldl_none] at hf; cases hf
  rw [ht] at hf
  obtain ⟨h2, mv, hm⟩ := List.append_assoc pre [fv] _ ▸ ih k hw ps (pre ++ [fv]) rfl
    (by rw [List.length_append, hi]; rfl) (fun p hp => hall p (List.mem_cons_of_mem _ hp)) _ tags hf
  subst hi
  refine ⟨by rw [h2, List.map_append, List.map_map, List.append_assoc]; rfl,
    mv1.map (fun p => ({ p.1 with index := pre.length :: p.1.index }, p.2)) ++ mv, ?_, ?_, fun t => ?_⟩
  · rw [List.map_append, List.map_map, hnew, List.map_map, hm.fields]; rfl
  · refine List.forall_mem_append.2 ⟨List.forall_mem_map.2 fun p hp => ⟨List.cons_ne_nil _ _, ?_⟩, hm.path⟩
    exact (fbi_struct_append hw pre fv _ p.1.index).trans (hpath p hp)
  · rw [findSome?_cons_or, hv, hm.find t, List.findSome?_append, List.findSome?_map]; rfl

/-- a tagged field is itself the one hit; the members of an embedded struct come from the induction hypothesis for
    its type (`ihn`), through `RowLoop.struct` -/
theorem FieldsFrom.rowLoop (hemb : embPtrOK tt = true) {fds : List FieldDesc} {i : Nat} {new : List SField}
    (h : FieldsFrom C tt fds i new) : RowLoop C tt fds i new := by
  induction h with
  | nil =>
    intro k hw ps pre hps _ _ l0 tags hf
    cases List.map_eq_nil_iff.1 hps
    cases hf
    exact ⟨(List.append_nil _).symm, [], ⟨rfl, fun _ h => (nomatch h), fun _ => rfl⟩⟩
  | @tagged fd rest i r fs htag hexp hp _ ih =>
    exact RowLoop.cons (new := [{ name := fd.name, tag := r.1, omitEmpty := r.2, index := [] }])
      (fun k fv _ _ _ => .inr ⟨[(_, fv)], rfl, fun l => by simp [tovStep, htag, hp, hexp],
        fun t => by simp [vbtStep, pickTag, htag, hp, hexp], fun _ h => List.mem_singleton.1 h ▸ rfl⟩) ih
  | skip htag hne _ ih => exact RowLoop.cons (fun k fv => rowStep_skip C k htag hne) ih
  | @emb fd rest i nested fs hfe _ _ ihn ih =>
    refine RowLoop.cons (fun k fv hwf hty _ => ?_) ih
    rcases rowStep_embedding C k hfe hwf hty with hnone | ⟨hw', fsw, hwf', ht', ht, hv, hfbi⟩
    · exact .inl hnone
    cases htq : tagsOfVal C tt k (.struct hw' fsw) with
    | none => exact .inl fun l => by rw [ht, htq]; rfl
    | some t1 =>
      obtain ⟨rfl, mv1, hm1⟩ := RowLoop.struct hemb ihn hwf' ht' htq
      exact .inr ⟨mv1, hm1.fields, fun l => by rw [ht, htq]; rfl, fun t => (hv t).trans (hm1.find t),
        fun p hp => (hfbi _ (hm1.path p hp).1).trans (hm1.path p hp).2⟩

theorem getStructFields_row (hemb : embPtrOK tt = true) {n : Nat} {visiting : List Nat} {tid : Nat}
    {fields : List SField} (h : getStructFields C tt n visiting tid = .ok fields)
    {k : Nat} {hw : VH} {fsw : List GoVal} (hwf : ValWF tt (.struct hw fsw)) (ht : hw.t = tid)
    {tags : List Bytes} (htags : tagsOfVal C tt k (.struct hw fsw) = some tags) :
    tags = fields.map (·.tag) ∧ ((fields.map (·.tag)).Nodup → ∀ f ∈ fields, ∃ fv,
      fieldByIndex (.struct hw fsw) f.index true = .ok fv ∧ valueByTag C tt k (.struct hw fsw) f.tag = some fv) := by
  obtain ⟨h1, mv, hm⟩ := ((getStructFields_fieldsFrom n visiting tid fields h).rowLoop hemb).struct hemb hwf ht htags
  refine ⟨h1, fun hnd f hf => ?_⟩
  rw [hm.fields] at hf hnd
  obtain ⟨p, hp, rfl⟩ := List.mem_map.1 hf
  exact ⟨p.2, (hm.path p hp).2, (hm.find _).trans (findSome?_pickTag (by rwa [List.map_map] at hnd) hp)⟩

end Sqlair
