/-
  L2Rows/MapRows: the rows that are maps: `(cols) VALUES ($M.*)` over a map sample `M`, run with
  an `M`, `*M`, `[]M` or `[]*M`: the typed columns being map-key locators, one per written column
  (`mapColsE`, `E2E/Shapes.lean`), the values sent are, row by row, the values of the keys.
  At the end, struct and map rows together: what the model sends for a statement whose only
  expression is such an insert satisfies the row clause of `holdsC04rows` (`c04tail_model`).
-/
import SqlairProofs.L2Rows.Assemble
import SqlairProofs.L2Sound.Defs
import SqlairProofs.E2E.Samples

namespace Sqlair

variable {tt : TypeTable}

theorem valueByTag_of_mapElemVal {C : Cls} {k : Bytes} {e v : GoVal}
    (h : mapElemVal k e = some v) : valueByTag C tt 8 e k = some v := by
  obtain ⟨hd, kv, hb, hk⟩ := mapElemVal_eq_some_iff.1 h
  rw [valueByTag_map_arg (bulkElem_ok_iff.1 hb).1.symm, hk]

theorem map_arg_of_indirect {arg : GoVal} {hd : VH} {kv : Option (List (Bytes × GoVal))}
    (hvv : validateValue arg = .ok ()) (hind : indirect arg = .map hd kv) :
    rowsOfArg arg = [arg] ∧ bulkElem arg = .ok (.map hd kv) := by
  refine ⟨rowsOfArg_of_indirect fun hd els h => (nomatch hind.symm.trans h), ?_⟩
  rcases bulkElem_cases arg with ⟨h, rfl, _⟩ | he
  · cases hvv
  · rw [he, hind]

/-- the counterpart of `field_rows` for a key column of `$M.*` (`arg` an `M`, `*M`, `[]M` or `[]*M`) -/
theorem mapKey_rows {arg : GoVal} {tid : Nat} {n k : Bytes} {p : Params} (hvv : validateValue arg = .ok ())
    (hps : ∀ hd hd' els, arg ≠ .ptr hd (some (.slice hd' els)))
    (hp : locateParams tt [argEntry arg] (.mapKey tid n k) = .ok p) :
    (p.bulk = false → (rowsOfArg arg).length = 1) ∧ p.vals = (rowsOfArg arg).map (mapElemR k) ∧
      ∀ row ∈ rowsOfArg arg, ∃ fv, mapElemVal k row = some fv ∧ fv.h.r = mapElemR k row := by
  have found : ∀ {row}, (mapElemVal k row).isSome = true → ∃ fv, mapElemVal k row = some fv ∧ fv.h.r = mapElemR k row :=
    fun h => (Option.isSome_iff_exists.1 h).imp fun fv hfv => ⟨hfv, (mapElemR_of_some hfv).symm⟩
  cases locateParams_ok_iff.1 hp with
  | @mapKey _ _ _ hd kv v hget hk =>
    obtain ⟨a, ha, _, hind⟩ := ttvGet_args_some (args := [arg]) hget
    cases List.mem_singleton.1 ha
    obtain ⟨hrows1, hbe⟩ := map_arg_of_indirect hvv hind
    have hme : mapElemVal k arg = some v := mapElemVal_eq_some_iff.2 ⟨hd, kv, hbe, hk⟩
    rw [hrows1]
    exact ⟨fun _ => rfl, by rw [List.map_singleton, mapElemR_of_some hme],
      List.forall_mem_singleton.2 (found (by rw [hme]; rfl))⟩
  | @mapKeyBulk _ _ _ hd' els hget hbulk _ hall =>
    obtain ⟨a, ha, hind, _⟩ := locateBulk_args (args := [arg]) hbulk
    cases List.mem_singleton.1 ha
    rcases slice_arg_of_indirect hind with ⟨hd, rfl⟩ | rfl
    · exact absurd rfl (hps hd hd' els)
    · exact ⟨nofun, rfl, fun row hr => found (hall row hr)⟩

/-- the columns are explicit, so none is omitted and the kept columns are all of `keys` -/
theorem insert_vals_rect_map {m : TypeToValue} {qb qb' : QB} {tid : Nat} {n : Bytes}
    {keys : List Bytes} {arg : GoVal} (hm : validateInputs tt [arg] [] = .ok m)
    (hs : addToQuery tt m qb (.insert (mapColsE tid n keys)) = .ok qb')
    (hps : ∀ hd hd' els, arg ≠ .ptr hd (some (.slice hd' els))) (hne : keys ≠ []) :
    ∃ news, qb'.params = qb.params ++ news ∧
      news.map (·.2) = ((rowsOfArg arg).map fun row => keys.map fun k => mapElemR k row).flatten ∧
      ∀ row ∈ rowsOfArg arg, ∀ k ∈ keys, ∃ fv, mapElemVal k row = some fv ∧ fv.h.r = mapElemR k row := by
  obtain ⟨rfl, hvv⟩ := validateInputs_single hm
  obtain ⟨hfound, kept, news, _, hk, hpar, hvals⟩ := insert_rect (loc := fun k => Loc.mapKey tid n k)
    (cell := fun row k => mapElemR k row) hne hs fun k p => mapKey_rows hvv hps
  exact ⟨news, hpar, hk rfl ▸ hvals, fun row hrow k hk => hfound k hk row hrow⟩

/-- what the model sends is a faithful rectangle (struct rows: `insert_vals_rect`, map rows: `insert_vals_rect_map`),
    or the predicate is vacuous (no column kept, a pointer to a slice) -/
theorem c04tail_model {C : Cls} {segs : List OSeg} {samples : List (Option Nat)} {tes : List TExpr} {arg : GoVal}
    {pq : Primed} (hguard : c04rowsGuards tt segs = true) (hwf : ValWF tt arg)
    (hp : bindTypes C tt segs samples = .ok tes) (hb : bindInputs tt tes [arg] = .ok pq) {s : OSeg} {a : Acc}
    (hf : segs.filter (·.kind != .bypass) = [s]) (ht : s.types = [a])
    (hkind : s.kind = .astInsert ∨ s.kind = .colInsert) (hmem : a.member = star) :
    c04tail C tt s (modelBindObs pq) (rowsOfArg arg) = true := by
  unfold c04rowsGuards at hguard
  rw [Bool.and_eq_true] at hguard
  obtain ⟨hemb, hqual⟩ := hguard
  have hsmem : s ∈ segs := (List.mem_filter.1 (hf ▸ List.mem_cons_self : s ∈ segs.filter _)).1
  have hstr : s.cols.map (·.str) = s.cols.map (·.column) := by
    apply List.map_congr_left
    intro c hc
    have := List.all_eq_true.1 (List.all_eq_true.1 hqual s hsmem) c hc
    simp only [beq_iff_eq] at this
    simp [Col.str, this]
  by_cases hps : ∃ hd hd' els, arg = .ptr hd (some (.slice hd' els))
  · obtain ⟨hd, hd', els, rfl⟩ := hps
    exact c04tail_ptr_slice hd hd' els
  replace hps := fun hd hd' els h => hps ⟨hd, hd', els, h⟩
  obtain ⟨infos, e, hg, hn, query⟩ := single_insert_run hp hb hf
  have nocol : ∀ {m q1 q2}, addToQuery tt m q1 (.insert []) = .ok q2 → q1.params = [] → pq.params = q2.params →
      c04tail C tt s (modelBindObs pq) (rowsOfArg arg) = true := by
    intro m q1 q2 hadd hq1 hq2
    exact c04tail_of_params_nil (by rw [modelBindObs_params, hq2, insert_nil_params hadd, hq1]; rfl)
  have hshape : (∃ tid n, s.kind = .colInsert ∧ e = .insert (mapColsE tid n (s.cols.map (·.str)))) ∨
      ∃ tid n fields tags ex sel,
      lookupInfo infos a.ty = some (.struct tid n fields tags) ∧
      e = .insert (fieldColsE tid n ex sel) ∧ (∀ f ∈ sel, f ∈ fields) ∧
      ((s.kind = .astInsert ∧ (sel.map (·.tag)).Sublist tags) ∨
       (s.kind = .colInsert ∧ ex = true ∧ sel.map (·.tag) = s.cols.map (·.column))) := by
    rcases hkind with hk | hk
    · obtain ⟨tid, n, fields, tags, hfind, rfl⟩ := hn.astStar hk ht hmem
      exact .inr ⟨tid, n, fields, tags, false, starFieldsOf fields tags, hfind,
        congrArg TExpr.insert (fieldCols_eq_E tid n _), fun f => starFieldsOf_subset, .inl ⟨hk, starFieldsOf_tags_sublist _ _⟩⟩
    · rcases hn.colStar hk ht hmem with ⟨tid, n, _, he'⟩ | ⟨tid, n, fields, tags, sel, hfind, he', htags, hsel⟩
      · exact .inl ⟨tid, n, hk, he'⟩
      · exact .inr ⟨tid, n, fields, tags, true, sel, hfind, he', hsel, .inr ⟨hk, rfl, htags.trans hstr⟩⟩
  rcases hshape with ⟨tid, n, hk, rfl⟩ | ⟨tid, n, fields, tags, ex, sel, hfind, rfl, hsel, hcols⟩
  · -- map rows
    obtain ⟨m, q1, q2, hm, hadd, hq1, hq2⟩ := query rfl
    by_cases hne : s.cols.map (·.str) = []
    · rw [hne] at hadd
      exact nocol hadd hq1 hq2
    obtain ⟨news, hpar, hvals, hg⟩ := insert_vals_rect_map hm hadd hps hne
    refine c04tail_of_grid (cols := s.cols.map (·.column)) (tag := id) (cell := fun row k => mapElemR k row) ?_ ?_
      (.inl ⟨hk, (List.map_id _).symm⟩)
    · rw [modelBindObs_vals, hq2, hpar, hq1, List.nil_append, hvals, hstr]
    · intro row hrow t ht'
      obtain ⟨fv, h1, h2⟩ := hg row hrow t (hstr ▸ ht')
      exact ⟨fv, valueByTag_of_mapElemVal h1, h2⟩
  · -- struct rows
    obtain ⟨tid0, _, _, hinfo, _⟩ := generateArgInfo_mem_sample hg (mem_of_assoc hfind)
    rw [← getArgInfo_ok_iff] at hinfo
    obtain ⟨rfl, _, hkstruct, _, _⟩ := getArgInfo_struct hinfo
    obtain ⟨m, q1, q2, hm, hadd, hq1, hq2⟩ := query rfl
    by_cases hne : sel = []
    · subst hne
      exact nocol hadd hq1 hq2
    obtain ⟨hrows, kept, news, hsub, hkept, hpar, hvals⟩ := insert_vals_rect hm hadd hps hkstruct hwf hne
    refine c04tail_of_paths hemb hinfo hrows kept (fun f hf' => hsel f (hsub.subset hf')) ?_ ?_
    · rw [modelBindObs_vals, hq2, hpar, hq1, List.nil_append, hvals]
    · rcases hcols with ⟨hk, hsl⟩ | ⟨hk, rfl, hc⟩
      · exact .inr ⟨hk, (hsub.map _).trans hsl⟩
      · exact .inl ⟨hk, by rw [hkept rfl, hc]⟩

end Sqlair
