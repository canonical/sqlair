/-
  L2Rows/Assemble: the bookkeeping of the bind layer for an INSERT expansion fed from one
  `$T.*` source of struct type and a single argument: the values `addToQuery` appends to the
  parameters of the query builder (`typedInsertExpr.addToQuery`, internal/expr/bindinputs.go)
  ARE the rectangle `c04tail_of_paths` assumes (row-major, one row per element of the
  argument, the kept members in column order, each the text the index path reaches).
  `insert_rect` assembles the rectangle from a fact per column, whatever the columns are: `field_rows` is that
  fact for a field column, `mapKey_rows` (MapRows.lean) for a key column of a map.
-/
import SqlairProofs.L2Rows.Rows
import SqlairProofs.E2E.Shapes
import SqlairProofs.Typed.Args

namespace Sqlair

variable {m : TypeToValue} {tt : TypeTable} {qb qb' : QB} {α : Type} {e : Bool} {arg : GoVal}

theorem insParams_vals (bcs : List BCol) (numRows : Nat) :
    (insParams bcs numRows).map (·.2) =
      (List.range numRows).flatMap fun r => ((keptCols bcs).map (·.vals)).filterMap (·[r]?) := by
  simp only [insParams, List.map_flatMap, List.map_filterMap, List.filterMap_map, BCol.paramAt_eq, Option.map_map,
    Function.comp_def, Option.map_id']

theorem insert_nil_params (h : addToQuery tt m qb (.insert []) = .ok qb') : qb'.params = qb.params := by
  obtain ⟨bcs, numRows, st⟩ := addToQuery_insert_spec h
  cases bcs with
  | nil => rw [st.params]; simp [insParams, keptCols]
  | cons _ _ => exact st.cols.elim

theorem validateInputs_single (h : validateInputs tt [arg] [] = .ok m) :
    m = [((indirect arg).tid, indirect arg)] ∧ validateValue arg = .ok () := by
  obtain ⟨rfl, hacc, _⟩ := (validateInputs_nil_ok_iff tt [arg] m).1 h
  have := hacc arg List.mem_cons_self
  rw [argOK, Bool.and_eq_true] at this
  cases hv : validateValue arg with
  | ok u => exact ⟨rfl, rfl⟩
  | error e => rw [hv] at this; exact nomatch this.1

theorem fbiText_of_fieldElemVal {f : SField} {el v : GoVal} (h : fieldElemVal f el = some v) :
    fbiText el f.index = fieldElemR f el ∧ ∀ hd, el ≠ .ptr hd none := by
  obtain ⟨s, hs, hv⟩ := fieldElemVal_eq_some_iff.1 h
  obtain ⟨rfl, hnn⟩ := bulkElem_ok_iff.1 hs
  exact ⟨by rw [fieldElemR_of_some h, fbiText_of_ok hv], hnn⟩

theorem insParams_rect {bcs : List BCol} {numRows : Nat} {rows : List GoVal} {cols : List α}
    {vals : α → List String} {cell : GoVal → α → String}
    (hkept : (keptCols bcs).map (·.vals) = cols.map vals) (hnum : numRows = rows.length)
    (hF : ∀ c ∈ cols, ∀ (r : Nat) row, rows[r]? = some row → (vals c)[r]? = some (cell row c)) :
    (insParams bcs numRows).map (·.2) = (rows.map fun row => cols.map (cell row)).flatten := by
  rw [insParams_vals, hkept, hnum, ← List.flatMap_def]
  apply flatMap_range_eq
  intro r row hr
  rw [List.filterMap_map]
  exact (filterMap_congr fun c hc => hF c hc r row hr).trans (congrFun List.filterMap_eq_map' _)

theorem rowsOfArg_of_indirect (h : ∀ hd els, indirect arg ≠ .slice hd els) : rowsOfArg arg = [arg] := by
  rcases indirect_cases arg with ⟨hd, p, rfl, _⟩ | hp
  · rfl
  · cases arg with
    | slice hd els => exact absurd hp (h hd els)
    | _ => rfl

/-- `hcol`: every column holds one value per row (a column that is not bulk holds one value, and then there is one
    row).  `kept` are the columns not omitted.  Every column is located, so whatever else its location tells (`Q`)
    holds of every column. -/
theorem insert_rect {loc : α → Loc} {name : α → Bytes}
    {sel : List α} (hne : sel ≠ [])
    (hs : addToQuery tt m qb (.insert (sel.map fun c => TCol.insert (loc c) (name c) e)) = .ok qb')
    {rows : List GoVal} {cell : GoVal → α → String} {Q : α → Prop}
    (hcol : ∀ c p, locateParams tt m (loc c) = .ok p →
      (p.bulk = false → rows.length = 1) ∧ p.vals = rows.map (cell · c) ∧ Q c) :
    (∀ c ∈ sel, Q c) ∧
    ∃ kept news, kept.Sublist sel ∧ (e = true → kept = sel) ∧ qb'.params = qb.params ++ news ∧
      news.map (·.2) = (rows.map fun row => kept.map (cell row)).flatten := by
  obtain ⟨bcs, numRows, st⟩ := addToQuery_insert_spec hs
  have hc := (ColsBound.corr st.cols).map_left
  refine ⟨fun c hm => let ⟨_, _, p, hp, _⟩ := hc.mem hm; (hcol c p hp).2.2, ?_⟩
  have hnum : numRows = rows.length := by
    by_cases hall : ∀ bc ∈ bcs, bc.bulk = false
    · obtain ⟨c, sel', rfl⟩ := List.exists_cons_of_ne_nil hne
      obtain ⟨bc, hbc, p, hp, _, _, hbb, _⟩ := hc.mem List.mem_cons_self
      rw [st.no_bulk hall, (hcol c p hp).1 (hbb ▸ hall bc hbc)]
    · obtain ⟨bc, hbc, hbk⟩ : ∃ bc ∈ bcs, bc.bulk = true := by simpa using hall
      obtain ⟨c, _, p, hp, hv, _⟩ := hc.mem_right hbc
      rw [← st.bulk_len bc hbc hbk, hv, (hcol c p hp).2.1, List.length_map]
  obtain ⟨kept, hsub, hk, hall⟩ := hc.filter_right fun bc => !bc.om
  refine ⟨kept, _, hsub, fun he => hall fun bc hbc => ?_, st.params,
    insParams_rect (vals := fun c => rows.map (cell · c)) ?_ hnum fun c _ r row hr => by
      rw [List.getElem?_map, hr]; rfl⟩
  · -- a column written in the statement is not omitted
    obtain ⟨c, _, p, _, _, hom, _, _, _, hex⟩ := hc.mem_right hbc
    cases hpo : p.om with
    | false => rw [hom, hpo]; rfl
    | true => cases he ▸ hex hpo
  · exact (hk.map_eq fun c bc ⟨p, hp, hv, _⟩ => ((hcol c p hp).2.1.symm.trans hv.symm)).symm

/-- what `insert_rect` asks (`hcol`) of a field column of `$T.*`.  The rows are a `T`, a `*T`, or the elements of a `[]T`
    or `[]*T`, none nil since `structField.LocateParams` rejects a nil element; `hps` sets the argument `*[]T` aside,
    which `holdsC04rows` takes for one row (`c04tail_ptr_slice`).  Every column tells by itself what the argument is. -/
theorem field_rows {tid : Nat} {n : Bytes} {f : SField} {p : Params}
    (hps : ∀ hd hd' els, arg ≠ .ptr hd (some (.slice hd' els))) (hk : (tt.get tid).kind = .struct) (hwf : ValWF tt arg)
    (hp : locateParams tt [argEntry arg] (.field tid n f) = .ok p) :
    (p.bulk = false → (rowsOfArg arg).length = 1) ∧
      p.vals = (rowsOfArg arg).map (fun row => fbiText row f.index) ∧ ∀ row ∈ rowsOfArg arg, RowOf tt tid row := by
  cases locateParams_ok_iff.1 hp with
  | @field _ _ _ s v hget hv =>
    -- a `T` or a `*T`
    obtain ⟨a, ha, htid, rfl⟩ := ttvGet_args_some (args := [arg]) hget
    cases List.mem_singleton.1 ha
    replace htid : (indirect arg).tid = tid := htid
    obtain ⟨hw, fsw, hst, _⟩ := hwf.indirect.struct_inv (by rw [htid]; exact hk)
    rw [rowsOfArg_of_indirect fun hd els h => nomatch hst.symm.trans h]
    exact ⟨fun _ => rfl, by rw [List.map_singleton, fbiText_of_ok hv],
      List.forall_mem_singleton.2 (rowOf_of_indirect hwf htid)⟩
  | @fieldBulk _ _ _ hd' els hget hbulk _ hall _ =>
    -- a `[]T`, a `[]*T` or a pointer to one of them
    obtain ⟨a, ha, hind, hslice⟩ := locateBulk_args (args := [arg]) hbulk
    cases List.mem_singleton.1 ha
    rcases slice_arg_of_indirect hind with ⟨hd, rfl⟩ | rfl
    · exact absurd rfl (hps hd hd' els)
    obtain ⟨hety, hewf⟩ : (∀ e ∈ els, e.tid = (tt.get hd'.t).elem) ∧ (∀ e ∈ els, ValWF tt e) := by
      cases hwf with
      | slice _ _ _ hty hwf' => exact ⟨hty, hwf'⟩
    refine ⟨nofun, List.map_congr_left fun row hr => ?_, fun row hr => ?_⟩
    · obtain ⟨v, hv⟩ := Option.isSome_iff_exists.1 (hall row hr)
      exact (fbiText_of_fieldElemVal hv).1.symm
    · obtain ⟨v, hv⟩ := Option.isSome_iff_exists.1 (hall row hr)
      have hnn := (fbiText_of_fieldElemVal hv).2
      refine ⟨hewf row hr, ?_⟩
      change isSliceOf tt hd'.t tid = true ∨ isSliceOfPtr tt hd'.t tid = true at hslice
      rcases hslice with hs1 | hs2
      · left
        simp only [isSliceOf, Bool.and_eq_true, beq_iff_eq] at hs1
        rw [hety row hr, hs1.2]
      · right
        simp only [isSliceOfPtr, Bool.and_eq_true, beq_iff_eq] at hs2
        obtain ⟨⟨⟨⟨_, _⟩, hkp⟩, _⟩, hel⟩ := hs2
        rcases (hewf row hr).ptr_inv (by rw [hety row hr]; exact hkp) with ⟨hd, rfl⟩ | ⟨hd, p, rfl, hpt, _⟩
        · exact absurd rfl (hnn hd)
        · exact ⟨hd, p, rfl, by rw [hpt, hety _ hr, hel]⟩

theorem insert_vals_rect {tid : Nat} {n : Bytes}
    {sel : List SField} (hm : validateInputs tt [arg] [] = .ok m)
    (hs : addToQuery tt m qb (.insert (fieldColsE tid n e sel)) = .ok qb')
    (hps : ∀ hd hd' els, arg ≠ .ptr hd (some (.slice hd' els)))
    (hk : (tt.get tid).kind = .struct) (hwf : ValWF tt arg) (hne : sel ≠ []) :
    (∀ row ∈ rowsOfArg arg, RowOf tt tid row) ∧
      ∃ kept news, kept.Sublist sel ∧ (e = true → kept = sel) ∧ qb'.params = qb.params ++ news ∧
        news.map (·.2) = ((rowsOfArg arg).map fun row => kept.map fun f => fbiText row f.index).flatten := by
  obtain ⟨rfl, _⟩ := validateInputs_single hm
  obtain ⟨hrow, h⟩ := insert_rect (loc := fun f => Loc.field tid n f) (Q := fun _ => ∀ row ∈ rowsOfArg arg, RowOf tt tid row)
    hne hs fun f p => field_rows hps hk hwf
  obtain ⟨f0, _, rfl⟩ := List.exists_cons_of_ne_nil hne
  exact ⟨hrow f0 List.mem_cons_self, h⟩

end Sqlair
