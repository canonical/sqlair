/-
  L2Rows/Grid: `holdsC04rows` accepts every faithful rectangle: if the values the driver
  received are, row by row, the texts of the members (found by tag) of the rows for a list of
  columns `cols` with tags `cols.map tag`, and these tags are the columns written in the
  statement (`colInsert`) or a sublist of the sorted tags of the first row (`astInsert`), the
  predicate is true (`c04tail_of_grid`).  `colIsF`, `rowsOfArg`, `c04cols`, `c04tail` and `c04node` are
  the text of the predicate (Spec/L2Rows.lean) cut into named pieces; they must stay copies of it
  (`holdsC04rows_eq` is `rfl`).
-/
import SqlairModel.Spec.L2Rows

namespace Sqlair

variable {tt : TypeTable} {C : Cls} {α : Type} {rows : List GoVal} {o : BindObs} {s : OSeg}
    {cols : List α} {tag : α → Bytes} {cell : GoVal → α → String}

theorem chunk_flatten (m : Nat) (hm : 0 < m) : ∀ (rs : List (List α)) (fuel : Nat),
    (∀ r ∈ rs, r.length = m) → rs.length < fuel → chunk m fuel rs.flatten = rs := by
  intro rs
  induction rs with
  | nil => intro fuel _ hf; cases fuel with
    | zero => omega
    | succ f => rfl
  | cons r rest ih =>
    intro fuel hall hf
    cases fuel with
    | zero => omega
    | succ f =>
      have hr : r.length = m := hall r (by simp)
      cases r with
      | nil => simp at hr; omega
      | cons a r' =>
        simp only [List.flatten_cons, List.cons_append, chunk]
        have h1 : (a :: (r' ++ rest.flatten)).take m = a :: r' := by
          rw [← List.cons_append, List.take_left' hr]
        have h2 : (a :: (r' ++ rest.flatten)).drop m = rest.flatten := by
          rw [← List.cons_append, List.drop_left' hr]
        rw [h1, h2, ih f (fun r hr => hall r (List.mem_cons_of_mem _ hr)) (by simpa using hf)]

/-- the local `colIs` of `holdsC04rows`; the fuel 8 of `valueByTag` and `tagsOfVal` is the constant `holdsC04rows`
    calls them with -/
def colIsF (C : Cls) (tt : TypeTable) (rows : List GoVal) (grid : List (List String)) (c : Nat) (t : Bytes) : Bool :=
  (rows.zip grid).all fun (row, vals) =>
    match valueByTag C tt 8 row t, vals[c]? with
    | some fv, some p => fv.h.r == p
    | _, _ => false

theorem colIsF_true
    (hg : ∀ row ∈ rows, ∀ x ∈ cols, ∃ fv, valueByTag C tt 8 row (tag x) = some fv ∧ fv.h.r = cell row x)
    {c : Nat} {x : α} (hc : cols[c]? = some x) :
    colIsF C tt rows (rows.map fun row => cols.map (cell row)) c (tag x) = true := by
  unfold colIsF
  rw [List.all_eq_true]
  intro ⟨row, vals⟩ hp
  obtain ⟨i, hi, e⟩ := List.mem_iff_getElem.1 hp
  rw [List.getElem_zip, List.getElem_map, Prod.mk.injEq] at e
  obtain ⟨rfl, rfl⟩ := e
  rw [List.length_zip, List.length_map, Nat.min_self] at hi
  obtain ⟨fv, h1, h2⟩ := hg rows[i] (List.getElem_mem hi) x (List.mem_of_getElem? hc)
  simp only [h1, List.getElem?_map, hc, Option.map_some, h2, beq_self_eq_true]

theorem assignCols_mono (fuel : Nat) (cands : List (List Nat)) {lo lo' : Nat} (hle : lo' ≤ lo)
    (h : assignCols fuel cands lo = true) : assignCols fuel cands lo' = true := by
  cases fuel with
  | zero => exact h
  | succ f =>
    cases cands with
    | nil => rfl
    | cons cs rest =>
      simp only [assignCols, List.any_eq_true, Bool.and_eq_true, decide_eq_true_eq] at h ⊢
      obtain ⟨i, hi, hlo, hr⟩ := h
      exact ⟨i, hi, Nat.le_trans hle hlo, hr⟩

/-- stated for the induction on the sublist: `pre` is the part of the sorted tags already passed
    (its length is the lower bound of `assignCols`), `off` the first column not yet assigned; used
    with `pre = []`, `off = 0` -/
theorem assignCols_of_sublist {sorted : List Bytes} (F : Nat → Bytes → Bool) {ts suf : List Bytes}
    (h : ts.Sublist suf) : ∀ (pre : List Bytes) (off : Nat), sorted = pre ++ suf →
    (∀ j t, ts[j]? = some t → F (off + j) t = true) →
    assignCols (ts.length + 1) ((List.range' off ts.length).map fun c =>
      (List.range sorted.length).filter fun i => F c (sorted.getD i #[])) pre.length = true := by
  induction h with
  | slnil => intro pre off _ _; rfl
  | @cons l₁ l₂ a _ ih =>
    intro pre off hs hF
    exact assignCols_mono _ _ (Nat.le_succ _) (by simpa using ih (pre ++ [a]) off (by simp [hs]) hF)
  | @cons_cons l₁ l₂ a _ ih =>
    intro pre off hs hF
    have hget : sorted[pre.length]? = some a := by rw [hs]; simp
    have hgetD : sorted.getD pre.length #[] = a := by simp [List.getD, hget]
    simp only [List.length_cons, List.range'_succ, List.map_cons, assignCols, List.any_eq_true, Bool.and_eq_true,
      decide_eq_true_eq, List.mem_filter, List.mem_range]
    refine ⟨pre.length, ⟨(List.getElem?_eq_some_iff.1 hget).1, ?_⟩, Nat.le_refl _, ?_⟩
    · rw [hgetD]; exact hF 0 a rfl
    · have := ih (pre ++ [a]) (off + 1) (by simp [hs]) fun j t hj => by
        have := hF (j + 1) t (by simpa using hj)
        rwa [show off + (j + 1) = off + 1 + j by omega] at this
      simpa using this

def rowsOfArg (arg : GoVal) : List GoVal :=
  match arg with
  | .slice _ els => els
  | v => [v]

def c04cols (C : Cls) (tt : TypeTable) (s : OSeg) (rows : List GoVal) (tags : List Bytes) (ncols : Nat)
    (grid : List (List String)) : Bool :=
  grid.length == rows.length &&
  if s.kind == .colInsert then
    s.cols.length == ncols &&
    ((List.range ncols).zip s.cols).all fun (c, col) => colIsF C tt rows grid c col.column
  else
    let sorted := sortBytes tags.eraseDups
    let cands : List (List Nat) := (List.range ncols).map fun c =>
      (List.range sorted.length).filter fun i => colIsF C tt rows grid c (sorted.getD i #[])
    assignCols (ncols + 1) cands 0

def c04tail (C : Cls) (tt : TypeTable) (s : OSeg) (o : BindObs) (rows : List GoVal) : Bool :=
  if rows.isEmpty then true else
  match rows.mapM (tagsOfVal C tt 8) with
  | none => true
  | some tagLists =>
    match tagLists with
    | [] => true
    | tags :: _ =>
      let n := o.params.length
      if n == 0 then true else
      if n % rows.length != 0 then false else
      c04cols C tt s rows tags (n / rows.length) (chunk (n / rows.length) (rows.length + 1) (o.params.map (·.2)))

def c04node (C : Cls) (tt : TypeTable) (s : OSeg) (arg : GoVal) (o : BindObs) : Bool :=
  if !(s.kind == .astInsert || s.kind == .colInsert) then true else
  match s.types with
  | [a] => if a.member != star then true else c04tail C tt s o (rowsOfArg arg)
  | _ => true

theorem holdsC04rows_eq (C : Cls) (tt : TypeTable) (segs : List OSeg) (args : List GoVal) (o : BindObs) :
    holdsC04rows C tt segs args o =
      (if !(o.prepOk && o.bindOk) || o.mode == "none" then true else
       match segs.filter (·.kind != .bypass), args with
       | [s], [arg] => c04node C tt s arg o
       | _, _ => true) := rfl

theorem holdsC04rows_of_tail {segs : List OSeg} {args : List GoVal}
    (h : ∀ s a arg, segs.filter (·.kind != .bypass) = [s] → s.types = [a] → args = [arg] →
      (s.kind = .astInsert ∨ s.kind = .colInsert) → a.member = star →
      c04tail C tt s o (rowsOfArg arg) = true) :
    holdsC04rows C tt segs args o = true := by
  rw [holdsC04rows_eq]
  split
  · rfl
  split
  · rename_i s arg hs
    unfold c04node
    split
    · rfl
    rename_i hk
    split
    · rename_i a ha
      split
      · rfl
      rename_i hm
      exact h s a arg hs ha rfl (by simpa [Decidable.or_iff_not_imp_left] using hk) (by simpa using hm)
    · rfl
  · rfl

theorem c04tail_of_mapM_none (h : rows.mapM (tagsOfVal C tt 8) = none) : c04tail C tt s o rows = true := by
  unfold c04tail
  rw [h]
  split <;> rfl

/-- `*[]T`: `tagsOfVal` does not look into the slice -/
theorem c04tail_ptr_slice {s : OSeg} {o : BindObs} (hd hd' : VH) (els : List GoVal) :
    c04tail C tt s o (rowsOfArg (.ptr hd (some (.slice hd' els)))) = true :=
  c04tail_of_mapM_none rfl

theorem c04tail_of_params_nil (h : o.params = []) : c04tail C tt s o rows = true := by
  unfold c04tail
  rw [h]
  split
  · rfl
  · split
    · rfl
    · split <;> rfl

/-- `cols` is anything that carries a tag: the written column names themselves for map rows
    (`tag := id`), the fields of the struct for struct rows (`tag := SField.tag`) -/
theorem c04cols_of_grid {tags : List Bytes}
    (hg : ∀ row ∈ rows, ∀ x ∈ cols, ∃ fv, valueByTag C tt 8 row (tag x) = some fv ∧ fv.h.r = cell row x)
    (hcols : (s.kind = .colInsert ∧ s.cols.map (·.column) = cols.map tag) ∨
      (s.kind = .astInsert ∧ (cols.map tag).Sublist (sortBytes tags.eraseDups))) :
    c04cols C tt s rows tags cols.length (rows.map fun row => cols.map (cell row)) = true := by
  unfold c04cols
  rw [List.length_map, beq_self_eq_true, Bool.true_and]
  rcases hcols with ⟨hk, hct⟩ | ⟨hk, hsub⟩
  · have hlen : s.cols.length = cols.length := by simpa using congrArg List.length hct
    rw [if_pos (by rw [hk]; decide), hlen, beq_self_eq_true, Bool.true_and, List.all_eq_true]
    intro ⟨c, col⟩ hp
    obtain ⟨i, hi⟩ := List.mem_iff_getElem?.1 hp
    obtain ⟨h1, hcol⟩ := List.getElem?_zip_eq_some.1 hi
    obtain rfl : i = c := by simpa using (List.getElem?_eq_some_iff.1 h1).2
    have h2 : (cols.map tag)[i]? = some col.column := by rw [← hct, List.getElem?_map, hcol]; rfl
    rw [List.getElem?_map, Option.map_eq_some_iff] at h2
    obtain ⟨x, hx, hxt⟩ := h2
    show colIsF C tt rows _ i col.column = true
    rw [← hxt]
    exact colIsF_true hg hx
  · rw [if_neg (by rw [hk]; decide), List.range_eq_range']
    have := assignCols_of_sublist (fun c t => colIsF C tt rows (rows.map fun row => cols.map (cell row)) c t)
      hsub [] 0 rfl fun j t hj => by
        rw [List.getElem?_map, Option.map_eq_some_iff] at hj
        obtain ⟨x, hx, rfl⟩ := hj
        rw [Nat.zero_add]
        exact colIsF_true hg hx
    rwa [List.length_map] at this

/-- `chunk` cuts the values back into the rows (`chunk_flatten`) and every written column finds its cell by tag
    (`c04cols_of_grid`) -/
theorem c04tail_of_grid
    (hvals : o.params.map (·.2) = (rows.map fun row => cols.map (cell row)).flatten)
    (hg : ∀ row ∈ rows, ∀ x ∈ cols, ∃ fv, valueByTag C tt 8 row (tag x) = some fv ∧ fv.h.r = cell row x)
    (hcols : (s.kind = .colInsert ∧ s.cols.map (·.column) = cols.map tag) ∨
      (s.kind = .astInsert ∧ ∀ tags tl, rows.mapM (tagsOfVal C tt 8) = some (tags :: tl) →
        (cols.map tag).Sublist (sortBytes tags.eraseDups))) :
    c04tail C tt s o rows = true := by
  unfold c04tail
  split
  · rfl
  rename_i hne
  cases hm : rows.mapM (tagsOfVal C tt 8) with
  | none => rfl
  | some tagLists =>
    cases tagLists with
    | nil => rfl
    | cons tags tl =>
      have hlenv : o.params.length = rows.length * cols.length := by
        have := congrArg List.length hvals
        simp only [List.length_map, List.length_flatten, List.map_map] at this
        rw [this]
        have : (List.map (List.length ∘ fun row => cols.map (cell row)) rows) = rows.map fun _ => cols.length := by
          apply List.map_congr_left; intro r _; simp
        rw [this, List.map_const', List.sum_replicate_nat]
      have hrpos : 0 < rows.length := by
        cases rows with
        | nil => simp at hne
        | cons _ _ => simp
      simp only
      split
      · rfl
      rename_i hn0
      have hcpos : 0 < cols.length := by
        rcases Nat.eq_zero_or_pos cols.length with h0 | h0
        · rw [hlenv, h0] at hn0; simp at hn0
        · exact h0
      rw [hlenv, Nat.mul_mod_right, Nat.mul_comm, Nat.mul_div_cancel _ hrpos, hvals,
        chunk_flatten cols.length hcpos _ _ (by
          intro r hr
          obtain ⟨row, _, rfl⟩ := List.mem_map.1 hr
          simp) (by simp)]
      exact c04cols_of_grid hg (hcols.imp_right fun h => ⟨h.1, h.2 tags tl hm⟩)

theorem holdsC04rows_single {segs : List OSeg} {arg : GoVal}
    (hsegs : segs.filter (·.kind != .bypass) = [s]) (h : c04tail C tt s o (rowsOfArg arg) = true) :
    holdsC04rows C tt segs [arg] o = true := by
  apply holdsC04rows_of_tail
  intro s' _ arg' hs _ harg _ _
  cases hsegs.symm.trans hs
  cases harg
  exact h

end Sqlair
