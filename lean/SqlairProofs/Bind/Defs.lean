/-
  The projections of the generated query in which the bind-layer theorems are stated (placeholder numbers,
  aliases, output columns), and the specification functions of a bound insert column.
-/
import SqlairModel.Bind
import SqlairProofs.Basics

namespace Sqlair

def Cell.phs : Cell → List Nat
  | .ph n => [n]
  | .lit _ => []

/-- the numbers `n` for which `Piece.render` writes `@sqlair_n`, in textual order -/
def Piece.phs : Piece → List Nat
  | .inputs first num => (List.range num).map (first + ·)
  | .insert _ rows => rows.flatMap (fun r => r.flatMap Cell.phs)
  | _ => []

def phsOf (ps : List Piece) : List Nat := ps.flatMap Piece.phs

def Piece.numOut : Piece → Nat
  | .outputs _ cols => cols.length
  | _ => 0

def Piece.outCols : Piece → List Bytes
  | .outputs _ cols => cols
  | _ => []

/-- the numbers `k` for which `Piece.render` writes `AS _sqlair_k`, in textual order -/
def Piece.aliases : Piece → List Nat
  | .outputs first cols => (List.range cols.length).map (first + ·)
  | _ => []

def aliasesOf (ps : List Piece) : List Nat := ps.flatMap Piece.aliases

def TExpr.outCols : TExpr → List (Bytes × Loc)
  | .output cols => cols
  | _ => []

/-- what `TCol.bind` adds to the input count -/
def BCol.width (bc : BCol) : Nat := if bc.om then 0 else bc.vals.length

/-- `BCol.parameter` (`boundInsertColumn.parameter`, querybuilder.go) without its error case: the cell of row
    `r`, and in `BCol.paramAt` the parameter emitted there (`BCol.parameter_eq`, Bind/Insert.lean) -/
def BCol.cellAt (bc : BCol) (r : Nat) : Cell :=
  match bc.vals with
  | [] => .lit bc.literal
  | [_] => .ph bc.first
  | _ => .ph (bc.first + r)

def BCol.paramAt (bc : BCol) (r : Nat) : Option (Nat × String) :=
  match bc.vals with
  | [] => none
  | [v] => if r == 0 then some (bc.first, v) else none
  | vs => vs[r]?.map fun v => (bc.first + r, v)

def keptCols (bcs : List BCol) : List BCol := bcs.filter (fun bc => !bc.om)

/-- the numbering discipline of `bindCols` (column-major) -/
def BChain : Nat → List BCol → Prop
  | _, [] => True
  | c, bc :: rest => (bc.width ≠ 0 → bc.first = c) ∧ BChain (c + bc.width) rest

def bcsEnd (c : Nat) (bcs : List BCol) : Nat := c + (bcs.map BCol.width).sum

def Loc.isSlice : Loc → Bool
  | .slice _ _ => true
  | _ => false

def Loc.nonSlice (l : Loc) : Prop := l.isSlice = false

theorem Loc.nonSlice_iff (l : Loc) : l.nonSlice ↔ ∀ t n, l ≠ Loc.slice t n := by
  cases l <;> simp [Loc.nonSlice, Loc.isSlice]

/-- What `bindTypes` guarantees (`bindTypes_noSlice`, Bind/Tag.lean); `insertColumn.bindInputs` (bindinputs.go)
    reports the other case as an internal error. -/
def TColsNoSlice (cols : List TCol) : Prop :=
  ∀ loc column e, TCol.insert loc column e ∈ cols → loc.nonSlice

theorem TypeTable.get_of_size_le {tt : TypeTable} {s : Nat} (h : tt.size ≤ s) : tt.get s = default := by
  simp [TypeTable.get, Array.getD, Nat.not_lt.2 h]

end Sqlair
