/-
  What the INSERT part of the query builder computes (`typedInsertExpr.addToQuery` in
  `internal/expr/bindinputs.go`, `addInsert` and `boundInsertColumn.parameter` in `querybuilder.go`),
  as closed forms: `bindCols` yields one bound column per typed column, numbered consecutively;
  row `r` of a column is `BCol.cellAt r` with parameter `BCol.paramAt r`; after a successful
  `bindCols`, `addInsert` cannot fail.
-/
import SqlairProofs.Typed.Locate
import SqlairProofs.Bind.Defs

namespace Sqlair

theorem locateParams_shape {tt : TypeTable} {m : TypeToValue} {l : Loc} {p : Params}
    (h : locateParams tt m l = .ok p) :
    (p.bulk = true → 1 ≤ p.vals.length) ∧
    (p.bulk = false → l.nonSlice → p.vals.length = 1) ∧
    (p.om = true → l.nonSlice) := by
  have pos : ∀ {α β : Type} {els : List α} {f : α → β}, els ≠ [] → 1 ≤ (els.map f).length := by
    intro α β els f hne; rw [List.length_map]; exact List.length_pos_iff.2 hne
  cases locateParams_ok_iff.1 h with
  | slice hg => exact ⟨nofun, fun _ hl => Bool.noConfusion hl, nofun⟩
  | mapKey hg hk => exact ⟨nofun, fun _ _ => rfl, fun _ => rfl⟩
  | mapKeyBulk hg hb hne hall => exact ⟨fun _ => pos hne, nofun, fun _ => rfl⟩
  | field hg hv => exact ⟨nofun, fun _ _ => rfl, fun _ => rfl⟩
  | fieldBulk hg hb hne hall hom => exact ⟨fun _ => pos hne, nofun, fun _ => rfl⟩

theorem locateParams_single {tt : TypeTable} {m : TypeToValue} {l : Loc} {p : Params}
    (h : locateParams tt m l = .ok p) (hb : p.bulk = false) (hl : l.nonSlice) :
    p.vals.length = 1 :=
  (locateParams_shape h).2.1 hb hl

theorem locateParams_slice {tt : TypeTable} {m : TypeToValue} {tid : Nat} {n : Bytes} {p : Params}
    (h : locateParams tt m (.slice tid n) = .ok p) :
    ∃ hd els, ttvGet m tid = some (.slice hd els) ∧ p.vals = els.map (·.h.r) := by
  cases locateParams_ok_iff.1 h with
  | slice hg => exact ⟨_, _, hg, rfl⟩

def ColBound (tt : TypeTable) (m : TypeToValue) (c : TCol) (bc : BCol) : Prop :=
  match c with
  | .literal column lit =>
    bc.vals = [] ∧ bc.om = false ∧ bc.bulk = false ∧ bc.literal = lit ∧ bc.column = column ∧
      bc.argType = none
  | .insert loc column explicit =>
    ∃ p, locateParams tt m loc = .ok p ∧ bc.vals = p.vals ∧ bc.om = p.om ∧ bc.bulk = p.bulk ∧
      bc.column = column ∧ bc.argType = some p.argType ∧ (p.om = true → explicit = false)

def ColsBound (tt : TypeTable) (m : TypeToValue) : List TCol → List BCol → Prop
  | [], [] => True
  | c :: cs, bc :: bcs => ColBound tt m c bc ∧ ColsBound tt m cs bcs
  | _, _ => False

theorem ColsBound.corr {tt : TypeTable} {m : TypeToValue} : ∀ {cols : List TCol} {bcs : List BCol},
    ColsBound tt m cols bcs → Corr (ColBound tt m) cols bcs
  | [], [], _ => .nil
  | [], _ :: _, h => h.elim
  | _ :: _, [], h => h.elim
  | _ :: _, _ :: _, h => .cons h.1 (ColsBound.corr h.2)

theorem TCol.bind_spec {tt : TypeTable} {m : TypeToValue} {c : TCol} {ic ic' : Nat} {bc : BCol}
    (h : c.bind tt m ic = .ok (bc, ic')) :
    ColBound tt m c bc ∧ (bc.width ≠ 0 → bc.first = ic) ∧ ic' = ic + bc.width ∧
      (bc.bulk = false → bc.vals.length ≤ 1) ∧ (bc.bulk = true → 1 ≤ bc.vals.length) := by
  unfold TCol.bind at h
  split at h
  · cases h
    exact ⟨⟨rfl, rfl, rfl, rfl, rfl, rfl⟩, fun h => absurd rfl h, rfl, fun _ => Nat.zero_le _,
      fun h => Bool.noConfusion h⟩
  · split at h
    · cases h
    · next p hp =>
      rcases of_ite_eq h with ⟨_, h⟩ | ⟨hmulti, h⟩
      · cases h
      rcases of_ite_eq h with ⟨_, h⟩ | ⟨hex, h⟩
      · cases h
      have hsingle : p.bulk = false → p.vals.length ≤ 1 := fun hb =>
        Nat.le_of_not_lt fun hl => hmulti (by simp [hb, hl])
      cases hom : p.om <;> rw [hom] at h hex <;> cases h
      · exact ⟨⟨p, hp, rfl, hom.symm, rfl, rfl, rfl, by simp [hom]⟩, fun _ => rfl,
          by simp [BCol.width], hsingle, (locateParams_shape hp).1⟩
      · exact ⟨⟨p, hp, rfl, hom.symm, rfl, rfl, rfl, fun _ => by simpa using hex⟩,
          fun h => absurd rfl h, rfl, hsingle, (locateParams_shape hp).1⟩

theorem bcsEnd_cons (c : Nat) (bc : BCol) (rest : List BCol) :
    bcsEnd c (bc :: rest) = bcsEnd (c + bc.width) rest := by
  simp only [bcsEnd, List.map_cons, List.sum_cons, Nat.add_assoc]

theorem le_bcsEnd (c : Nat) (bcs : List BCol) : c ≤ bcsEnd c bcs := by simp [bcsEnd]

structure QBFrame (qb qb' : QB) : Prop where
  pieces : qb'.pieces = qb.pieces
  params : qb'.params = qb.params
  outputs : qb'.outputs = qb.outputs
  outputCount : qb'.outputCount = qb.outputCount

theorem QBFrame.trans {a b c : QB} (h1 : QBFrame a b) (h2 : QBFrame b c) : QBFrame a c :=
  ⟨h2.pieces.trans h1.pieces, h2.params.trans h1.params, h2.outputs.trans h1.outputs,
    h2.outputCount.trans h1.outputCount⟩

theorem mem_markUsed_iff {used : List Nat} {t x : Nat} : x ∈ markUsed used t ↔ x = t ∨ x ∈ used := by
  unfold markUsed
  split
  · next h => exact ⟨Or.inr, fun h' => h'.elim (fun e => e ▸ List.contains_iff_mem.1 h) id⟩
  · exact List.mem_cons

def QB.afterCol (qb : QB) (bc : BCol) (ic : Nat) : QB :=
  match bc.argType with
  | some t => { qb with inputCount := ic, argUsed := markUsed qb.argUsed t }
  | none => { qb with inputCount := ic }

theorem QB.afterCol_inputCount (qb : QB) (bc : BCol) (ic : Nat) : (qb.afterCol bc ic).inputCount = ic := by
  unfold QB.afterCol; cases bc.argType <;> rfl

theorem QB.afterCol_frame (qb : QB) (bc : BCol) (ic : Nat) : QBFrame qb (qb.afterCol bc ic) := by
  unfold QB.afterCol; cases bc.argType <;> exact ⟨rfl, rfl, rfl, rfl⟩

theorem QB.mem_afterCol_argUsed (qb : QB) (bc : BCol) (ic : Nat) (t : Nat) :
    t ∈ (qb.afterCol bc ic).argUsed ↔ t ∈ qb.argUsed ∨ bc.argType = some t := by
  unfold QB.afterCol
  cases bc.argType with
  | none => simp only [reduceCtorEq, or_false]
  | some x => simp only [mem_markUsed_iff, Option.some.injEq, or_comm, eq_comm]

theorem bindCols_cons (tt : TypeTable) (m : TypeToValue) (c : TCol) (rest : List TCol) (qb : QB)
    (acc : List BCol) (bulk : Bool) (numRows : Nat) :
    bindCols tt m (c :: rest) qb acc bulk numRows =
      (c.bind tt m qb.inputCount).bind fun r =>
        if r.1.bulk && bulk && r.1.vals.length != numRows then .error "mismatched-bulk-lengths"
        else bindCols tt m rest (qb.afterCol r.1 r.2) (acc ++ [r.1]) (bulk || r.1.bulk)
          (if r.1.bulk && !bulk then r.1.vals.length else numRows) := by
  rw [bindCols]
  cases c.bind tt m qb.inputCount with
  | error e => rfl
  | ok r =>
    obtain ⟨bc, ic⟩ := r
    simp only [bind_ok, QB.afterCol]
    cases bc.bulk <;> cases bulk <;> cases bc.argType <;> rfl

/-- `n'` is the incoming row count unless a bulk column set it. -/
structure ColsSpec (tt : TypeTable) (m : TypeToValue) (qb : QB) (cols : List TCol) (bulk : Bool) (numRows : Nat)
    (qb' : QB) (new : List BCol) (n' : Nat) : Prop where
  bound : ColsBound tt m cols new
  chain : BChain qb.inputCount new
  inputCount : qb'.inputCount = bcsEnd qb.inputCount new
  frame : QBFrame qb qb'
  single : ∀ bc ∈ new, bc.bulk = false → bc.vals.length ≤ 1
  bulk_len : ∀ bc ∈ new, bc.bulk = true → bc.vals.length = n'
  of_bulk : bulk = true → n' = numRows
  no_bulk : (∀ bc ∈ new, bc.bulk = false) → n' = numRows
  rows_pos : 1 ≤ numRows → 1 ≤ n'

theorem bindCols_spec {tt : TypeTable} {m : TypeToValue} :
    ∀ (cols : List TCol) (qb : QB) (acc : List BCol) (bulk : Bool) (numRows : Nat)
      (qb' : QB) (bcs : List BCol) (n' : Nat),
    bindCols tt m cols qb acc bulk numRows = .ok (qb', bcs, n') →
    ∃ new, bcs = acc ++ new ∧ ColsSpec tt m qb cols bulk numRows qb' new n' := by
  intro cols
  induction cols with
  | nil =>
    intro qb acc bulk numRows qb' bcs n' h
    rw [bindCols] at h
    cases h
    exact ⟨[], (List.append_nil _).symm, {
      bound := trivial, chain := trivial, inputCount := rfl, frame := ⟨rfl, rfl, rfl, rfl⟩
      single := fun _ h => absurd h List.not_mem_nil, bulk_len := fun _ h => absurd h List.not_mem_nil
      of_bulk := fun _ => rfl, no_bulk := fun _ => rfl, rows_pos := id }⟩
  | cons c rest ih =>
    intro qb acc bulk numRows qb' bcs n' h
    rw [bindCols_cons] at h
    obtain ⟨⟨bc, ic⟩, hb, h⟩ := bind_ok_inv h
    rcases of_ite_eq h with ⟨_, h⟩ | ⟨hmis, h⟩
    · cases h
    dsimp only at h hmis
    -- the row count handed on is the length of a bulk column, which agrees with an established one
    generalize hn1 : (if (bc.bulk && !bulk) = true then bc.vals.length else numRows) = n1 at h
    have k1 : bc.bulk = true → bc.vals.length = n1 := by
      intro hbk; subst hn1; cases bulk <;> simp [hbk] at hmis ⊢; exact hmis
    have k2 : bulk = true ∨ bc.bulk = false → n1 = numRows := by
      subst hn1; rintro (hb | hb) <;> simp [hb]
    obtain ⟨hcb, hfirst, hic, hsingle, hpos⟩ := TCol.bind_spec hb
    obtain ⟨new, rfl, s⟩ := ih _ _ _ _ _ _ _ h
    have hchain := s.chain
    have hend := s.inputCount
    rw [QB.afterCol_inputCount, hic] at hchain hend
    refine ⟨bc :: new, List.append_assoc .., {
      bound := ⟨hcb, s.bound⟩, chain := ⟨hfirst, hchain⟩, inputCount := by rw [hend, bcsEnd_cons]
      frame := (QB.afterCol_frame ..).trans s.frame
      single := List.forall_mem_cons.2 ⟨hsingle, s.single⟩
      bulk_len := List.forall_mem_cons.2 ⟨fun hbk => ?_, s.bulk_len⟩
      of_bulk := fun hbt => ?_, no_bulk := fun hall => ?_, rows_pos := fun hn => ?_ }⟩
    · rw [k1 hbk, s.of_bulk (by simp [hbk])]
    · rw [s.of_bulk (by simp [hbt]), k2 (Or.inl hbt)]
    · rw [s.no_bulk fun b hb => hall b (List.mem_cons_of_mem _ hb), k2 (Or.inr (hall bc List.mem_cons_self))]
    · apply s.rows_pos
      cases hbk : bc.bulk
      · rw [k2 (Or.inr hbk)]; exact hn
      · rw [← k1 hbk]; exact hpos hbk

namespace BCol
variable {bc : BCol} {r n : Nat} {v : String}

theorem paramAt_eq (bc : BCol) (r : Nat) : bc.paramAt r = bc.vals[r]?.map fun v => (bc.first + r, v) := by
  unfold paramAt
  split
  · next h => simp [h]
  · next v h => cases r <;> simp [h]
  · rfl

theorem paramAt_eq_some : bc.paramAt r = some (n, v) ↔ n = bc.first + r ∧ bc.vals[r]? = some v := by
  rw [paramAt_eq]
  cases bc.vals[r]? <;> simp [eq_comm]

theorem cellAt_lit (h : bc.vals = []) : bc.cellAt r = .lit bc.literal ∧ bc.paramAt r = none := by
  simp [cellAt, paramAt_eq, h]

theorem cellAt_single (h : bc.vals.length = 1) : bc.cellAt r = .ph bc.first := by
  obtain ⟨v, hv⟩ := List.length_eq_one_iff.1 h
  simp only [cellAt, hv]

theorem cellAt_multi (h : 2 ≤ bc.vals.length) : bc.cellAt r = .ph (bc.first + r) := by
  match hv : bc.vals with
  | [] | [_] => simp [hv] at h
  | _ :: _ :: _ => simp only [cellAt, hv]

theorem cellAt_ph (h : bc.cellAt r = .ph n) :
    (bc.vals.length = 1 ∧ n = bc.first) ∨ (2 ≤ bc.vals.length ∧ n = bc.first + r) := by
  match hv : bc.vals with
  | [] => simp [cellAt, hv] at h
  | [_] => simp only [cellAt, hv, Cell.ph.injEq] at h; exact Or.inl ⟨rfl, h.symm⟩
  | _ :: _ :: _ => simp only [cellAt, hv, Cell.ph.injEq] at h; exact Or.inr ⟨by simp, h.symm⟩

theorem cellAt_of_lt (hr : r < bc.vals.length) : bc.cellAt r = .ph (bc.first + r) := by
  rcases Nat.lt_or_ge bc.vals.length 2 with hl | hl
  · obtain ⟨h1, rfl⟩ : bc.vals.length = 1 ∧ r = 0 := by omega
    exact cellAt_single h1
  · exact cellAt_multi hl

theorem parameter_eq (bc : BCol) (r : Nat) : bc.parameter r =
    if bc.vals.length ≤ 1 ∨ r < bc.vals.length then .ok (bc.cellAt r, bc.paramAt r)
    else .error "internal-no-bulk-value" := by
  match hv : bc.vals with
  | [] => simp only [parameter, cellAt, paramAt, hv]; rfl
  | [v] => simp only [parameter, cellAt, paramAt, hv]; rfl
  | a :: b :: t =>
    simp only [parameter, cellAt, paramAt, hv]
    rcases Nat.lt_or_ge r (a :: b :: t).length with hr | hr
    · rw [List.getElem?_eq_getElem hr, if_pos (Or.inr hr)]; rfl
    · rw [List.getElem?_eq_none hr, if_neg (not_or.2 ⟨by simp, Nat.not_lt_of_le hr⟩)]

theorem parameter_err {bc : BCol} {r : Nat} {e : String} (h : bc.parameter r = .error e) :
    e = "internal-no-bulk-value" := by
  rw [parameter_eq] at h
  split at h
  · cases h
  · cases h; rfl

end BCol

/-- the step of the fold in `insertRow`, under a name; `insertRow_ok_iff` rests on the two being
    definitionally equal -/
def insertRowStep (row : Nat) (acc : List Cell × List (Nat × String)) (bc : BCol) :
    Except String (List Cell × List (Nat × String)) :=
  if bc.om then .ok acc else
    match bc.parameter row with
    | .error e => .error e
    | .ok (cell, np) => .ok (acc.1 ++ [cell], match np with | some p => acc.2 ++ [p] | none => acc.2)

theorem mem_keptCols {bcs : List BCol} {bc : BCol} : bc ∈ keptCols bcs ↔ bc ∈ bcs ∧ bc.om = false := by
  simp [keptCols]

theorem insertRowStep_fold (row : Nat) : ∀ (cols : List BCol) (acc res : List Cell × List (Nat × String)),
    cols.foldlM (insertRowStep row) acc = .ok res ↔
      (∀ bc ∈ keptCols cols, bc.vals.length ≤ 1 ∨ row < bc.vals.length) ∧
      res = (acc.1 ++ (keptCols cols).map (·.cellAt row),
             acc.2 ++ (keptCols cols).filterMap (·.paramAt row)) := by
  intro cols
  induction cols with
  | nil => intro acc res; simp [keptCols, pure, Except.pure]; exact eq_comm
  | cons bc rest ih =>
    intro acc res
    rw [foldlM_cons_bind, insertRowStep]
    cases hom : bc.om
    · have hk : keptCols (bc :: rest) = bc :: keptCols rest := by simp [keptCols, hom]
      rw [BCol.parameter_eq, hk, List.forall_mem_cons, if_neg Bool.false_ne_true]
      by_cases hs : bc.vals.length ≤ 1 ∨ row < bc.vals.length
      · rw [if_pos hs, bind_ok, ih, List.map_cons, List.filterMap_cons]
        cases bc.paramAt row <;> simp [hs]
      · rw [if_neg hs, bind_error]
        simp [hs]
    · have hk : keptCols (bc :: rest) = keptCols rest := by simp [keptCols, hom]
      rw [hk]
      exact ih acc res

theorem insertRow_ok_iff {cols : List BCol} {row : Nat} {res : List Cell × List (Nat × String)} :
    insertRow cols row = .ok res ↔
      (∀ bc ∈ keptCols cols, bc.vals.length ≤ 1 ∨ row < bc.vals.length) ∧
      res = ((keptCols cols).map (·.cellAt row), (keptCols cols).filterMap (·.paramAt row)) :=
  insertRowStep_fold row cols ([], []) res

theorem insertRows_ok_iff {cols : List BCol} (rs : List Nat) :
    ∀ {res : List (List Cell) × List (Nat × String)},
    insertRows cols rs = .ok res ↔
      (∀ r ∈ rs, ∀ bc ∈ keptCols cols, bc.vals.length ≤ 1 ∨ r < bc.vals.length) ∧
      res = (rs.map fun r => (keptCols cols).map (·.cellAt r),
             rs.flatMap fun r => (keptCols cols).filterMap (·.paramAt r)) := by
  induction rs with
  | nil => exact ⟨fun h => by cases h; exact ⟨nofun, rfl⟩, fun h => by rw [h.2]; rfl⟩
  | cons r rest ih =>
    intro res
    rw [insertRows, List.forall_mem_cons]
    cases hr : insertRow cols r with
    | error e => exact iff_of_false nofun fun h => nomatch hr.symm.trans (insertRow_ok_iff.2 ⟨h.1.1, rfl⟩)
    | ok p =>
      obtain ⟨h1, rfl⟩ := insertRow_ok_iff.1 hr
      cases hrest : insertRows cols rest with
      | error e => exact iff_of_false nofun fun h => nomatch hrest.symm.trans (ih.2 ⟨h.1.2, rfl⟩)
      | ok q =>
        obtain ⟨h2, rfl⟩ := ih.1 hrest
        exact ⟨fun h => by cases h; exact ⟨⟨h1, h2⟩, rfl⟩, fun h => by rw [h.2]; rfl⟩

theorem addInsert_ok {qb : QB} {cols : List BCol} {numRows : Nat}
    (h : ∀ bc ∈ cols, bc.om = false → bc.vals.length ≤ 1 ∨ bc.vals.length = numRows) :
    ∃ qb', addInsert qb cols numRows = .ok qb' := by
  have := (insertRows_ok_iff (cols := cols) (List.range numRows)).2 ⟨fun r hr bc hbc =>
    (h bc (mem_keptCols.1 hbc).1 (mem_keptCols.1 hbc).2).imp_right
      fun (hl : bc.vals.length = numRows) => hl ▸ List.mem_range.1 hr, rfl⟩
  unfold addInsert
  simp [this]

theorem bindCols_shape {tt : TypeTable} {m : TypeToValue} {qb qb1 : QB}
    {cols : List TCol} {bcs : List BCol} {numRows : Nat}
    (hb : bindCols tt m cols qb [] false 1 = .ok (qb1, bcs, numRows)) :
    ∀ bc ∈ bcs, bc.om = false → bc.vals.length ≤ 1 ∨ bc.vals.length = numRows := by
  obtain ⟨new, hbcs, s⟩ := bindCols_spec _ _ _ _ _ _ _ _ hb
  obtain rfl : bcs = new := hbcs
  intro bc hbc _
  cases hbk : bc.bulk
  · exact Or.inl (s.single bc hbc hbk)
  · exact Or.inr (s.bulk_len bc hbc hbk)

end Sqlair
