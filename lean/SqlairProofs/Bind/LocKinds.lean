/-
  The input locators produced by `bindTypes` are well-kinded (`Loc.kindOK`): the kind part of what
  `NoPanic/Locs.lean` proves of every locator (`bindTypes_locs_genOK`, `Loc.GenOK.kindOK`).
-/
import SqlairProofs.NoPanic.Locs

namespace Sqlair

def TColsKindOK (tt : TypeTable) (cols : List TCol) : Prop :=
  ∀ loc column e, TCol.insert loc column e ∈ cols → loc.kindOK tt

theorem TColsKindOK.append {tt : TypeTable} {a b : List TCol} (ha : TColsKindOK tt a)
    (hb : TColsKindOK tt b) : TColsKindOK tt (a ++ b) :=
  TColsSat.append ha hb

/-- C07: in a statement `bindTypes` accepts, every input locator refers to a type of the kind it promises
    (`Loc.kindOK`: struct for a field, map for a key, named slice for a slice) -/
theorem bindTypes_inputLocs_kindOK {C : Cls} {tt : TypeTable} {segs : List OSeg}
    {samples : List (Option Nat)} {tes : List TExpr}
    (h : bindTypes C tt segs samples = .ok tes) : InputLocsKindOK tt tes :=
  fun te hte l hl => (bindTypes_inputLocs_genOK h te hte l hl).kindOK

namespace LocKindsExample

def C : Cls :=
  { letter := fun c => (97 ≤ c && c ≤ 122) || (65 ≤ c && c ≤ 90), digit := fun c => 48 ≤ c && c ≤ 57 }

/-- `type T struct { A string `db:"a"` }` -/
def tt : TypeTable := #[
  { kind := .struct, kindStr := "struct", name := #[84],
    fields := [{ name := #[65], tag := #[97], exported := true, anon := false, ty := 1 }] },
  { kind := .string, kindStr := "string", name := #[] }]

/-- `… $T.a … INSERT INTO t (*) VALUES ($T.*)` -/
def segs : List OSeg := [
  { kind := .member, raw := #[], types := [{ ty := #[84], member := #[97] }] },
  { kind := .astInsert, raw := #[], types := [{ ty := #[84], member := star }] }]

/-- the theorem is not vacuous: `bindTypes` succeeds here, with an input and an insert expression that carry
    one input locator each -/
example : ∃ tes, bindTypes C tt segs [some 0] = .ok tes ∧
    tes.map (fun te => te.inputLocs.length) = [1, 1] ∧ InputLocsKindOK tt tes := by
  have hsome : (bindTypes C tt segs [some 0]).toOption.map
      (fun tes => tes.map (fun te => te.inputLocs.length)) = some [1, 1] := by decide +kernel
  obtain ⟨tes, hb, hlen⟩ := ok_of_toOption_map hsome
  exact ⟨tes, hb, hlen, bindTypes_inputLocs_kindOK hb⟩

end LocKindsExample

end Sqlair
