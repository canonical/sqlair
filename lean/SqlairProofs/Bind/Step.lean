/-
  What one `addToQuery` step does to the query-builder state, for each kind of
  typed expression, and the invariant `QBInv` of the state along the fold of `bindInputs`.
-/
import SqlairProofs.Bind.Rows

namespace Sqlair

def inputParams (first : Nat) (vals : List String) : List (Nat × String) :=
  ((List.range vals.length).zip vals).map (fun (i, v) => (first + i, v))

theorem inputParams_fst (first : Nat) (vals : List String) :
    (inputParams first vals).map (·.1) = (List.range vals.length).map (first + ·) := by
  rw [← List.map_fst_zip (l₁ := List.range vals.length) (l₂ := vals) (by simp), inputParams,
    List.map_map, List.map_map]
  rfl

theorem inputParams_snd (first : Nat) (vals : List String) : (inputParams first vals).map (·.2) = vals := by
  rw [inputParams, List.map_map]
  exact List.map_snd_zip (l₁ := List.range vals.length) (by simp)

theorem inputParams_map {α : Type} (first : Nat) (g : α → String) (xs : List α) :
    inputParams first (xs.map g) = ((List.range xs.length).zip xs).map fun (i, x) => (first + i, g x) := by
  rw [inputParams, List.length_map, List.zip_map_right, List.map_map]; rfl

theorem inputParams_one (c : Nat) (v : String) : inputParams c [v] = [(c, v)] := rfl

theorem inputParams_length (c : Nat) (vals : List String) : (inputParams c vals).length = vals.length := by
  simp [inputParams]

theorem inputParams_getElem? (c : Nat) (vals : List String) (i : Nat) :
    (inputParams c vals)[i]? = vals[i]?.map (fun v => (c + i, v)) := by
  unfold inputParams
  rw [List.getElem?_map, List.zip_eq_zipWith, List.getElem?_zipWith]
  rcases Nat.lt_or_ge i vals.length with h | h
  · rw [List.getElem?_range h, List.getElem?_eq_getElem h]; rfl
  · rw [List.getElem?_eq_none (l := vals) h]
    cases (List.range vals.length)[i]? <;> rfl

theorem addToQuery_input (tt : TypeTable) (m : TypeToValue) (qb : QB) (loc : Loc) :
    addToQuery tt m qb (.input loc) = (locateParams tt m loc).bind fun p =>
      if p.om then .error "omitempty-explicit-zero"
      else if p.bulk then .error "bulk-outside-insert"
      else .ok { qb with
        argUsed := markUsed qb.argUsed p.argType
        inputCount := qb.inputCount + p.vals.length
        params := qb.params ++ inputParams qb.inputCount p.vals
        pieces := qb.pieces ++ [.inputs qb.inputCount p.vals.length] } := by
  rw [addToQuery]
  cases locateParams tt m loc <;> rfl

theorem addToQuery_insert (tt : TypeTable) (m : TypeToValue) (qb : QB) (cols : List TCol) :
    addToQuery tt m qb (.insert cols) =
      (bindCols tt m cols qb [] false 1).bind fun r => addInsert r.1 r.2.1 r.2.2 := by
  rw [addToQuery]
  cases bindCols tt m cols qb [] false 1 <;> rfl

/-- `bound` keeps the call of `bindCols` itself, for the statements of Props/Bind.lean that name it. -/
structure InsertStep (tt : TypeTable) (m : TypeToValue) (qb : QB) (cols : List TCol) (qb' : QB)
    (bcs : List BCol) (numRows : Nat) : Prop where
  bound : ∃ qb1, bindCols tt m cols qb [] false 1 = .ok (qb1, bcs, numRows)
  cols : ColsBound tt m cols bcs
  ok : BColsOK qb.inputCount bcs numRows
  rows_pos : 1 ≤ numRows
  bulk_len : ∀ bc ∈ bcs, bc.bulk = true → bc.vals.length = numRows
  no_bulk : (∀ bc ∈ bcs, bc.bulk = false) → numRows = 1
  single : ∀ bc ∈ bcs, bc.bulk = false → bc.vals.length ≤ 1
  inputCount : qb'.inputCount = bcsEnd qb.inputCount bcs
  pieces : qb'.pieces = qb.pieces ++ [.insert (insNames bcs) (insRows bcs numRows)]
  params : qb'.params = qb.params ++ insParams bcs numRows
  outputs : qb'.outputs = qb.outputs
  outputCount : qb'.outputCount = qb.outputCount

theorem addToQuery_insert_spec {tt : TypeTable} {m : TypeToValue} {qb qb' : QB} {cols : List TCol}
    (h : addToQuery tt m qb (.insert cols) = .ok qb') :
    ∃ bcs numRows, InsertStep tt m qb cols qb' bcs numRows := by
  rw [addToQuery_insert] at h
  obtain ⟨⟨qb1, bcs, numRows⟩, hb, h⟩ := bind_ok_inv h
  obtain ⟨new, hbcs, s⟩ := bindCols_spec _ _ _ _ _ _ _ _ hb
  simp only [List.nil_append] at hbcs
  subst hbcs
  have hq := addInsert_spec h
  subst hq
  exact ⟨bcs, numRows, {
    bound := ⟨qb1, hb⟩, cols := s.bound, ok := ⟨s.chain, bindCols_shape hb⟩
    rows_pos := s.rows_pos (Nat.le_refl 1), bulk_len := s.bulk_len, no_bulk := s.no_bulk, single := s.single
    inputCount := s.inputCount
    pieces := by simp [s.frame.pieces]
    params := by simp [s.frame.params]
    outputs := s.frame.outputs, outputCount := s.frame.outputCount }⟩

theorem InsertStep.located {tt : TypeTable} {m : TypeToValue} {qb qb' : QB} {cols : List TCol}
    {bcs : List BCol} {numRows : Nat} (s : InsertStep tt m qb cols qb' bcs numRows)
    {l : Loc} {c : Bytes} {ex : Bool} (h : TCol.insert l c ex ∈ cols) :
    ∃ p, locateParams tt m l = .ok p ∧ (p.om = true → ex = false) ∧
      (p.bulk = true → p.vals.length = numRows) := by
  obtain ⟨b, hb, p, hp, hv, _, hk, _, _, hex⟩ := (ColsBound.corr s.cols).mem h
  exact ⟨p, hp, hex, fun hbk => hv ▸ s.bulk_len b hb (hk ▸ hbk)⟩

theorem InsertStep.cell {tt : TypeTable} {m : TypeToValue} {qb qb' : QB} {cols : List TCol}
    {bcs : List BCol} {numRows : Nat} (s : InsertStep tt m qb cols qb' bcs numRows)
    {bc : BCol} (hbc : bc ∈ bcs) {r : Nat} (hr : r < numRows) :
    (bc.vals = [] → bc.cellAt r = .lit bc.literal ∧ bc.paramAt r = none) ∧
    (bc.bulk = false → ∀ v, bc.vals = [v] →
      bc.cellAt r = .ph bc.first ∧ bc.paramAt r = if r = 0 then some (bc.first, v) else none) ∧
    (bc.bulk = true → ∃ v, bc.vals[r]? = some v ∧
      bc.cellAt r = .ph (bc.first + r) ∧ bc.paramAt r = some (bc.first + r, v)) ∧
    (bc.bulk = false → bc.vals.length ≤ 1) := by
  refine ⟨BCol.cellAt_lit, ?_, ?_, s.single bc hbc⟩
  · intro _ v hv
    refine ⟨BCol.cellAt_single (by rw [hv]; rfl), ?_⟩
    rw [BCol.paramAt_eq, hv]
    cases r <;> simp
  · intro hbk
    have hr' : r < bc.vals.length := s.bulk_len bc hbc hbk ▸ hr
    exact ⟨bc.vals[r], List.getElem?_eq_getElem hr', BCol.cellAt_of_lt hr',
      BCol.paramAt_eq_some.2 ⟨rfl, List.getElem?_eq_getElem hr'⟩⟩

structure InputStep (tt : TypeTable) (m : TypeToValue) (qb : QB) (loc : Loc) (qb' : QB) (p : Params) : Prop where
  located : locateParams tt m loc = .ok p
  not_om : p.om = false
  not_bulk : p.bulk = false
  inputCount : qb'.inputCount = qb.inputCount + p.vals.length
  pieces : qb'.pieces = qb.pieces ++ [.inputs qb.inputCount p.vals.length]
  params : qb'.params = qb.params ++ inputParams qb.inputCount p.vals
  outputs : qb'.outputs = qb.outputs
  outputCount : qb'.outputCount = qb.outputCount

theorem addToQuery_input_spec {tt : TypeTable} {m : TypeToValue} {qb qb' : QB} {loc : Loc}
    (h : addToQuery tt m qb (.input loc) = .ok qb') : ∃ p, InputStep tt m qb loc qb' p := by
  rw [addToQuery_input] at h
  obtain ⟨p, hp, h⟩ := bind_ok_inv h
  rcases of_ite_eq h with ⟨_, h⟩ | ⟨h1, h⟩
  · cases h
  rcases of_ite_eq h with ⟨_, h⟩ | ⟨h2, h⟩
  · cases h
  · cases h
    exact ⟨p, {
      located := hp
      not_om := by simpa using h1
      not_bulk := by simpa using h2
      inputCount := rfl, pieces := rfl, params := rfl, outputs := rfl, outputCount := rfl }⟩

structure StepSpec (qb qb' : QB) (te : TExpr) (p : Piece) (ps : List (Nat × String)) : Prop where
  pieces : qb'.pieces = qb.pieces ++ [p]
  params : qb'.params = qb.params ++ ps
  mono : qb.inputCount ≤ qb'.inputCount
  bounds : ∀ n ∈ p.phs, qb.inputCount ≤ n ∧ n < qb'.inputCount
  nodup : (ps.map (·.1)).Nodup
  iff : ∀ n, n ∈ p.phs ↔ n ∈ ps.map (·.1)
  rect : ∀ cols rows, p = .insert cols rows → ∀ r ∈ rows, r.length = cols.length
  outCount : qb'.outputCount = qb.outputCount + p.numOut
  outputs : qb'.outputs = qb.outputs ++ te.outCols.map (·.2)
  outCols : p.outCols = te.outCols.map (·.1)
  numOut : p.numOut = te.outCols.length
  alias : p.aliases = (List.range p.numOut).map (qb.outputCount + ·)
  first : ∀ f cs, p = .outputs f cs → f = qb.outputCount
  cover : ∀ n, qb.inputCount ≤ n → n < qb'.inputCount → n ∈ p.phs

theorem addToQuery_step {tt : TypeTable} {m : TypeToValue} {qb qb' : QB} {te : TExpr}
    (h : addToQuery tt m qb te = .ok qb') : ∃ p ps, StepSpec qb qb' te p ps := by
  cases te with
  | bypass chunk =>
    cases h
    exact ⟨.text chunk, [], {
      pieces := rfl, params := (List.append_nil _).symm, mono := Nat.le_refl _
      bounds := fun _ h => absurd h List.not_mem_nil
      cover := fun _ h1 h2 => absurd h2 (Nat.not_lt_of_le h1)
      nodup := List.Pairwise.nil, iff := fun _ => Iff.rfl
      rect := fun _ _ h => Piece.noConfusion h
      outCount := rfl, outputs := (List.append_nil _).symm, outCols := rfl, numOut := rfl, alias := rfl
      first := fun _ _ h => Piece.noConfusion h }⟩
  | input loc =>
    obtain ⟨p, hs⟩ := addToQuery_input_spec h
    have hphs : ∀ n, n ∈ (Piece.inputs qb.inputCount p.vals.length).phs ↔
        qb.inputCount ≤ n ∧ n < qb'.inputCount := by
      intro n
      simp only [Piece.phs, List.mem_map, List.mem_range, hs.inputCount]
      exact ⟨fun ⟨i, hi, e⟩ => e ▸ ⟨Nat.le_add_right _ _, Nat.add_lt_add_left hi _⟩,
        fun ⟨h1, h2⟩ => ⟨n - qb.inputCount, Nat.sub_lt_left_of_lt_add h1 h2, Nat.add_sub_cancel' h1⟩⟩
    exact ⟨_, _, {
      pieces := hs.pieces, params := hs.params, mono := hs.inputCount ▸ Nat.le_add_right _ _
      bounds := fun n hn => (hphs n).1 hn
      cover := fun n h1 h2 => (hphs n).2 ⟨h1, h2⟩
      nodup := by rw [inputParams_fst, ← List.range'_eq_map_range]; exact List.nodup_range' _
      iff := fun n => by rw [inputParams_fst]; rfl
      rect := fun _ _ h => Piece.noConfusion h
      outCount := hs.outputCount, outputs := hs.outputs.trans (List.append_nil _).symm
      outCols := rfl, numOut := rfl, alias := rfl
      first := fun _ _ h => Piece.noConfusion h }⟩
  | insert cols =>
    obtain ⟨bcs, numRows, hs⟩ := addToQuery_insert_spec h
    exact ⟨_, _, {
      pieces := hs.pieces, params := hs.params, mono := hs.inputCount ▸ le_bcsEnd _ _
      bounds := fun n hn => hs.inputCount ▸ insert_phs_bounds hs.ok hn
      cover := fun n h1 h2 => insert_phs_cover hs.ok hs.rows_pos h1 (hs.inputCount ▸ h2)
      nodup := insParams_nodup hs.ok, iff := insert_phs_iff_params hs.ok
      rect := fun _ _ heq => by cases heq; exact insRows_rect bcs numRows
      outCount := hs.outputCount, outputs := hs.outputs.trans (List.append_nil _).symm
      outCols := rfl, numOut := rfl, alias := rfl
      first := fun _ _ h => Piece.noConfusion h }⟩
  | output cols =>
    cases h
    exact ⟨.outputs qb.outputCount (cols.map (·.1)), [], {
      pieces := rfl, params := (List.append_nil _).symm, mono := Nat.le_refl _
      bounds := fun _ h => absurd h List.not_mem_nil
      cover := fun _ h1 h2 => absurd h2 (Nat.not_lt_of_le h1)
      nodup := List.Pairwise.nil, iff := fun _ => Iff.rfl
      rect := fun _ _ h => Piece.noConfusion h
      outCount := by simp [Piece.numOut]
      outputs := rfl, outCols := rfl
      numOut := by simp [Piece.numOut, TExpr.outCols]
      alias := by simp [Piece.aliases, Piece.numOut]
      first := fun _ _ h => by cases h; rfl }⟩

def outFirstsOK : Nat → List Piece → Prop
  | _, [] => True
  | c, .outputs f cols :: rest => f = c ∧ outFirstsOK (c + cols.length) rest
  | c, _ :: rest => outFirstsOK c rest

theorem outFirstsOK_cons (c : Nat) (p : Piece) (rest : List Piece) :
    outFirstsOK c (p :: rest) ↔
      (∀ f cs, p = .outputs f cs → f = c) ∧ outFirstsOK (c + p.numOut) rest := by
  cases p <;> simp [outFirstsOK, Piece.numOut]

theorem outFirstsOK_append : ∀ (a b : List Piece) (c : Nat),
    outFirstsOK c (a ++ b) ↔ outFirstsOK c a ∧ outFirstsOK (c + (a.map Piece.numOut).sum) b := by
  intro a
  induction a with
  | nil => intro b c; simp [outFirstsOK]
  | cons p rest ih =>
    intro b c
    rw [List.cons_append, outFirstsOK_cons, outFirstsOK_cons, ih]
    simp [Nat.add_assoc, and_assoc]

/-- The placeholder numbers of the pieces and the parameter numbers are both exactly `0 … inputCount-1`,
    increasing from piece to piece; the aliases are `0 … outputCount-1` in order. -/
structure QBInv (qb : QB) : Prop where
  bound : ∀ n ∈ phsOf qb.pieces, n < qb.inputCount
  nodup : (qb.params.map (·.1)).Nodup
  iff : ∀ n, n ∈ phsOf qb.pieces ↔ n ∈ qb.params.map (·.1)
  ordered : qb.pieces.Pairwise (fun p p' => ∀ a ∈ p.phs, ∀ b ∈ p'.phs, a < b)
  rect : ∀ cols rows, Piece.insert cols rows ∈ qb.pieces → ∀ r ∈ rows, r.length = cols.length
  outCount : qb.outputCount = (qb.pieces.map Piece.numOut).sum
  outLen : qb.outputs.length = qb.outputCount
  aliases : aliasesOf qb.pieces = List.range qb.outputCount
  firsts : outFirstsOK 0 qb.pieces
  dense : ∀ n, n < qb.inputCount → n ∈ phsOf qb.pieces

theorem QBInv.init : QBInv {} where
  bound := by simp [phsOf]
  nodup := by simp
  iff := by simp [phsOf]
  ordered := by simp
  rect := by simp
  outCount := by simp
  outLen := by simp
  aliases := by simp [aliasesOf]
  firsts := trivial
  dense := by simp

theorem mem_phsOf {ps : List Piece} {n : Nat} : n ∈ phsOf ps ↔ ∃ p ∈ ps, n ∈ p.phs := by
  simp [phsOf]

theorem phsOf_snoc (a : List Piece) (p : Piece) : phsOf (a ++ [p]) = phsOf a ++ p.phs := by
  simp [phsOf]

theorem aliasesOf_snoc (a : List Piece) (p : Piece) : aliasesOf (a ++ [p]) = aliasesOf a ++ p.aliases := by
  simp [aliasesOf]

theorem QBInv.step {qb qb' : QB} {te : TExpr} {p : Piece} {ps : List (Nat × String)}
    (inv : QBInv qb) (s : StepSpec qb qb' te p ps) : QBInv qb' := by
  have hfresh : ∀ n ∈ ps.map (·.1), qb.inputCount ≤ n := fun n hn => (s.bounds n ((s.iff n).2 hn)).1
  constructor
  case bound =>
    intro n hn
    rw [s.pieces, phsOf_snoc] at hn
    rcases List.mem_append.1 hn with hn | hn
    · exact Nat.lt_of_lt_of_le (inv.bound n hn) s.mono
    · exact (s.bounds n hn).2
  case nodup =>
    -- the new numbers are not below the old count, the old ones are
    rw [s.params, List.map_append, List.nodup_append]
    refine ⟨inv.nodup, s.nodup, ?_⟩
    intro a ha b hb hab
    subst hab
    exact Nat.not_le_of_lt (inv.bound a ((inv.iff a).2 ha)) (hfresh a hb)
  case iff =>
    intro n
    rw [s.pieces, s.params, phsOf_snoc, List.map_append, List.mem_append, List.mem_append, inv.iff n,
      s.iff n]
  case ordered =>
    rw [s.pieces, List.pairwise_append]
    refine ⟨inv.ordered, by simp, ?_⟩
    intro a ha b hb x hx y hy
    simp at hb; subst hb
    exact Nat.lt_of_lt_of_le (inv.bound x (mem_phsOf.2 ⟨a, ha, hx⟩)) (s.bounds y hy).1
  case rect =>
    intro cols rows hmem
    rw [s.pieces] at hmem
    rcases List.mem_append.1 hmem with hmem | hmem
    · exact inv.rect cols rows hmem
    · simp at hmem; exact s.rect cols rows hmem.symm
  case outCount => rw [s.outCount, s.pieces, inv.outCount]; simp
  case outLen => rw [s.outputs, s.outCount, List.length_append, inv.outLen, s.numOut]; simp
  case aliases => rw [s.pieces, s.outCount, aliasesOf_snoc, inv.aliases, s.alias, List.range_add]
  case firsts =>
    rw [s.pieces, outFirstsOK_append, outFirstsOK_cons, Nat.zero_add, ← inv.outCount]
    exact ⟨inv.firsts, s.first, trivial⟩
  case dense =>
    intro n hn
    rw [s.pieces, phsOf_snoc, List.mem_append]
    rcases Nat.lt_or_ge n qb.inputCount with h | h
    · exact Or.inl (inv.dense n h)
    · exact Or.inr (s.cover n h hn)

theorem foldlM_addToQuery_inv {tt : TypeTable} {m : TypeToValue} {tes : List TExpr} {qb qb' : QB}
    (inv : QBInv qb) (h : tes.foldlM (addToQuery tt m) qb = .ok qb') : QBInv qb' := by
  refine foldlM_except_inv (addToQuery tt m) QBInv tes ?_ qb qb' inv h
  intro b a b' _ hb hstep
  obtain ⟨p, ps, s⟩ := addToQuery_step hstep
  exact hb.step s

end Sqlair
