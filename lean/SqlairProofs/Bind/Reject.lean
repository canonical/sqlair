/-
  The argument errors of the INSERT/bulk/omitempty family (the rejections of C04.8), each stated at the function
  that detects it, and the lifting of a failing step to `bindInputs` (`bindInputs_error_of_step`).
  `bindCols_rejects_mismatched_bulk`, `locateParams_rejects_empty_bulk` and `bulkFieldVals_rejects_mix` are listed
  for C04 in `obligations.json`.
-/
import SqlairProofs.Bind.Fold
namespace Sqlair

theorem bindInputs_error_of_step {tt : TypeTable} {tes : List TExpr} {args : List GoVal}
    {m : TypeToValue} {te : TExpr} (hm : validateInputs tt args [] = .ok m) (hte : te ∈ tes)
    (herr : ∀ qb, ∃ e, addToQuery tt m qb te = .error e) : ∃ e, bindInputs tt tes args = .error e := by
  refine exists_error_of_not_ok fun pq hres => ?_
  obtain ⟨pre, post, rfl⟩ := List.append_of_mem hte
  obtain ⟨m', q1, q2, hm', _, hs, _⟩ := bindInputs_step_at' hres
  obtain rfl : m = m' := by rw [hm] at hm'; cases hm'; rfl
  obtain ⟨e, he⟩ := herr q1
  rw [he] at hs; cases hs

/-- `mismatchedBulkLengthsError` in the column loop of `typedInsertExpr.addToQuery` (bindinputs.go) -/
theorem bindCols_rejects_mismatched_bulk {tt : TypeTable} {m : TypeToValue} {c : TCol}
    {rest : List TCol} {qb : QB} {acc : List BCol} {numRows : Nat} {bc : BCol} {ic : Nat}
    (hb : c.bind tt m qb.inputCount = .ok (bc, ic)) (hbulk : bc.bulk = true)
    (hne : bc.vals.length ≠ numRows) :
    bindCols tt m (c :: rest) qb acc true numRows = .error "mismatched-bulk-lengths" := by
  rw [bindCols_cons, hb, bind_ok]
  simp [hbulk, hne]

/-- the "length 0" error of `structField.LocateParams` and `mapKey.LocateParams` (valuelocator.go) -/
theorem locateParams_rejects_empty_bulk {tt : TypeTable} {m : TypeToValue} {l : Loc} {hd : VH}
    (hl : ∀ t n, l ≠ .slice t n) (hg : ttvGet m l.tid = none)
    (hbulk : locateBulk tt m l.tid = some (.slice hd [])) :
    locateParams tt m l = .error "empty-slice" := by
  cases l with
  | slice t n => exact absurd rfl (hl t n)
  | mapKey tid n key => simp only [Loc.tid] at hg hbulk; simp [locateParams, hg, hbulk]
  | field tid n f => simp only [Loc.tid] at hg hbulk; simp [locateParams, hg, hbulk]

theorem fieldElemZero_of {f : SField} {e s v : GoVal} (hs : bulkElem e = .ok s)
    (hv : fieldByIndex s f.index true = .ok v) : fieldElemZero f e = v.h.zero :=
  fieldElemZero_of_some (fieldElemVal_eq_some_iff.2 ⟨s, hs, hv⟩)

/-- the "mix of zero and none zero values" error of `structField.LocateParams`: a successful run has all
    rows agree on zero-ness with its result (`bulkFieldVals_ok_iff`) -/
theorem bulkFieldVals_rejects_mix {f : SField} (hf : f.omitEmpty = true) {els : List GoVal}
    {e1 e2 s1 s2 v1 v2 : GoVal} (h1 : e1 ∈ els) (h2 : e2 ∈ els)
    (hs1 : bulkElem e1 = .ok s1) (hs2 : bulkElem e2 = .ok s2)
    (hv1 : fieldByIndex s1 f.index true = .ok v1) (hv2 : fieldByIndex s2 f.index true = .ok v2)
    (hz1 : v1.h.zero = true) (hz2 : v2.h.zero = false) :
    ∃ e, bulkFieldVals f els true false [] = .error e := by
  refine exists_error_of_not_ok fun (vals, om') hres => ?_
  have hall := ((bulkFieldVals_ok_iff f els true false [] vals om').1 hres).2.1 hf
  have a := hall e1 h1
  have b := hall e2 h2
  rw [fieldElemZero_of hs1 hv1, hz1] at a
  rw [fieldElemZero_of hs2 hv2, hz2, ← a] at b
  cases b

/-- `omitEmptyInputError` in `typedInputExpr.addToQuery` (bindinputs.go) -/
theorem input_rejects_explicit_zero {tt : TypeTable} {m : TypeToValue} {qb : QB} {l : Loc} {p : Params}
    (h : locateParams tt m l = .ok p) (hom : p.om = true) :
    addToQuery tt m qb (.input l) = .error "omitempty-explicit-zero" := by
  rw [addToQuery_input, h, bind_ok, if_pos hom]

/-- `omitEmptyInputError` in `insertColumn.bindInputs` (bindinputs.go), for an explicit insert column
    (`$T.member` rather than `$T.*`) -/
theorem TCol.bind_rejects_explicit_zero {tt : TypeTable} {m : TypeToValue} {l : Loc} {column : Bytes}
    {ic : Nat} {p : Params} (h : locateParams tt m l = .ok p) (hom : p.om = true) :
    (TCol.insert l column true).bind tt m ic = .error "omitempty-explicit-zero" := by
  have : ¬ (p.bulk = false ∧ 1 < p.vals.length) := by
    rintro ⟨hb, hl⟩
    -- an omitted value is not a slice, hence a single value
    have h1 := locateParams_single h hb ((locateParams_shape h).2.2 hom)
    exact Nat.lt_irrefl 1 (h1 ▸ hl)
  unfold TCol.bind
  simp only [h]
  rw [if_neg (by simpa using this)]
  simp [hom]

theorem input_rejects_locate_error {tt : TypeTable} {m : TypeToValue} {qb : QB} {l : Loc} {e : String}
    (h : locateParams tt m l = .error e) : addToQuery tt m qb (.input l) = .error e := by
  rw [addToQuery_input, h]; rfl

end Sqlair
