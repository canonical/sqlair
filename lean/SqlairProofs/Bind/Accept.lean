/-
  The argument table that `validateInputs` builds (`ValidateInputs` in `internal/typeinfo/validate.go`):
  which argument lists it accepts, said declaratively (`Accepts`), and what it returns
  (`validateInputs_ok_iff`, the acceptance part of property C08; exact and without hypothesis on the type
  table).  Then what the two look-ups of `locateParams` find in such a table.
-/
import SqlairProofs.Basics
import SqlairModel.Bind

namespace Sqlair

def argKey (a : GoVal) : Nat := (indirect a).tid

def argEntry (a : GoVal) : Nat × GoVal := ((indirect a).tid, indirect a)

/-- the part of the per-argument kind/name check that does not look at the other arguments -/
def typeOK (tt : TypeTable) (t : Nat) : Bool :=
  let td := tt.get t
  match td.kind with
  | .map | .struct => td.name.size != 0
  | .slice =>
    match (tt.get td.elem).kind with
    | .map | .struct | .ptr => true
    | _ => td.name.size != 0
  | _ => false

def argOK (tt : TypeTable) (a : GoVal) : Bool := (validateValue a).isOk && typeOK tt (argKey a)

/-- DIRECTED clash, exactly as `validateInputs` tests it: an argument of type `n` is rejected
    ("type-provided-twice" / "type-and-slice") when a value of type `o` was provided EARLIER -/
def clashD (tt : TypeTable) (o n : Nat) : Bool :=
  o == n ||
  (let td := tt.get n
   match td.kind with
   | .map | .struct => isSliceOf tt o n || isSliceOfPtr tt o n
   | .slice =>
     let ed := tt.get td.elem
     match ed.kind with
     | .map | .struct => td.name.size == 0 && td.elem == o
     | .ptr => td.name.size == 0 && ed.elem == o
     | _ => false
   | _ => false)

def stepOK (tt : TypeTable) (m : TypeToValue) (a : GoVal) : Bool :=
  argOK tt a && m.all (fun p => !clashD tt p.1 (argKey a))

def Accepts (tt : TypeTable) (args : List GoVal) : Prop :=
  (∀ a ∈ args, argOK tt a = true) ∧ args.Pairwise (fun a b => clashD tt (argKey a) (argKey b) = false)

theorem isSliceOf_iff {tt : TypeTable} {s t : Nat} :
    isSliceOf tt s t = true ↔ (tt.get s).kind = .slice ∧ (tt.get s).name.size = 0 ∧ (tt.get s).elem = t := by
  simp [isSliceOf, and_assoc]

theorem isSliceOfPtr_iff {tt : TypeTable} {s t : Nat} :
    isSliceOfPtr tt s t = true ↔
      (tt.get s).kind = .slice ∧ (tt.get s).name.size = 0 ∧ (tt.get (tt.get s).elem).kind = .ptr ∧
      (tt.get (tt.get s).elem).name.size = 0 ∧ (tt.get (tt.get s).elem).elem = t := by
  simp [isSliceOfPtr, and_assoc]

theorem ttvGet_isSome (m : TypeToValue) (t : Nat) : (ttvGet m t).isSome = m.any (·.1 == t) := by
  rw [ttvGet, Option.isSome_map, List.isSome_find?]

private theorem any_or {α : Type} (l : List α) (f g : α → Bool) :
    l.any (fun p => f p || g p) = (l.any f || l.any g) := by
  induction l with
  | nil => rfl
  | cons x l ih => simp only [List.any_cons, ih, Bool.or_assoc, Bool.or_left_comm]

private theorem any_and_beq_comm {α : Type} (l : List α) (c : Bool) (f : α → Nat) (t : Nat) :
    l.any (fun p => c && t == f p) = (c && l.any (fun p => f p == t)) := by
  rw [List.and_any_distrib_left]; congr; funext p; rw [BEq.comm]

theorem stepOK_iff (tt : TypeTable) (m : TypeToValue) (a : GoVal) :
    stepOK tt m a = true ↔ argOK tt a = true ∧ ∀ p ∈ m, clashD tt p.1 (argKey a) = false := by
  simp only [stepOK, Bool.and_eq_true, List.all_eq_true, Bool.not_eq_true']

/-- For each kind of the argument's type both sides are the same Boolean function of at most four
    scans of `m`; with the scans generalised to variables the cases are immediate. -/
theorem validateInputs_cons_ok_iff (tt : TypeTable) (m m' : TypeToValue) (a : GoVal) (rest : List GoVal) :
    validateInputs tt (a :: rest) m = .ok m' ↔
      stepOK tt m a = true ∧ validateInputs tt rest (m ++ [argEntry a]) = .ok m' := by
  rw [validateInputs]
  simp only [stepOK, argOK, typeOK, clashD, argKey, argEntry]
  cases validateValue a with
  | error e => simp [Except.isOk, Except.toBool]
  | ok u =>
    generalize validateInputs tt rest _ = V
    cases (tt.get (indirect a).tid).kind
    case struct | map =>
      simp only [ttvGet_isSome, ← List.not_any_eq_all_not, any_or, Except.isOk, Except.toBool,
        Bool.true_and, bne]
      generalize (Array.size _ == 0) = anon
      generalize List.any m _ = slice
      generalize List.any m _ = ptrSlice
      generalize List.any m _ = twice
      cases anon <;> cases slice <;> cases ptrSlice <;> cases twice <;> simp
    case slice =>
      cases (tt.get (tt.get (indirect a).tid).elem).kind
      case struct | map | ptr =>
        simp only [ttvGet_isSome, ← List.not_any_eq_all_not, any_or, any_and_beq_comm, Except.isOk,
          Except.toBool, Bool.true_and]
        generalize (Array.size _ == 0) = anon
        generalize List.any m _ = elem
        generalize List.any m _ = twice
        cases anon <;> cases elem <;> cases twice <;> simp
      all_goals
        simp only [ttvGet_isSome, ← List.not_any_eq_all_not, any_or, Except.isOk, Except.toBool,
          Bool.true_and, bne]
        generalize (Array.size _ == 0) = anon
        generalize List.any m _ = twice
        cases anon <;> cases twice <;> simp
    all_goals simp

/-- C08, which argument lists `ValidateInputs` accepts. -/
theorem validateInputs_ok_iff (tt : TypeTable) : ∀ (args : List GoVal) (m0 m : TypeToValue),
    validateInputs tt args m0 = .ok m ↔
      (m = m0 ++ args.map argEntry ∧ (∀ a ∈ args, argOK tt a = true) ∧
       (∀ p ∈ m0, ∀ a ∈ args, clashD tt p.1 (argKey a) = false) ∧
       args.Pairwise (fun a b => clashD tt (argKey a) (argKey b) = false))
  | [], m0, m => by simp [validateInputs, eq_comm (a := m0)]
  | a :: rest, m0, m => by
    rw [validateInputs_cons_ok_iff, validateInputs_ok_iff tt rest, stepOK_iff]
    simp only [List.map_cons, List.append_assoc, List.singleton_append, List.forall_mem_cons,
      List.forall_mem_append, List.not_mem_nil, false_imp_iff, implies_true, and_true,
      List.pairwise_cons]
    constructor
    · rintro ⟨⟨ha, hc⟩, rfl, h1, ⟨h2, h3⟩, h4⟩
      exact ⟨rfl, ⟨ha, h1⟩, fun p hp => ⟨hc p hp, h2 p hp⟩, h3, h4⟩
    · rintro ⟨rfl, ⟨ha, h1⟩, h2, h3, h4⟩
      exact ⟨⟨ha, fun p hp => (h2 p hp).1⟩, rfl, h1, ⟨fun p hp => (h2 p hp).2, h3⟩, h4⟩

theorem validateInputs_nil_ok_iff (tt : TypeTable) (args : List GoVal) (m : TypeToValue) :
    validateInputs tt args [] = .ok m ↔ m = args.map argEntry ∧ Accepts tt args := by
  rw [validateInputs_ok_iff]
  simp [Accepts]

theorem map_argEntry_fst (args : List GoVal) : (args.map argEntry).map (·.1) = args.map argKey := by
  rw [List.map_map]; rfl

theorem Accepts.nodup_keys {tt : TypeTable} {args : List GoVal} (h : Accepts tt args) :
    (args.map argKey).Nodup := by
  rw [List.nodup_iff_pairwise_ne, List.pairwise_map]
  exact h.2.imp fun hab heq => by simp [clashD, heq] at hab

theorem Except.isOk_iff_exists {ε α : Type} (e : Except ε α) : e.isOk = true ↔ ∃ x, e = .ok x := by
  cases e <;> simp [Except.isOk, Except.toBool]

theorem validateInputs_isOk_iff (tt : TypeTable) (args : List GoVal) :
    (validateInputs tt args []).isOk = true ↔ Accepts tt args := by
  rw [Except.isOk_iff_exists]
  constructor
  · rintro ⟨m, hm⟩; exact ((validateInputs_nil_ok_iff tt args m).1 hm).2
  · intro h; exact ⟨_, (validateInputs_nil_ok_iff tt args _).2 ⟨rfl, h⟩⟩

theorem ttvGet_eq_some_iff {m : TypeToValue} (hn : (m.map (·.1)).Nodup) {t : Nat} {v : GoVal} :
    ttvGet m t = some v ↔ (t, v) ∈ m :=
  assoc_iff_mem hn

theorem locateBulk_some {tt : TypeTable} {m : TypeToValue} {t : Nat} {v : GoVal}
    (h : locateBulk tt m t = some v) :
    ∃ k, (k, v) ∈ m ∧ (isSliceOf tt k t = true ∨ isSliceOfPtr tt k t = true) := by
  unfold locateBulk at h
  split at h
  · rename_i p hp
    cases h
    have h1 := List.find?_some hp
    exact ⟨p.1, List.mem_of_find?_eq_some hp, Or.inl h1⟩
  · cases hp : m.find? (fun p => isSliceOfPtr tt p.1 t) with
    | none => simp [hp] at h
    | some p =>
      simp only [hp, Option.map_some, Option.some.injEq] at h
      subst h
      have h1 := List.find?_some hp
      exact ⟨p.1, List.mem_of_find?_eq_some hp, Or.inr h1⟩

end Sqlair
