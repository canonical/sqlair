/-
  The fold of `bindInputs` (`TypeBoundExpr.BindInputs`, bindinputs.go) over the typed expressions: what it
  appends to the state, and a successful `bindInputs` unfolded at a position.
-/
import SqlairProofs.Bind.Step
namespace Sqlair

theorem foldlM_addToQuery_grow {tt : TypeTable} {m : TypeToValue} :
    ∀ (tes : List TExpr) (qb qb' : QB), tes.foldlM (addToQuery tt m) qb = .ok qb' →
    (∃ ps, qb'.pieces = qb.pieces ++ ps ∧ ps.length = tes.length ∧
      ps.flatMap Piece.outCols = (tes.flatMap TExpr.outCols).map (·.1)) ∧
    (∃ pms, qb'.params = qb.params ++ pms) ∧
    qb'.outputs = qb.outputs ++ (tes.flatMap TExpr.outCols).map (·.2) := by
  refine foldlM_except_rel ?_ ?_
  · exact fun _ => ⟨⟨[], by simp⟩, ⟨[], by simp⟩, by simp⟩
  rintro qb te q1 rest qb' hs - ⟨⟨ps', h1, h2, h3⟩, ⟨pms, h4⟩, h5⟩
  obtain ⟨p, ps, s⟩ := addToQuery_step hs
  refine ⟨⟨p :: ps', by rw [h1, s.pieces]; simp, by simp [h2], ?_⟩, ⟨ps ++ pms, by rw [h4, s.params]; simp⟩, ?_⟩
  · simp [h3, s.outCols]
  · rw [h5, s.outputs]; simp

theorem bindInputs_eq (tt : TypeTable) (tes : List TExpr) (args : List GoVal) :
    bindInputs tt tes args = (validateInputs tt args []).bind fun m =>
      (tes.foldlM (addToQuery tt m) ({} : QB)).bind fun qb =>
        if m.all (fun p => qb.argUsed.contains p.1) then
          .ok { pieces := qb.pieces, params := qb.params, outputs := qb.outputs }
        else .error "argument-not-used" := by
  rw [bindInputs]
  cases validateInputs tt args [] with
  | error e => rfl
  | ok m => simp only [bind_ok]; cases tes.foldlM (addToQuery tt m) ({} : QB) <;> rfl

theorem bindInputs_ok_unfold {tt : TypeTable} {tes : List TExpr} {args : List GoVal} {pq : Primed}
    (h : bindInputs tt tes args = .ok pq) :
    ∃ m qb, validateInputs tt args [] = .ok m ∧ tes.foldlM (addToQuery tt m) {} = .ok qb ∧
      m.all (fun p => qb.argUsed.contains p.1) = true ∧
      pq = { pieces := qb.pieces, params := qb.params, outputs := qb.outputs } := by
  rw [bindInputs_eq] at h
  obtain ⟨m, hm, h⟩ := bind_ok_inv h
  obtain ⟨qb, hq, h⟩ := bind_ok_inv h
  rcases of_ite_eq h with ⟨hall, h⟩ | ⟨_, h⟩
  · cases h; exact ⟨m, qb, hm, hq, hall, rfl⟩
  · cases h

theorem bindInputs_inv {tt : TypeTable} {tes : List TExpr} {args : List GoVal} {pq : Primed}
    (h : bindInputs tt tes args = .ok pq) :
    ∃ qb, QBInv qb ∧ pq.pieces = qb.pieces ∧ pq.params = qb.params ∧ pq.outputs = qb.outputs := by
  obtain ⟨m, qb, _, hq, _, rfl⟩ := bindInputs_ok_unfold h
  exact ⟨qb, foldlM_addToQuery_inv QBInv.init hq, rfl, rfl, rfl⟩

theorem bindInputs_grow {tt : TypeTable} {tes : List TExpr} {args : List GoVal} {pq : Primed}
    (h : bindInputs tt tes args = .ok pq) :
    pq.pieces.length = tes.length ∧
    pq.pieces.flatMap Piece.outCols = (tes.flatMap TExpr.outCols).map (·.1) ∧
    pq.outputs = (tes.flatMap TExpr.outCols).map (·.2) := by
  obtain ⟨m, qb, _, hq, _, rfl⟩ := bindInputs_ok_unfold h
  obtain ⟨⟨ps, h1, h2, h3⟩, _, h5⟩ := foldlM_addToQuery_grow _ _ _ hq
  simp only [List.nil_append] at h1 h5
  exact ⟨h1 ▸ h2, h1 ▸ h3, h5⟩

theorem bindInputs_step_at' {tt : TypeTable} {pre post : List TExpr} {te : TExpr} {args : List GoVal}
    {pq : Primed} (h : bindInputs tt (pre ++ te :: post) args = .ok pq) :
    ∃ m q1 q2, validateInputs tt args [] = .ok m ∧ QBInv q1 ∧ addToQuery tt m q1 te = .ok q2 ∧
      (∀ p, q2.pieces = q1.pieces ++ [p] → pq.pieces[pre.length]? = some p) ∧
      (∀ ps, q2.params = q1.params ++ ps → ∃ before after, pq.params = before ++ ps ++ after) := by
  obtain ⟨m, qb, hm, hq, _, rfl⟩ := bindInputs_ok_unfold h
  obtain ⟨q1, q2, h1, h2, h3⟩ := foldlM_except_split _ _ _ _ _ _ hq
  obtain ⟨⟨ps, g1, g2, _⟩, _, _⟩ := foldlM_addToQuery_grow _ _ _ h1
  obtain ⟨⟨ps', k1, _, _⟩, ⟨pms, k2⟩, _⟩ := foldlM_addToQuery_grow _ _ _ h3
  refine ⟨m, q1, q2, hm, foldlM_addToQuery_inv QBInv.init h1, h2, fun p hp => ?_,
    fun ps hps => ⟨q1.params, pms, by rw [k2, hps]⟩⟩
  rw [k1, hp, g1, ← g2]
  simp

end Sqlair
