import SqlairProofs.Typed.Args
import SqlairProofs.Bind.Perm

/-!
# C16 (argument order) for prepared statements: the gap-A hypothesis can be dropped

When the input locators of `tes` are well-kinded (`InputLocsKindOK tt tes`, which `bindTypes` guarantees),
the hypothesis `PtrSliceSym tt args` (gap A) of `bindInputs_perm_invariant_partial` is not needed.  Reason:
in every gap-A situation the offending argument has an unusable type `s` (`Unusable tt s`).  No
well-kinded locator can mark such an argument as used -- not directly (`s` is neither a struct, nor a
map, nor a named slice) and not as a bulk argument (`s` is neither `[]T` nor `[]*T` for a struct/map
`T`) -- so `bindInputs` fails in EVERY order (`bindInputs_error_of_unusable`): with
"type-and-slice" in one order and at the latest with "argument-not-used" in the other.

Both gap-A counterexamples of `Perm.lean` (`cxA_tes`, `cxA2_tes`) use the locator `.slice 2 #[]`, whose
type (`[]*S` resp. `[]P`) is an ANONYMOUS slice, so they are not `InputLocsKindOK`; without that locator
the argument `B` is unused and both orders fail (the `example`s at the end of this file).
-/

namespace Sqlair

/-- `s` is an anonymous `[]P`, `P` of kind pointer, that is not `[]*T` for a struct/map type `T` -/
def Unusable (tt : TypeTable) (s : Nat) : Prop :=
  (tt.get s).kind = .slice ∧ (tt.get s).name.size = 0 ∧ (tt.get (tt.get s).elem).kind = .ptr ∧
  ¬ ((tt.get (tt.get s).elem).name.size = 0 ∧
     ((tt.get (tt.get (tt.get s).elem).elem).kind = .struct ∨
      (tt.get (tt.get (tt.get s).elem).elem).kind = .map))

instance (tt : TypeTable) (s : Nat) : Decidable (Unusable tt s) := by
  unfold Unusable; infer_instance

theorem unusable_of_not_ptrSliceOK {tt : TypeTable} {t s : Nat} (h : ¬ PtrSliceOK tt t s) :
    Unusable tt s := by
  unfold PtrSliceOK at h
  simp only [Classical.not_imp] at h
  obtain ⟨_, h1, h2, h3, h4, h5⟩ := h
  refine ⟨h1, h2, h3, ?_⟩
  rintro ⟨h6, h7⟩
  apply h5
  rw [h4] at h7
  exact ⟨by rcases h7 with h7 | h7 <;> simp [h7], fun _ => h6⟩

theorem Unusable.not_bulk {tt : TypeTable} {s t : Nat} (hu : Unusable tt s)
    (ht : (tt.get t).kind = .struct ∨ (tt.get t).kind = .map)
    (h : isSliceOf tt s t = true ∨ isSliceOfPtr tt s t = true) : False := by
  obtain ⟨_, _, hptr, hno⟩ := hu
  rcases h with h | h
  · obtain ⟨_, _, he⟩ := isSliceOf_iff.1 h
    rw [he] at hptr
    rcases ht with ht | ht <;> rw [ht] at hptr <;> cases hptr
  · obtain ⟨_, _, _, hn, he⟩ := isSliceOfPtr_iff.1 h
    exact hno ⟨hn, by rw [he]; exact ht⟩

theorem located_argType_ne_unusable {tt : TypeTable} {args : List GoVal} {l : Loc} {p : Params} {s : Nat}
    (hl : l.kindOK tt) (hu : Unusable tt s) (h : Located tt (args.map argEntry) l p) : p.argType ≠ s := by
  rintro rfl
  rcases h.arg with ⟨-, ht, -⟩ | ⟨hb, -, a, -, hk, hs⟩
  · rw [ht] at hu
    cases l with
    | field | mapKey => exact nomatch (show (tt.get _).kind = _ from hl).symm.trans hu.1
    | slice => exact hl.2 hu.2.1
  · rw [hk] at hs
    cases h with
    | slice | mapKey | field => cases hb
    | mapKeyBulk => exact hu.not_bulk (.inr hl) hs
    | fieldBulk => exact hu.not_bulk (.inl hl) hs

/-- C08 (listed in `obligations.json`).  No well-kinded expression uses an argument of an unusable type, so the
    list is not `ArgsOK`: it is rejected by `validateInputs`, by a locator, or at the latest with
    "argument-not-used". -/
theorem bindInputs_error_of_unusable (tt : TypeTable) (tes : List TExpr) {args : List GoVal}
    {b : GoVal} (hk : InputLocsKindOK tt tes) (hb : b ∈ args) (hu : Unusable tt (argKey b)) :
    (bindInputs tt tes args).toOption = none := by
  cases h : bindInputs tt tes args with
  | error e => rfl
  | ok pq =>
    obtain ⟨te, hte, l, hl, p, hp, hpt⟩ := (bindInputs_ok_iff_argsOK.1 ⟨pq, h⟩).2.2 b hb
    exact absurd hpt (located_argType_ne_unusable (hk te hte l hl) hu hp)

/-- C16, argument order, for prepared statements (`bindTypes` gives `hk`): only the gap-B hypothesis remains,
    in the gap-A situations of `Perm.lean` both orders fail. -/
theorem bindInputs_perm_invariant_of_kindOK (tt : TypeTable) (tes : List TExpr) {args args' : List GoVal}
    (hk : InputLocsKindOK tt tes) (hB : SliceCanonOn tt (args.map argKey)) (hp : args.Perm args') :
    (bindInputs tt tes args).toOption = (bindInputs tt tes args').toOption := by
  by_cases hA : PtrSliceSym tt args
  · exact bindInputs_perm_invariant_partial tt tes hA hB hp
  · obtain ⟨a, _, b, hb, hn⟩ : ∃ a ∈ args, ∃ b ∈ args, ¬ PtrSliceOK tt (argKey a) (argKey b) := by
      simpa only [PtrSliceSym, Classical.not_forall, exists_prop] using hA
    have hu := unusable_of_not_ptrSliceOK hn
    rw [bindInputs_error_of_unusable tt tes hk hb hu,
      bindInputs_error_of_unusable tt tes hk (hp.mem_iff.1 hb) hu]

instance (tt : TypeTable) (tes : List TExpr) : Decidable (InputLocsKindOK tt tes) := by
  unfold InputLocsKindOK; infer_instance

example : InputLocsKindOK nvTT nvTes := by decide +kernel

/-- non-vacuity: both sides are `some _`, see `Perm.lean` -/
example : (bindInputs nvTT nvTes [nvA, nvB]).toOption = (bindInputs nvTT nvTes [nvB, nvA]).toOption :=
  bindInputs_perm_invariant_of_kindOK nvTT nvTes (by decide +kernel)
    (by decide +kernel) (List.Perm.swap _ _ _)

example : ¬ InputLocsKindOK cxA_tt cxA_tes := by decide +kernel
example : ¬ InputLocsKindOK cxA2_tt cxA2_tes := by decide +kernel

example : Unusable cxA_tt (argKey cxA_B) ∧ Unusable cxA2_tt (argKey cxA2_B) :=
  ⟨by decide +kernel, by decide +kernel⟩

/-- gap-A arguments with a well-kinded expression (only the `$S[:]` input) -/
example :
    ¬ PtrSliceSym cxA_tt [cxA_A, cxA_B] ∧
    InputLocsKindOK cxA_tt [.input (.slice 0 #[83])] ∧
    bindInputs cxA_tt [.input (.slice 0 #[83])] [cxA_A, cxA_B] = .error "type-and-slice" ∧
    bindInputs cxA_tt [.input (.slice 0 #[83])] [cxA_B, cxA_A] = .error "argument-not-used" :=
  ⟨by decide +kernel, by decide +kernel, rfl, rfl⟩

example :
    (bindInputs cxA_tt [.input (.slice 0 #[83])] [cxA_A, cxA_B]).toOption =
    (bindInputs cxA_tt [.input (.slice 0 #[83])] [cxA_B, cxA_A]).toOption :=
  bindInputs_perm_invariant_of_kindOK cxA_tt _ (by decide +kernel)
    (by decide +kernel) (List.Perm.swap _ _ _)

end Sqlair
