/-
  Structural facts about `bindTypes`: every locator of a typed expression is handed out
  by one of the generated infos (so insert columns never get slice locators, property C07), and no
  generated output column is `*` or `t.*` (property C05), because `parseTag` accepts no such tag
  (`Bind/ParseTag.lean`).
-/
import SqlairProofs.Bind.Resolve
import SqlairProofs.Bind.LocDefs
import SqlairProofs.Bind.ParseTag
import SqlairProofs.Typed.Fields
import SqlairProofs.Typed.Samples

namespace Sqlair

/-! An arbitrary property `P` of the locators that `getMember`/`getAll` hand out (and `Q` of those of
    `getSlice`) holds of everything the resolvers of Bind/Resolve return, hence of every locator of a node's
    expression (`nodeRes_exprSat`).  Instances: non-slice (`bindTypes_insert_locs` below) and `Loc.GenOK`
    (NoPanic/Locs.lean). -/

def TColsSat (P : Loc → Prop) (cols : List TCol) : Prop :=
  ∀ loc column e, TCol.insert loc column e ∈ cols → P loc

def InfosGive (P Q : Loc → Prop) (infos : List (Bytes × ArgInfo)) : Prop :=
  ∀ p ∈ infos, (∀ m l, p.2.getMember m = .ok l → P l) ∧
    (∀ ms, p.2.getAll = .ok ms → ∀ q ∈ ms, P q.1) ∧ (∀ l, p.2.getSlice = .ok l → Q l)

theorem getMember_nonSlice {a : ArgInfo} {m : Bytes} {l : Loc} (h : a.getMember m = .ok l) :
    l.nonSlice := by
  rcases getMember_ok_iff.1 h with ⟨_, _, _, _, _, _, _, rfl⟩ | ⟨_, _, _, rfl⟩ <;> rfl

theorem getAll_nonSlice {a : ArgInfo} {ms : List (Loc × Bytes)} (h : a.getAll = .ok ms) :
    ∀ p ∈ ms, p.1.nonSlice := by
  obtain ⟨_, _, _, _, _, rfl⟩ := getAll_eq h
  intro p hp
  obtain ⟨_, _, rfl⟩ := List.mem_map.1 hp
  rfl

theorem infosGive_nonSlice (infos : List (Bytes × ArgInfo)) :
    InfosGive Loc.nonSlice (fun _ => True) infos :=
  fun _ _ => ⟨fun _ _ => getMember_nonSlice, fun _ => getAll_nonSlice, fun _ _ => trivial⟩

section
variable {P Q : Loc → Prop}

variable {infos : List (Bytes × ArgInfo)}

theorem memberRes_gives (hi : InfosGive P Q infos) {T m : Bytes} {l : Loc}
    (h : memberRes infos T m = .ok l) : P l := by
  obtain ⟨a, h1, h2⟩ := memberRes_ok.1 h
  exact (hi _ (lookupRes_mem h1)).1 m l h2

theorem starRes_gives (hi : InfosGive P Q infos) {T : Bytes} {ms : List (Loc × Bytes)}
    (h : starRes infos T = .ok ms) : ∀ p ∈ ms, P p.1 := by
  obtain ⟨a, h1, h2⟩ := starRes_ok.1 h
  exact (hi _ (lookupRes_mem h1)).2.1 ms h2

theorem sliceRes_gives (hi : InfosGive P Q infos) {T : Bytes} {l : Loc}
    (h : sliceRes infos T = .ok l) : Q l := by
  obtain ⟨a, h1, h2⟩ := sliceRes_ok.1 h
  exact (hi _ (lookupRes_mem h1)).2.2 l h2

theorem TColsSat.nil : TColsSat P [] := by
  intro _ _ _ h; cases h

theorem TColsSat.append {a b : List TCol} (ha : TColsSat P a) (hb : TColsSat P b) :
    TColsSat P (a ++ b) :=
  fun _ _ _ h => (List.mem_append.1 h).elim (ha _ _ _) (hb _ _ _)

theorem TColsNoSlice.append {a b : List TCol} (ha : TColsNoSlice a) (hb : TColsNoSlice b) :
    TColsNoSlice (a ++ b) :=
  TColsSat.append ha hb

theorem TColsSat.single_insert {l : Loc} {c : Bytes} {e : Bool} (h : P l) :
    TColsSat P [TCol.insert l c e] := by
  intro loc column e' hm
  simp only [List.mem_singleton, TCol.insert.injEq] at hm
  obtain ⟨rfl, _, _⟩ := hm
  exact h

theorem TColsSat.single_literal {c t : Bytes} : TColsSat P [TCol.literal c t] := by
  intro loc column e' hm
  simp at hm

theorem TColsSat.filterMap {cols : List TCol} (h : TColsSat P cols) :
    ∀ l ∈ cols.filterMap TCol.loc?, P l := by
  intro l hl
  simp only [List.mem_filterMap] at hl
  obtain ⟨c, hc, hcl⟩ := hl
  cases c with
  | insert loc column e =>
    simp only [TCol.loc?, Option.some.injEq] at hcl
    subst hcl; exact h _ _ _ hc
  | literal _ _ => simp [TCol.loc?] at hcl

theorem srcRes_gives (hi : InfosGive P Q infos) {a : Acc} {r : List TCol × List (Loc × Bytes)}
    (h : srcRes infos a = .ok r) : TColsSat P r.1 := by
  rcases srcRes_ok.1 h with ⟨_, ms, hms, rfl⟩ | ⟨_, l, hl, rfl⟩
  · intro loc column e hm
    obtain ⟨p, hp, hpe⟩ := List.mem_map.1 hm
    cases hpe; exact starRes_gives hi hms p hp
  · exact .single_insert (memberRes_gives hi hl)

theorem pairRes_gives (hi : InfosGive P Q infos) {p : Col × Val} {r : List TCol × List (Loc × Bytes)}
    (h : pairRes infos p = .ok r) : TColsSat P r.1 := by
  unfold pairRes at h
  split at h
  · cases h; exact .single_literal
  · obtain ⟨l, hl, rfl⟩ := map_ok_inv h
    exact .single_insert (memberRes_gives hi hl)

def ProvGives (P : Loc → Prop) (m : List (Bytes × List Loc)) : Prop :=
  ∀ p ∈ m, ∀ l ∈ p.2, P l

theorem provAssign_gives {m : List (Bytes × List Loc)} {k : Bytes} {l : Loc}
    (hm : ProvGives P m) (hl : P l) : ProvGives P (provAssign m k l) :=
  have h1 : ∀ l' ∈ [l], P l' := List.forall_mem_singleton.2 hl
  provUpd_forall (I := fun ls => ∀ l' ∈ ls, P l') (g := fun _ => [l]) hm (fun _ _ => h1) h1 k

theorem provAppend_gives {m : List (Bytes × List Loc)} {k : Bytes} {l : Loc}
    (hm : ProvGives P m) (hl : P l) : ProvGives P (provAppend m k l) :=
  provUpd_forall (I := fun ls => ∀ l' ∈ ls, P l') (g := (· ++ [l])) hm
    (fun p hp => List.forall_mem_append.2 ⟨hm p hp, List.forall_mem_singleton.2 hl⟩)
    (List.forall_mem_singleton.2 hl) k

theorem provAppend_foldl_gives : ∀ (ms : List (Loc × Bytes)) (m : List (Bytes × List Loc)),
    ProvGives P m → (∀ p ∈ ms, P p.1) →
    ProvGives P (ms.foldl (fun pr (x : Loc × Bytes) => provAppend pr x.2 x.1) m) := by
  intro ms
  induction ms with
  | nil => intro m hm _; exact hm
  | cons x rest ih =>
    intro m hm h
    simp only [List.foldl_cons]
    exact ih _ (provAppend_gives hm (h x (by simp))) (fun p hp => h p (by simp [hp]))

theorem provStepRes_gives (hi : InfosGive P Q infos) {acc acc' : List (Bytes × List Loc) × Option Bytes}
    {src : Acc} (h : provStepRes infos acc src = .ok acc') (hp : ProvGives P acc.1) : ProvGives P acc'.1 := by
  rcases provStepRes_ok h with ⟨_, _, _, _, _, rfl⟩ | ⟨_, ms, hms, rfl⟩ | ⟨_, l, hl, rfl⟩
  · exact hp
  · exact provAppend_foldl_gives ms _ hp (starRes_gives hi hms)
  · exact provAssign_gives hp (memberRes_gives hi hl)

theorem colRes_gives (hi : InfosGive P Q infos) {prov : List (Bytes × List Loc)} (hp : ProvGives P prov)
    {rem : Option Bytes} {c : Col} {r : List TCol × List (Loc × Bytes)}
    (h : colRes infos prov rem c = .ok r) : TColsSat P r.1 := by
  rcases colRes_ok h with ⟨k, l, hf, rfl⟩ | ⟨_, m, l, _, hl, rfl⟩
  · exact .single_insert (hp _ (List.mem_of_find?_eq_some hf) l List.mem_cons_self)
  · exact .single_insert (memberRes_gives hi hl)

end

theorem TColsNoSlice.nil : TColsNoSlice [] := TColsSat.nil

def OcsSat (R : Loc → Prop) (ocs : List (Bytes × Loc)) : Prop := ∀ c ∈ ocs, R c.2

section
variable {infos : List (Bytes × ArgInfo)} {P Q : Loc → Prop}

theorem newOutputColumn_snd (table column : Bytes) (l : Loc) : (newOutputColumn table column l).2 = l := by
  unfold newOutputColumn; split <;> rfl

theorem OcsSat.column {table column : Bytes} {l : Loc} (h : P l) : OcsSat P [newOutputColumn table column l] :=
  List.forall_mem_singleton.2 ((newOutputColumn_snd ..).symm ▸ h)

theorem OcsSat.columns {pref : Bytes} {ms : List (Loc × Bytes)} (h : ∀ p ∈ ms, P p.1) :
    OcsSat P (ms.map fun (l, tag) => newOutputColumn pref tag l) := by
  intro c hcm
  obtain ⟨p, hp, rfl⟩ := List.mem_map.1 hcm
  exact (newOutputColumn_snd ..).symm ▸ h p hp

theorem accRes_gives (hi : InfosGive P Q infos) {pref : Bytes} {a : Acc}
    {r : List (Bytes × Loc) × List (Loc × Bytes)} (h : accRes pref infos a = .ok r) : OcsSat P r.1 := by
  rcases accRes_ok.1 h with ⟨_, ms, hms, rfl⟩ | ⟨_, l, hl, rfl⟩
  · exact .columns (starRes_gives hi hms)
  · exact .column (memberRes_gives hi hl)

theorem colStarRes_gives (hi : InfosGive P Q infos) {ty : Bytes} {c : Col}
    {r : List (Bytes × Loc) × List (Loc × Bytes)} (h : colStarRes ty infos c = .ok r) : OcsSat P r.1 := by
  obtain ⟨l, hl, rfl⟩ := map_ok_inv h
  exact .column (memberRes_gives hi hl)

theorem pairOutRes_gives (hi : InfosGive P Q infos) {p : Col × Acc}
    {r : List (Bytes × Loc) × List (Loc × Bytes)} (h : pairOutRes infos p = .ok r) : OcsSat P r.1 := by
  obtain ⟨l, hl, rfl⟩ := map_ok_inv h
  exact .column (memberRes_gives hi hl)

end

theorem mapM_items {α β γ : Type} {f : α → Except String (List β × γ)} {V : β → Prop} {xs : List α}
    {rs : List (List β × γ)} (h : xs.mapM f = .ok rs) (hV : ∀ x ∈ xs, ∀ r, f x = .ok r → ∀ b ∈ r.1, V b) :
    ∀ b ∈ rs.flatMap (·.1), V b := by
  intro b hb
  obtain ⟨r, hr, hbr⟩ := List.mem_flatMap.1 hb
  obtain ⟨x, hx, hxr⟩ := (mapM_ok_iff.1 h).mem_right hr
  exact hV x hx r hxr b hbr

/-- a plain input comes from `getMember` (`P`) or, for `$S[:]`, from `getSlice` (`Q`), and the expression does
    not record which -/
def ExprSat (P Q : Loc → Prop) : TExpr → Prop
  | .input l => P l ∨ Q l
  | .insert cols => TColsSat P cols
  | .output cols => OcsSat P cols
  | .bypass _ => True

theorem nodeRes_exprSat {P Q : Loc → Prop} {infos : List (Bytes × ArgInfo)} (hi : InfosGive P Q infos)
    {s : OSeg} {e : TExpr} {ms : List (Loc × Bytes)} (h : nodeRes infos s = .ok (e, ms)) :
    ExprSat P Q e := by
  by_cases hk : s.kind = .output
  · obtain ⟨rs, he, hforms⟩ := nodeRes_output hk h
    cases he
    rcases hforms with ⟨_, hm⟩ | ⟨_, _, _, _, hm⟩ | ⟨_, _, _, hm⟩
    · exact mapM_items hm fun _ _ _ => accRes_gives hi
    · exact mapM_items hm fun _ _ _ => colStarRes_gives hi
    · exact mapM_items hm fun _ _ _ => pairOutRes_gives hi
  have ins : ∀ {α : Type} {f : α → Except String (List TCol × List (Loc × Bytes))} {xs : List α} {rs},
      xs.mapM f = .ok rs → (∀ x r, f x = .ok r → TColsSat P r.1) → TColsSat P (rs.flatMap (·.1)) :=
    fun h1 hf loc column ex hm => mapM_items (V := fun c => ∀ loc column ex, c = TCol.insert loc column ex → P loc)
      h1 (fun x _ r hx b hb loc column ex hbe => hf x r hx loc column ex (hbe ▸ hb)) _ hm loc column ex rfl
  have ht : NodeTyped infos s e := ⟨ms, h⟩
  cases hkind : s.kind
  case output => exact absurd hkind hk
  case bypass => cases ht.bypass hkind; trivial
  case member => obtain ⟨_, _, _, hl, rfl⟩ := ht.member hkind; exact .inl (memberRes_gives hi hl)
  case slice => obtain ⟨_, _, _, hl, rfl⟩ := ht.slice hkind; exact .inr (sliceRes_gives hi hl)
  case astInsert => obtain ⟨_, hm, rfl⟩ := ht.astInsert hkind; exact ins hm fun _ _ => srcRes_gives hi
  case colInsert =>
    obtain ⟨pr, _, hp, hm, rfl⟩ := ht.colInsert hkind
    exact ins hm fun _ _ => colRes_gives hi <|
      foldlM_except_inv (provStepRes infos) (fun acc => ProvGives P acc.1) s.types
        (fun _ _ _ _ hb hs => provStepRes_gives hi hs hb) ([], none) pr (List.forall_mem_nil _) hp
  case basicInsert => obtain ⟨_, _, hm, rfl⟩ := ht.basicInsert hkind; exact ins hm fun _ _ => pairRes_gives hi

theorem bindSegs_exprSat {P Q : Loc → Prop} (segs : List OSeg) (st st' : TEB)
    (h : bindSegs st segs = .ok st') (hi : InfosGive P Q st.argInfos)
    (hes : ∀ e ∈ st.exprs, ExprSat P Q e) : ∀ e ∈ st'.exprs, ExprSat P Q e := by
  refine (Tag.bindSegs_invariant (Inv := fun st1 => InfosGive P Q st1.argInfos ∧ ∀ e ∈ st1.exprs, ExprSat P Q e)
    segs st st' (fun _ _ st1 st2 hs ⟨hi, hes⟩ => ?_) h ⟨hi, hes⟩).2
  obtain ⟨e, _, h1, he, ha⟩ := bindSeg_nodeRes hs
  have hsat := nodeRes_exprSat hi h1
  exact ⟨ha ▸ hi, he ▸ List.forall_mem_append.2 ⟨hes, fun x hx => List.mem_singleton.1 hx ▸ hsat⟩⟩

theorem bindTypes_exprSat {P Q : Loc → Prop} {C : Cls} {tt : TypeTable} {segs : List OSeg}
    {samples : List (Option Nat)} {tes : List TExpr}
    (h : bindTypes C tt segs samples = .ok tes)
    (hi : ∀ infos, generateArgInfo C tt samples [] = .ok infos → InfosGive P Q infos) :
    ∀ e ∈ tes, ExprSat P Q e := by
  obtain ⟨infos, st, hg, hs, _, rfl⟩ := bindTypes_ok_iff.1 h
  exact bindSegs_exprSat _ _ _ hs (hi _ hg) (List.forall_mem_nil _)

theorem bindTypes_noSlice {C : Cls} {tt : TypeTable} {segs : List OSeg}
    {samples : List (Option Nat)} {tes : List TExpr}
    (h : bindTypes C tt segs samples = .ok tes) :
    ∀ cols, TExpr.insert cols ∈ tes → TColsNoSlice cols :=
  fun _ hc => bindTypes_exprSat h (fun _ _ => infosGive_nonSlice _) _ hc

/-- C07: insert columns never get slice locators (the case that `insertColumn.bindInputs`, bindinputs.go,
    reports as an internal error) -/
theorem bindTypes_insert_locs {C : Cls} {tt : TypeTable} {segs : List OSeg}
    {samples : List (Option Nat)} {tes : List TExpr}
    (h : bindTypes C tt segs samples = .ok tes) :
    ∀ cols, TExpr.insert cols ∈ tes → ∀ loc column e, TCol.insert loc column e ∈ cols →
      ∀ t n, loc ≠ Loc.slice t n :=
  fun cols hc loc column e hm => (Loc.nonSlice_iff loc).1 (bindTypes_noSlice h cols hc loc column e hm)

/-! The names of the generated output columns (C05): each is `outColName table x` for an `x` that is a struct
    tag or is written in the node (`nodeRes_output_names`); for a classifier that does not class `*` as a letter
    or digit `parseTag` accepts no tag that ends with `*` (Bind/ParseTag.lean), and what the parser writes into
    a node is `*` or does not end with `*` (`NodeNoStarEnd`). -/

def outColName (table column : Bytes) : Bytes :=
  if table.size == 0 then column else table ++ dot ++ column

theorem newOutputColumn_fst (table column : Bytes) (l : Loc) :
    (newOutputColumn table column l).1 = outColName table column := by
  unfold newOutputColumn outColName; split <;> rfl

def StructTag (infos : List (Bytes × ArgInfo)) (x : Bytes) : Prop :=
  ∃ k tid n fields tags, (k, ArgInfo.struct tid n fields tags) ∈ infos ∧ ∃ f ∈ fields, f.tag = x

theorem starRes_structTag {infos : List (Bytes × ArgInfo)} {T : Bytes} {ms : List (Loc × Bytes)}
    (h : starRes infos T = .ok ms) : ∀ p ∈ ms, StructTag infos p.2 := by
  obtain ⟨a, h1, h2⟩ := starRes_ok.1 h
  obtain ⟨tid, n, fields, tags, rfl, rfl⟩ := getAll_eq h2
  intro p hp
  obtain ⟨f, hf, rfl⟩ := List.mem_map.1 hp
  exact ⟨T, tid, n, fields, tags, lookupRes_mem h1, f, starFieldsOf_subset hf, rfl⟩

/-- where the name of a generated output column comes from: a struct tag (`&T.*`), a member written in the
    node (`&T.m`), or a column written in the node (`(c1, c2) AS &T.*`, `(c1, c2) AS (&T.m1, &T.m2)`) -/
def OutName (infos : List (Bytes × ArgInfo)) (s : OSeg) (x : Bytes) : Prop :=
  StructTag infos x ∨ (∃ a ∈ s.types, a.member = x ∧ x ≠ star) ∨ (∃ c ∈ s.cols, c.column = x ∧ x ≠ star)

theorem accRes_names {pref : Bytes} {infos : List (Bytes × ArgInfo)} {a : Acc}
    {r : List (Bytes × Loc) × List (Loc × Bytes)} (h : accRes pref infos a = .ok r) :
    ∀ c ∈ r.1, ∃ x, c.1 = outColName pref x ∧ (StructTag infos x ∨ (a.member = x ∧ x ≠ star)) := by
  rcases accRes_ok.1 h with ⟨_, ms, hms, rfl⟩ | ⟨hne, l, _, rfl⟩
  · intro c hc
    obtain ⟨p, hp, rfl⟩ := List.mem_map.1 hc
    exact ⟨p.2, newOutputColumn_fst _ _ _, .inl (starRes_structTag hms p hp)⟩
  · intro c hc
    cases List.mem_singleton.1 hc
    exact ⟨a.member, newOutputColumn_fst _ _ _, .inr ⟨rfl, hne⟩⟩

theorem nodeRes_output_names {infos : List (Bytes × ArgInfo)} {s : OSeg} {e : TExpr} {ms : List (Loc × Bytes)}
    (hk : s.kind = .output) (h : nodeRes infos s = .ok (e, ms)) :
    ∃ cols, e = .output cols ∧
      (∀ c ∈ cols, ∃ table x, c.1 = outColName table x ∧ OutName infos s x) ∧
      ((∃ c ∈ s.cols, c.column = star) → s.cols.length = 1) := by
  obtain ⟨rs, he, hforms⟩ := nodeRes_output hk h
  cases he
  refine ⟨_, rfl, ?_⟩
  rcases hforms with ⟨hlen, hm⟩ | ⟨_, hns, t, _, hm⟩ | ⟨_, hns, _, hm⟩
  · refine ⟨mapM_items hm fun a ha r hr c hc => (accRes_names hr c hc).elim fun x hx =>
      ⟨_, x, hx.1, hx.2.elim .inl fun hm => .inr (.inl ⟨a, ha, hm⟩)⟩, ?_⟩
    rintro ⟨c, hc, _⟩
    have : s.cols.length ≠ 0 := fun h0 => by rw [List.length_eq_zero_iff.1 h0] at hc; cases hc
    omega
  · refine ⟨mapM_items hm fun k hk' r hr c hc => ?_, fun ⟨c, hc, hcs⟩ => absurd hcs (hns c hc)⟩
    obtain ⟨l, _, rfl⟩ := map_ok_inv hr
    cases List.mem_singleton.1 hc
    exact ⟨_, _, newOutputColumn_fst _ _ _, .inr (.inr ⟨k, hk', rfl, hns k hk'⟩)⟩
  · refine ⟨mapM_items hm fun p hp r hr c hc => ?_, fun ⟨c, hc, hcs⟩ => absurd hcs (hns c hc)⟩
    obtain ⟨l, _, rfl⟩ := map_ok_inv hr
    cases List.mem_singleton.1 hc
    have hp1 : p.1 ∈ s.cols := (List.of_mem_zip (a := p.1) (b := p.2) hp).1
    exact ⟨_, _, newOutputColumn_fst _ _ _, .inr (.inr ⟨p.1, hp1, rfl, hns p.1 hp1⟩)⟩

theorem bindSeg_output {st st' : TEB} {s : OSeg} (hk : s.kind = .output)
    (h : bindSeg st s = .ok st') :
    ∃ cols, st'.exprs = st.exprs ++ [.output cols] ∧
      (∀ c ∈ cols, ∃ table x, c.1 = outColName table x ∧ OutName st.argInfos s x) ∧
      ((∃ c ∈ s.cols, c.column = star) → s.cols.length = 1) := by
  obtain ⟨e, ms, h1, h2, h3⟩ := bindSeg_nodeRes h
  obtain ⟨cols, rfl, h4, h5⟩ := nodeRes_output_names hk h1
  exact ⟨cols, h2, h4, h5⟩

def TagsSat (P : Bytes → Prop) (infos : List (Bytes × ArgInfo)) : Prop :=
  ∀ k tid n fields tags, (k, ArgInfo.struct tid n fields tags) ∈ infos →
    (∀ f ∈ fields, P f.tag) ∧ (∀ t ∈ tags, P t)

def ValidTags (infos : List (Bytes × ArgInfo)) : Prop := TagsSat (· ≠ star) infos

def ValidTagsEnd (infos : List (Bytes × ArgInfo)) : Prop := TagsSat NoStarEnd infos

theorem TagsSat.structTag {P : Bytes → Prop} {infos : List (Bytes × ArgInfo)} (h : TagsSat P infos)
    {x : Bytes} (hx : StructTag infos x) : P x := by
  obtain ⟨k, tid, n, fields, tags, hm, f, hf, rfl⟩ := hx
  exact (h k tid n fields tags hm).1 f hf

section
variable {C : Cls} {tt : TypeTable} {P : Bytes → Prop}
  (hP : ∀ tag name om, parseTag C tag = .ok (name, om) → P name)
include hP

theorem generateArgInfo_tagsSat {samples : List (Option Nat)} {infos : List (Bytes × ArgInfo)}
    (h : generateArgInfo C tt samples [] = .ok infos) : TagsSat P infos := by
  intro k tid' n fields tags hm
  obtain ⟨tid, -, -, hi, -⟩ := generateArgInfo_mem_sample h hm
  rcases hi with ⟨_, _, he⟩ | ⟨_, he⟩ | ⟨_, fs, hgs, _, he⟩ <;> cases he
  have hf := getStructFields_mem_induct (Q := fun _ f => P f.tag) (fun _ _ _ r _ hp => hP _ r.1 r.2 hp)
    (fun _ _ _ _ _ _ h => h) hgs
  exact ⟨hf, fun t ht => (List.mem_map.1 (mem_sortBytes ht)).elim fun f hf' => hf'.2 ▸ hf f hf'.1⟩
end

theorem generateArgInfo_validTagsEnd {C : Cls} (hC : C.letter 42 = false ∧ C.digit 42 = false)
    {tt : TypeTable} {samples : List (Option Nat)} {infos : List (Bytes × ArgInfo)}
    (h : generateArgInfo C tt samples [] = .ok infos) : ValidTagsEnd infos :=
  generateArgInfo_tagsSat (fun _ _ _ hp => parseTag_ok_noStarEnd hC hp) h

theorem generateArgInfo_validTags {C : Cls} (hC : C.letter 42 = false ∧ C.digit 42 = false)
    {tt : TypeTable} {samples : List (Option Nat)} {infos : List (Bytes × ArgInfo)}
    (h : generateArgInfo C tt samples [] = .ok infos) : ValidTags infos :=
  generateArgInfo_tagsSat (fun _ _ _ hp => parseTag_ok_ne_star hC hp) h

theorem outColName_ne_star {x : Bytes} (hx : x ≠ star) (table : Bytes) :
    outColName table x ≠ star := by
  unfold outColName
  split
  · exact hx
  · rename_i hne
    intro h
    have := congrArg Array.size h
    simp only [beq_iff_eq] at hne
    simp [dot, star] at this
    omega

theorem outColName_ne_wild {x : Bytes} (hx : NoStarEnd x) (table t : Bytes) :
    outColName table x ≠ t ++ dot ++ star := by
  intro h
  have h1 := congrArg Array.back? h
  rw [show (t ++ dot ++ star).back? = some 42 by rw [Array.back?_append]; rfl] at h1
  unfold outColName at h1
  split at h1
  · exact hx h1
  · rw [Array.back?_append] at h1
    cases hxb : x.back? with
    | none =>
      rw [hxb, Array.back?_append] at h1
      have hd : Array.back? dot = some 46 := rfl
      rw [hd] at h1
      simp at h1
    | some b =>
      rw [hxb] at h1
      simp only [Option.some_or, Option.some.injEq] at h1
      subst h1; exact hx hxb

/-- C05, `*` part: with valid struct tags no generated output column is `*` (weaker hypotheses than
    `bindSeg_no_wildcard`, which asks `NodeNoStarEnd` of the node, and the weaker conclusion) -/
theorem no_star_generated {st st' : TEB} {s : OSeg} (hk : s.kind = .output)
    (h : bindSeg st s = .ok st') (hv : ValidTags st.argInfos) :
    ∃ cols, st'.exprs = st.exprs ++ [.output cols] ∧ ∀ c ∈ cols, c.1 ≠ star := by
  obtain ⟨cols, he, hc, _⟩ := bindSeg_output hk h
  refine ⟨cols, he, ?_⟩
  intro c hcm
  obtain ⟨table, x, hx, hname⟩ := hc c hcm
  rw [hx]
  apply outColName_ne_star
  rcases hname with hs | ⟨_, _, _, hne⟩ | ⟨_, _, _, hne⟩
  · exact hv.structTag hs
  · exact hne
  · exact hne

/-- hypothesis on a node, true of parser output (`parse_nodeNoStarEnd`, `Bind/ParserNodes.lean`), whose
    members and columns are identifiers, quoted names, function calls (ending with `)`) or `*` -/
def NodeNoStarEnd (s : OSeg) : Prop :=
  (∀ a ∈ s.types, a.member = star ∨ NoStarEnd a.member) ∧
  (∀ c ∈ s.cols, c.column = star ∨ NoStarEnd c.column)

def NotWildcard (b : Bytes) : Prop := b ≠ star ∧ ∀ t, b ≠ t ++ dot ++ star

/-- C05: no generated output column is `*` or of the form `t.*` -/
theorem bindSeg_no_wildcard {st st' : TEB} {s : OSeg} (hk : s.kind = .output)
    (h : bindSeg st s = .ok st') (hv : ValidTagsEnd st.argInfos) (hn : NodeNoStarEnd s) :
    ∃ cols, st'.exprs = st.exprs ++ [.output cols] ∧ ∀ c ∈ cols, NotWildcard c.1 := by
  obtain ⟨cols, he, hc, _⟩ := bindSeg_output hk h
  refine ⟨cols, he, ?_⟩
  intro c hcm
  obtain ⟨table, x, hx, hname⟩ := hc c hcm
  have hxe : NoStarEnd x := by
    rcases hname with hs | ⟨a, ha, rfl, hne⟩ | ⟨k, hk', rfl, hne⟩
    · exact hv.structTag hs
    · exact (hn.1 a ha).resolve_left hne
    · exact (hn.2 k hk').resolve_left hne
  rw [hx]
  exact ⟨outColName_ne_star hxe.ne_star table, fun t => outColName_ne_wild hxe table t⟩

/-- C05 (listed in `obligations.json`): an output node that is accepted and has `*` among its written columns
    has no other column (`SELECT * AS &T.*`; more columns are "invalid-asterisk-in-columns",
    `outputExpr.bindTypes`, bindtypes.go) -/
theorem explicit_star_only_generating {st st' : TEB} {s : OSeg} (hk : s.kind = .output)
    (h : bindSeg st s = .ok st') (hstar : ∃ c ∈ s.cols, c.column = star) : s.cols.length = 1 := by
  obtain ⟨_, _, _, hc⟩ := bindSeg_output hk h
  exact hc hstar

theorem bindSegs_argInfos : ∀ (segs : List OSeg) (st st' : TEB),
    bindSegs st segs = .ok st' → st'.argInfos = st.argInfos :=
  fun segs st st' h => Tag.bindSegs_invariant (Inv := fun st1 => st1.argInfos = st.argInfos) segs st st'
    (fun _ _ _ _ hs hi => (bindSeg_argInfos hs).trans hi) h rfl

def NoWildcardOutputs (es : List TExpr) : Prop :=
  ∀ cols, TExpr.output cols ∈ es → ∀ c ∈ cols, NotWildcard c.1

theorem bindSeg_noWildcardOutputs {st st' : TEB} {s : OSeg} (h : bindSeg st s = .ok st')
    (hv : ValidTagsEnd st.argInfos) (hn : NodeNoStarEnd s)
    (hes : NoWildcardOutputs st.exprs) : NoWildcardOutputs st'.exprs := by
  by_cases hk : s.kind = .output
  · obtain ⟨cols, he, hc⟩ := bindSeg_no_wildcard hk h hv hn
    rw [he]
    intro cols' hm
    rcases List.mem_append.1 hm with hm | hm
    · exact hes _ hm
    · exact TExpr.output.inj (List.mem_singleton.1 hm) ▸ hc
  · obtain ⟨e, he, ht⟩ := bindSeg_typed h
    rw [he]
    intro cols' hm
    rcases List.mem_append.1 hm with hm | hm
    · exact hes _ hm
    · exact absurd (List.mem_singleton.1 hm).symm (ht.not_output hk _)

theorem bindSegs_noWildcardOutputs (segs : List OSeg) (st st' : TEB)
    (h : bindSegs st segs = .ok st') (hv : ValidTagsEnd st.argInfos) (hn : ∀ s ∈ segs, NodeNoStarEnd s)
    (hes : NoWildcardOutputs st.exprs) : NoWildcardOutputs st'.exprs :=
  (Tag.bindSegs_invariant (Inv := fun st1 => ValidTagsEnd st1.argInfos ∧ NoWildcardOutputs st1.exprs)
    segs st st' (fun s hs _ _ hb ⟨hv, hes⟩ =>
      ⟨bindSeg_argInfos hb ▸ hv, bindSeg_noWildcardOutputs hb hv (hn s hs) hes⟩) h ⟨hv, hes⟩).2

/-- C05 at the level of `bindTypes`, for a classifier that does not class `*` as letter or digit; `hn` is
    true of parser output -/
theorem bindTypes_no_wildcard {C : Cls} (hC : C.letter 42 = false ∧ C.digit 42 = false)
    {tt : TypeTable} {segs : List OSeg} {samples : List (Option Nat)} {tes : List TExpr}
    (h : bindTypes C tt segs samples = .ok tes) (hn : ∀ s ∈ segs, NodeNoStarEnd s) :
    NoWildcardOutputs tes := by
  obtain ⟨infos, st, hg, hs, _, rfl⟩ := bindTypes_ok_iff.1 h
  exact bindSegs_noWildcardOutputs _ _ _ hs (generateArgInfo_validTagsEnd hC hg) hn (by intro _ hm; cases hm)

/-- non-vacuity: `SELECT &T.*` with `T` having fields tagged `a`, `b` generates columns `a`, `b` -/
example :
    let fa : SField := { name := #[65], tag := #[97], omitEmpty := false, index := [0] }
    let fb : SField := { name := #[66], tag := #[98], omitEmpty := false, index := [1] }
    let st : TEB := { argInfos := [(#[84], .struct 0 #[84] [fa, fb] [#[97], #[98]])] }
    let s : OSeg := { kind := .output, raw := #[], types := [{ ty := #[84], member := star }] }
    (bindSeg st s).toOption.map (fun st' => st'.exprs.map fun e =>
      match e with | .output cols => cols.map (·.1) | _ => []) = some [[#[97], #[98]]] := by
  decide +kernel

/-- the node hypothesis `NodeNoStarEnd` is needed for the `t.*` part: for an arbitrary
    (non-parser) node with the map member `x.*`, the generated column is `x.*` -/
example :
    let st : TEB := { argInfos := [(#[77], .map 0 #[77])] }
    let s : OSeg := { kind := .output, raw := #[], types := [{ ty := #[77], member := #[120, 46, 42] }] }
    (bindSeg st s).toOption.map (fun st' => st'.exprs.map fun e =>
      match e with | .output cols => cols.map (·.1) | _ => []) = some [[#[120] ++ dot ++ star]] := by
  decide +kernel

/-- `hC` is needed end to end: with a classifier that classes `*` as a letter, a struct
    whose field is tagged `*` is accepted and `&T.*` generates the column `*` -/
example :
    let C : Cls := { letter := fun c => c == 42, digit := fun _ => false }
    let tt : TypeTable := #[
      { kind := .struct, kindStr := "struct", name := #[84],
        fields := [{ name := #[65], tag := star, exported := true, anon := false, ty := 1 }] },
      { kind := .string, kindStr := "string", name := #[] }]
    let s : OSeg := { kind := .output, raw := #[], types := [{ ty := #[84], member := star }] }
    (bindTypes C tt [s] [some 0]).toOption.map (fun es => es.map fun e =>
      match e with | .output cols => cols.map (·.1) | _ => []) = some [[star]] := by
  decide +kernel

end Sqlair
