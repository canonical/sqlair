/-
  What `parseTag` (typeinfo/arginfo.go) accepts, at the level of bytes: a name is quoted, or every rune of it
  is a letter, a digit or `_` (`Tag.parseTag_ok`), so for a classifier that does not class `*` as a letter or
  digit no accepted name ends with `*` (`parseTag_ok_noStarEnd`); and the four errors it reports
  (`Tag.parseTag_error`).
-/
import SqlairModel.Types
import SqlairProofs.Utf8
import SqlairProofs.Basics

namespace Sqlair

theorem Tag.decodeRune_bytes (p : Nat → Bool) (b : Bytes) (pos : Nat) (hp : pos < b.size)
    (h1 : p (decodeRune b pos).1 = true) :
    ∀ i, pos ≤ i → i < pos + max (decodeRune b pos).2 1 → 0x80 ≤ bAt b i ∨ p (bAt b i) = true := by
  intro i hi hi'
  rcases decodeRune_cases b pos hp with hc | hc | hc
  · rw [hc.1] at h1 hi'
    have : i = pos := by simp at hi'; omega
    exact .inr (this ▸ h1)
  · rw [hc.1] at hi'
    have : i = pos := by simp at hi'; omega
    exact .inl (this ▸ hc.2)
  · exact .inl (hc.2.2.2 i hi (by omega))

theorem allRunesFrom_bytes (p : Nat → Bool) (b : Bytes) : ∀ (f pos : Nat),
    allRunesFrom p b f pos = true → b.size ≤ pos + f →
    ∀ i, pos ≤ i → i < b.size → 0x80 ≤ bAt b i ∨ p (bAt b i) = true := by
  intro f
  induction f with
  | zero => intro pos _ hsz i hi hi'; omega
  | succ f ih =>
    intro pos h hsz i hi hi'
    have hp : pos < b.size := by omega
    simp only [allRunesFrom, if_pos hp, Bool.and_eq_true] at h
    by_cases hin : i < pos + max (decodeRune b pos).2 1
    · exact Tag.decodeRune_bytes p b pos hp h.1 i hi hin
    · exact ih _ h.2 (by omega) i (by omega) hi'

theorem allRunesFrom_mono {p q : Nat → Bool} (hpq : ∀ c, p c = true → q c = true) (b : Bytes) :
    ∀ (f pos : Nat), allRunesFrom p b (f+1) pos = true → allRunesFrom q b f pos = true := by
  intro f
  induction f with
  | zero => intro pos _; rfl
  | succ f ih =>
    intro pos h
    rw [allRunesFrom] at h ⊢
    split
    · rename_i hp
      rw [if_pos hp] at h
      simp only [Bool.and_eq_true] at h ⊢
      exact ⟨hpq _ h.1, ih _ h.2⟩
    · rfl

/-- the shape in which `parseTag` checks a name: the first rune by `q`, the others by `p` -/
theorem allRunesFrom_zero_of_first {r p q : Nat → Bool} (hp : ∀ c, p c = true → r c = true)
    (hq : ∀ c, q c = true → r c = true) (b : Bytes) (hsz : b.size ≠ 0)
    (h1 : q (decodeRune b 0).1 = true)
    (h2 : allRunesFrom p b b.size (decodeRune b 0).2 = true) :
    allRunesFrom r b b.size 0 = true := by
  have hpos : 0 < b.size := Nat.pos_of_ne_zero hsz
  have hw : max (decodeRune b 0).2 1 = (decodeRune b 0).2 := by
    rcases decodeRune_cases b 0 hpos with hc | hc | hc
    · rw [hc.1]; rfl
    · rw [hc.1]; rfl
    · omega
  obtain ⟨f, hf⟩ : ∃ f, b.size = f + 1 := ⟨b.size - 1, by omega⟩
  rw [hf] at h2 ⊢
  rw [allRunesFrom, if_pos hpos]
  simp only [Bool.and_eq_true]
  refine ⟨hq _ h1, ?_⟩
  rw [Nat.zero_add, hw]
  exact allRunesFrom_mono hp _ _ _ h2

theorem Tag.parseTag_ok {C : Cls} {tag name : Bytes} {om : Bool}
    (h : parseTag C tag = .ok (name, om)) :
    name.size ≠ 0 ∧
    (((name.getD 0 0 = 34 ∨ name.getD 0 0 = 39) ∧ name.getD (name.size - 1) 0 = name.getD 0 0) ∨
     (¬ (name.getD 0 0 = 34 ∨ name.getD 0 0 = 39) ∧
       allRunesFrom (fun c => C.letter c || C.digit c || c == 95) name name.size 0 = true)) := by
  unfold parseTag at h
  simp only [ite_eq_iff_or, reduceCtorEq, and_false, false_or, or_false, Except.ok.injEq, Prod.mk.injEq,
    Bool.or_eq_true, beq_iff_eq, bne_iff_ne, ne_eq, Decidable.not_not] at h
  -- `h`: no bad flag ∧ size ≠ 0 ∧ (quoted ∧ … ∨ ¬ quoted ∧ (digit first ∧ … ∨ ¬ digit ∧ letter first ∧ …))
  obtain ⟨-, hsz, h⟩ := h
  rcases h with ⟨hq, hlast, rfl, -⟩ | ⟨hq, ⟨hd, hall, rfl, -⟩ | ⟨-, hd, hall, rfl, -⟩⟩
  · exact ⟨hsz, .inl ⟨hq, hlast⟩⟩
  · exact ⟨hsz, .inr ⟨hq, allRunesFrom_zero_of_first (p := C.digit) (q := C.digit)
      (fun c hc => by simp [hc]) (fun c hc => by simp [hc]) _ hsz hd hall⟩⟩
  · refine ⟨hsz, .inr ⟨hq, allRunesFrom_zero_of_first (q := fun c => C.letter c || c == 95)
      (fun c hc => hc) (fun c hc => ?_) _ hsz (by simpa using hd) hall⟩⟩
    simp only [Bool.or_eq_true, beq_iff_eq] at hc ⊢
    exact hc.elim (fun h => .inl (.inl h)) .inr

theorem Tag.parseTag_error {C : Cls} {tag : Bytes} {e : String} (h : parseTag C tag = .error e) :
    e = "tag-unsupported-flag" ∨ e = "tag-empty" ∨ e = "tag-missing-quote" ∨ e = "tag-invalid-column" := by
  unfold parseTag at h
  simp only [ite_eq_iff_or, reduceCtorEq, and_false, false_or, or_false, Except.error.injEq] at h
  rcases h with ⟨-, h⟩ | ⟨-, ⟨-, h⟩ | ⟨-, ⟨-, -, h⟩ | ⟨-, ⟨-, -, h⟩ | ⟨-, ⟨-, -, h⟩ | ⟨-, h⟩⟩⟩⟩⟩
  all_goals simp [← h]

theorem parseTag_ok_runes {C : Cls} {tag name : Bytes} {om : Bool}
    (h : parseTag C tag = .ok (name, om)) (hq : name.getD 0 0 ≠ 34 ∧ name.getD 0 0 ≠ 39) :
    allRunesFrom (fun c => C.letter c || C.digit c || c == 95) name name.size 0 = true :=
  ((Tag.parseTag_ok h).2.resolve_left fun hh => hh.1.elim hq.1 hq.2).2

/-- the byte-level reading of `Tag.parseTag_ok`, in which single bytes (`*`, `.`) can be excluded -/
theorem parseTag_ok_cases {C : Cls} {tag name : Bytes} {om : Bool}
    (h : parseTag C tag = .ok (name, om)) :
    name.size ≠ 0 ∧
    (((name.getD 0 0 = 34 ∨ name.getD 0 0 = 39) ∧ name.getD (name.size - 1) 0 = name.getD 0 0) ∨
     (∀ i, i < name.size → 0x80 ≤ bAt name i ∨
        (C.letter (bAt name i) || C.digit (bAt name i) || bAt name i == 95) = true)) :=
  ⟨(Tag.parseTag_ok h).1, (Tag.parseTag_ok h).2.imp id fun hr i hi =>
    allRunesFrom_bytes _ name _ 0 hr.2 (Nat.le_add_left _ _) i (Nat.zero_le i) hi⟩

/-- stronger than `b ≠ star`, so that it also excludes `t.*` after `outColName` -/
def NoStarEnd (b : Bytes) : Prop := b.back? ≠ some 42

theorem NoStarEnd.ne_star {b : Bytes} (h : NoStarEnd b) : b ≠ star := by
  intro e; subst e; exact h (by decide)

theorem parseTag_ok_noStarEnd {C : Cls} (hC : C.letter 42 = false ∧ C.digit 42 = false)
    {tag name : Bytes} {om : Bool} (h : parseTag C tag = .ok (name, om)) : NoStarEnd name := by
  obtain ⟨hsz, hcase⟩ := parseTag_ok_cases h
  intro hb
  have hg : name.getD (name.size - 1) 0 = 42 := by
    rw [Array.back?_eq_getElem?] at hb
    simp [Array.getD_eq_getD_getElem?, hb]
  rcases hcase with ⟨hq, hlast⟩ | hall
  · rw [hg] at hlast
    rw [← hlast] at hq
    revert hq; decide
  · have hb42 : bAt name (name.size - 1) = 42 := bAt_eq_toNat_iff.mpr hg
    rcases hall (name.size - 1) (by omega) with h | h
    · omega
    · rw [hb42, hC.1, hC.2] at h
      revert h; decide

theorem parseTag_ok_ne_star {C : Cls} (hC : C.letter 42 = false ∧ C.digit 42 = false)
    {tag name : Bytes} {om : Bool} (h : parseTag C tag = .ok (name, om)) : name ≠ star :=
  (parseTag_ok_noStarEnd hC h).ne_star

/-- `hC` is needed: a classifier that classes `*` as a letter accepts the tag `*` -/
example : parseTag { letter := fun c => c == 42, digit := fun _ => false } star = .ok (star, false) := by
  rfl

theorem parseTag_ok_no_byte {C : Cls} {tag name : Bytes} {om : Bool}
    (h : parseTag C tag = .ok (name, om)) (hq : name.getD 0 0 ≠ 34 ∧ name.getD 0 0 ≠ 39)
    {x : UInt8} (hx : x.toNat < 128) (hx95 : x.toNat ≠ 95)
    (hC : C.letter x.toNat = false ∧ C.digit x.toNat = false) :
    ∀ i, i < name.size → name.getD i 0 ≠ x := by
  obtain ⟨_, hcase⟩ := parseTag_ok_cases h
  rcases hcase with ⟨hquote, _⟩ | hall
  · rcases hquote with h | h
    · exact absurd h hq.1
    · exact absurd h hq.2
  · intro i hi heq
    have hb : bAt name i = x.toNat := bAt_eq_toNat_iff.mpr heq
    rcases hall i hi with h | h
    · omega
    · rw [hb, hC.1, hC.2] at h
      simp only [Bool.or_self, Bool.false_or, beq_iff_eq] at h
      exact hx95 h

end Sqlair
