/-
  Error classes of the input side.  Above `locateParams` the functions are walked for an arbitrary property
  of error classes that holds of the literals (`validateValue_errIn` … `bindInputs_errIn`); instance here: no
  function reports one of the two internal error classes (`isInternal`), provided no insert column carries a
  slice locator (which `bindTypes` guarantees).

  From `locateParams` down (`fieldByIndex`, `bulkElem`, the two element loops) the walk is for `¬ isInternal`
  alone and needs no hypothesis: every branch ends in a literal.  `NoPanic/Locate.lean` walks the same five
  functions again for the closed list `inputErrorClasses`; that walk is not this one with another property,
  because the `"panic-…"` branches are not in the list and have to be shown unreachable from `ValWF`.
-/
import SqlairProofs.Bind.Fold
import SqlairProofs.Bind.LocDefs

namespace Sqlair

/-- the two `"internal error: …"` of the input side: of `insertColumn.bindInputs`
    (`internal/expr/bindinputs.go`) and of `boundInsertColumn.parameter` (`querybuilder.go`) -/
def isInternal (e : String) : Prop := e = "internal-multiple-values" ∨ e = "internal-no-bulk-value"

instance (e : String) : Decidable (isInternal e) := by unfold isInternal; infer_instance

theorem fieldByIndex_not_internal : ∀ (idx : List Nat) (v : GoVal) (first : Bool) (e : String),
    fieldByIndex v idx first = .error e → ¬ isInternal e := by
  intro idx
  induction idx with
  | nil => intro v first e h; cases h
  | cons i rest ih =>
    intro v first e h
    unfold fieldByIndex at h
    simp only at h
    split at h
    · next heq =>
      cases h
      repeat' split at heq
      all_goals cases heq
      simp [isInternal]
    · split at h
      · exact ih _ _ _ h
      · cases h; simp [isInternal]
    · cases h; simp [isInternal]

theorem bulkElem_not_internal {v : GoVal} {e : String} (h : bulkElem v = .error e) : ¬ isInternal e := by
  rcases bulkElem_cases v with ⟨_, _, hv⟩ | hv <;> rw [hv] at h <;> cases h
  simp [isInternal]

theorem bulkMapVals_not_internal (key : Bytes) : ∀ (els : List GoVal) (acc : List String) (e : String),
    bulkMapVals key els acc = .error e → ¬ isInternal e := by
  intro els
  induction els with
  | nil => intro acc e h; cases h
  | cons x rest ih =>
    intro acc e h
    unfold bulkMapVals at h
    split at h
    · next hx => cases h; exact bulkElem_not_internal hx
    · cases h; simp [isInternal]
    · split at h
      · cases h; simp [isInternal]
      · exact ih _ _ h
    · cases h; simp [isInternal]

theorem bulkFieldVals_not_internal (f : SField) : ∀ (els : List GoVal) (first om : Bool) (acc : List String) (e : String),
    bulkFieldVals f els first om acc = .error e → ¬ isInternal e := by
  intro els
  induction els with
  | nil => intro first om acc e h; cases h
  | cons x rest ih =>
    intro first om acc e h
    rw [bulkFieldVals_cons] at h
    split at h
    · next hx => cases h; exact bulkElem_not_internal hx
    · split at h
      · next hx => cases h; exact fieldByIndex_not_internal _ _ _ _ hx
      · rcases of_ite_eq h with ⟨_, h⟩ | ⟨_, h⟩
        · cases h; simp [isInternal]
        · exact ih _ _ _ _ h

theorem valueNotFound_not_internal (tt : TypeTable) (m : TypeToValue) (t : Nat) :
    ¬ isInternal (valueNotFound tt m t) := by
  unfold valueNotFound; split <;> simp [isInternal]

theorem locateParams_not_internal {tt : TypeTable} {m : TypeToValue} {l : Loc} {e : String}
    (h : locateParams tt m l = .error e) : ¬ isInternal e := by
  unfold locateParams at h
  repeat' split at h
  all_goals cases h
  -- what is left is the not-found class, the error of an element loop, or a literal
  all_goals first
    | exact valueNotFound_not_internal _ _ _
    | exact fieldByIndex_not_internal _ _ _ _ ‹_›
    | exact bulkMapVals_not_internal _ _ _ _ ‹_›
    | exact bulkFieldVals_not_internal _ _ _ _ _ _ ‹_›
    | simp [isInternal]

/-- the error classes of the input side on well-formed arguments (so without the `"panic-…"` classes of
    `locateParams`): `validateInputs`, `locateParams`, the query builder.  A new `.error "…"` in one of
    these model functions is meant to break the `mem_lit` of the `_errIn` lemma that walks it, until the
    class is entered here. -/
def inputErrorClasses : List String := [
  "nil-argument", "nil-pointer", "nil-map", "anonymous-struct-or-map", "type-and-slice",
  "anonymous-slice", "unsupported-kind", "type-provided-twice",
  "nil-embedded-pointer", "same-name-different-type", "value-missing", "map-key-missing",
  "empty-slice", "nil-pointer-in-slice", "nil-map-in-slice", "omitempty-mix",
  "omitempty-explicit-zero", "bulk-outside-insert", "mismatched-bulk-lengths", "argument-not-used"]

theorem inputErrorClasses_not_internal : ∀ e ∈ inputErrorClasses, ¬ isInternal e := by
  decide +kernel

section
variable {P : String → Prop} (hP : ∀ e ∈ inputErrorClasses, P e) {tt : TypeTable} {m : TypeToValue}
include hP

theorem validateValue_errIn {v : GoVal} : ErrIn P (validateValue v) := by
  unfold validateValue
  split
  · exact .error (hP _ (by mem_lit))
  · exact .error (hP _ (by mem_lit))
  · exact .error (hP _ (by mem_lit))
  · exact .ok

theorem validateInputs_errIn (tt : TypeTable) : ∀ (args : List GoVal) (m : TypeToValue),
    ErrIn P (validateInputs tt args m)
  | [], _ => .ok
  | _ :: rest, _ => by
    have tas : P "type-and-slice" := hP _ (by mem_lit)
    have anon : P "anonymous-struct-or-map" := hP _ (by mem_lit)
    unfold validateInputs
    split
    · exact (validateValue_errIn hP).rethrow ‹_›
    · -- an empty `simp only` substitutes the `let`s and no more, so that `split` meets the next test of the model
      simp only []
      split
      · refine ErrIn.rethrow ?_ ‹_›
        split
        · exact .ite (.error anon) <| .ite (.error tas) <| .ite (.error tas) .ok
        · exact .ite (.error anon) <| .ite (.error tas) <| .ite (.error tas) .ok
        · split
          · exact .ite (.error tas) .ok
          · exact .ite (.error tas) .ok
          · exact .ite (.error tas) .ok
          · exact .ite (.error (hP _ (by mem_lit))) .ok
        · exact .error (hP _ (by mem_lit))
      · exact .ite (.error (hP _ (by mem_lit))) (validateInputs_errIn tt rest _)

theorem TCol.bind_errIn {c : TCol} {ic : Nat}
    (hl : ∀ l, c.loc? = some l → ErrIn P (locateParams tt m l))
    (hc : ∀ loc column ex, c = TCol.insert loc column ex → loc.nonSlice) :
    ErrIn P (c.bind tt m ic) := by
  unfold TCol.bind
  split
  · exact .ok
  · rename_i loc column explicit
    split
    · exact (hl loc rfl).rethrow ‹_›
    · rename_i p hp
      split
      · -- a locator that is no slice yields one value, or a bulk
        rename_i hmulti
        simp at hmulti
        have := locateParams_single hp hmulti.1 (hc _ _ _ rfl)
        omega
      · exact .ite (.error (hP _ (by mem_lit))) .ok

theorem bindCols_errIn : ∀ (cols : List TCol),
    (∀ c ∈ cols, ∀ l, c.loc? = some l → ErrIn P (locateParams tt m l)) → TColsNoSlice cols →
    ∀ (qb : QB) (acc : List BCol) (bulk : Bool) (numRows : Nat),
    ErrIn P (bindCols tt m cols qb acc bulk numRows)
  | [], _, _, _, _, _, _ => .ok
  | c :: rest, hl, hns, _, _, _, _ => by
    rw [bindCols_cons]
    exact (TCol.bind_errIn hP (hl c List.mem_cons_self)
      fun loc column ex hc => hns loc column ex (hc ▸ List.mem_cons_self)).bind fun _ _ =>
        .ite (.error (hP _ (by mem_lit)))
          (bindCols_errIn rest (fun c' hc' => hl c' (List.mem_cons_of_mem _ hc'))
            (fun loc column ex hc => hns loc column ex (List.mem_cons_of_mem _ hc)) _ _ _ _)

theorem addToQuery_errIn {qb : QB} {te : TExpr}
    (hl : ∀ l ∈ te.inputLocs, ErrIn P (locateParams tt m l))
    (hte : ∀ cols, te = .insert cols → TColsNoSlice cols) : ErrIn P (addToQuery tt m qb te) := by
  cases te with
  | bypass chunk => exact .ok
  | output cols => exact .ok
  | input loc =>
    rw [addToQuery_input]
    exact (hl loc (by simp [TExpr.inputLocs])).bind fun _ _ =>
      .ite (.error (hP _ (by mem_lit))) (.ite (.error (hP _ (by mem_lit))) .ok)
  | insert cols =>
    rw [addToQuery_insert]
    refine (bindCols_errIn hP cols (fun c hc l hcl => hl l (List.mem_filterMap.2 ⟨c, hc, hcl⟩))
      (hte cols rfl) _ _ _ _).bind fun r hr => ?_
    obtain ⟨qb', hq⟩ := addInsert_ok (bindCols_shape hr)
    rw [hq]; exact .ok

theorem bindInputs_errIn {tes : List TExpr} {args : List GoVal}
    (hl : ∀ m, validateInputs tt args [] = .ok m → ∀ te ∈ tes, ∀ l ∈ te.inputLocs,
      ErrIn P (locateParams tt m l))
    (hns : ∀ cols, TExpr.insert cols ∈ tes → TColsNoSlice cols) :
    ErrIn P (bindInputs tt tes args) := by
  rw [bindInputs_eq]
  exact (validateInputs_errIn hP _ _ _).bind fun m hv => .bind
    (.foldlM fun _ te hte => addToQuery_errIn hP (hl m hv te hte) fun cols hc => hns cols (hc ▸ hte))
    fun _ _ => .ite .ok (.error (hP _ (by mem_lit)))

end

/-- C07.12 (`no_internal_error` in `Props/Bind.lean`, where `bindTypes_noSlice` gives `hns`) -/
theorem bindInputs_no_internal_error {tt : TypeTable} {tes : List TExpr}
    (hns : ∀ cols, TExpr.insert cols ∈ tes → TColsNoSlice cols) (args : List GoVal) (e : String)
    (h : bindInputs tt tes args = .error e) : ¬ isInternal e :=
  bindInputs_errIn (P := (¬ isInternal ·)) inputErrorClasses_not_internal (fun _ _ _ _ _ _ _ => locateParams_not_internal) hns e h

end Sqlair
