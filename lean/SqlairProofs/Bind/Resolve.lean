/-
  `bindTypes` as a pure resolver over the sample infos.  Of the four fields of the builder state
  (`typedExprBuilder`, typedexprbuilder.go) the operations and loops that bind a node change only two:
  `argUsed` (`TEB.use`: mark a sample used) and `outputUsed` (`markOutputs`: check and mark an output
  destination); everything else they do is a look-up in `argInfos`, and the node's expression is appended to
  `exprs` at the very end.  So every builder operation equals "resolve against `st.argInfos`, mark the sample,
  mark the destinations"; six of the seven loops of `expression.bindTypes` (bindtypes.go) are instances of one
  schema, `IsLoop`, whose successful runs and errors are characterised once (the seventh, the source loop of a
  columns insert, accumulates a table and is a `foldlM`); and `bindSeg` succeeds iff `nodeRes infos s`, the
  typed expression of the node `s` as a function of the infos, resolves and the destinations it claims are
  fresh, and fails with the error of `nodeRes` or because a destination was taken (`bindSeg_nodeRun`).
  What is proved of the typed expressions elsewhere is then a fact about `nodeRes`, lists and `mapM`.
-/
import SqlairProofs.Bind.Defs

namespace Sqlair

/-! ### look-up and marking -/

def lookupInfo (infos : List (Bytes × ArgInfo)) (T : Bytes) : Option ArgInfo :=
  (infos.find? (fun p => p.1 == T)).map (·.2)

def TEB.use (st : TEB) (T : Bytes) : TEB :=
  { st with argUsed := if st.argUsed.contains T then st.argUsed else T :: st.argUsed }

@[simp] theorem TEB.use_argInfos (st : TEB) (T : Bytes) : (st.use T).argInfos = st.argInfos := rfl
@[simp] theorem TEB.use_outputUsed (st : TEB) (T : Bytes) : (st.use T).outputUsed = st.outputUsed := rfl

theorem TEB.use_use (st : TEB) (T : Bytes) : (st.use T).use T = st.use T := by
  unfold TEB.use
  by_cases h : st.argUsed.contains T = true
  · simp only [if_pos h]
  · simp only [if_neg h, List.contains_cons, BEq.rfl, Bool.true_or, if_true]

theorem TEB.mem_use (st : TEB) (T n : Bytes) : n ∈ (st.use T).argUsed ↔ n ∈ st.argUsed ∨ n = T := by
  unfold TEB.use
  by_cases h : st.argUsed.contains T = true
  · rw [if_pos h]
    exact ⟨Or.inl, fun hn => hn.elim id (· ▸ List.contains_iff_mem.1 h)⟩
  · rw [if_neg h, List.mem_cons, or_comm]

theorem TEB.use_of_mem {st : TEB} {T : Bytes} (h : T ∈ st.argUsed) : st.use T = st := by
  unfold TEB.use
  rw [if_pos (List.contains_iff_mem.2 h)]

def TEB.useAll (st : TEB) (tys : List Bytes) : TEB := tys.foldl TEB.use st

@[simp] theorem TEB.useAll_nil (st : TEB) : st.useAll [] = st := rfl
@[simp] theorem TEB.useAll_cons (st : TEB) (T : Bytes) (tys : List Bytes) :
    st.useAll (T :: tys) = (st.use T).useAll tys := rfl
theorem TEB.useAll_append (st : TEB) (a b : List Bytes) : st.useAll (a ++ b) = (st.useAll a).useAll b :=
  List.foldl_append ..

@[simp] theorem TEB.useAll_argInfos (st : TEB) : ∀ tys, (st.useAll tys).argInfos = st.argInfos := by
  intro tys; induction tys generalizing st with
  | nil => rfl
  | cons T tys ih => exact ih _
@[simp] theorem TEB.useAll_exprs (st : TEB) : ∀ tys, (st.useAll tys).exprs = st.exprs := by
  intro tys; induction tys generalizing st with
  | nil => rfl
  | cons T tys ih => exact ih _
@[simp] theorem TEB.useAll_outputUsed (st : TEB) : ∀ tys, (st.useAll tys).outputUsed = st.outputUsed := by
  intro tys; induction tys generalizing st with
  | nil => rfl
  | cons T tys ih => exact ih _

theorem TEB.mem_useAll (n : Bytes) : ∀ (tys : List Bytes) (st : TEB),
    n ∈ (st.useAll tys).argUsed ↔ n ∈ st.argUsed ∨ n ∈ tys
  | [], _ => (or_iff_left List.not_mem_nil).symm
  | T :: tys, st => by rw [TEB.useAll_cons, TEB.mem_useAll n tys, TEB.mem_use, List.mem_cons, or_assoc]

theorem TEB.useAll_of_mem : ∀ {tys : List Bytes} {st : TEB}, (∀ n ∈ tys, n ∈ st.argUsed) → st.useAll tys = st
  | [], _, _ => rfl
  | T :: tys, st, h => by
    rw [TEB.useAll_cons, TEB.use_of_mem (h T List.mem_cons_self)]
    exact TEB.useAll_of_mem fun n hn => h n (List.mem_cons_of_mem _ hn)

theorem TEB.useAll_same {α : Type} (st : TEB) (T : Bytes) : ∀ {l : List α}, l ≠ [] →
    st.useAll (l.flatMap fun _ => [T]) = st.use T
  | [_], _ => rfl
  | _ :: b :: l, _ => by
    rw [List.flatMap_cons, List.singleton_append, TEB.useAll_cons,
      TEB.useAll_same (st.use T) T (List.cons_ne_nil b l), TEB.use_use]

theorem markOutputs_cons (st : TEB) (p : Loc × Bytes) (ms : List (Loc × Bytes)) :
    markOutputs st (p :: ms) = (markOutput st p.1).bind (markOutputs · ms) := by
  obtain ⟨l, t⟩ := p
  rw [markOutputs]; cases markOutput st l <;> rfl

theorem markOutputs_append (st : TEB) : ∀ (a b : List (Loc × Bytes)),
    markOutputs st (a ++ b) = (markOutputs st a).bind (markOutputs · b) := by
  intro a; induction a generalizing st with
  | nil => intro b; rfl
  | cons p a ih =>
    intro b
    rw [List.cons_append, markOutputs_cons, markOutputs_cons]
    cases markOutput st p.1 with
    | error e => rfl
    | ok st1 => exact ih st1 b

/-- marking samples and marking destinations touch different fields -/
theorem markOutputs_useAll (st : TEB) (ms : List (Loc × Bytes)) : ∀ (tys : List Bytes),
    markOutputs (st.useAll tys) ms = (markOutputs st ms).map (·.useAll tys) := by
  have one : ∀ (ms : List (Loc × Bytes)) (st : TEB) (T : Bytes),
      markOutputs (st.use T) ms = (markOutputs st ms).map (·.use T) := by
    intro ms; induction ms with
    | nil => intro st T; rfl
    | cons p ms ih =>
      intro st T
      have h1 : markOutput (st.use T) p.1 = (markOutput st p.1).map (·.use T) := by
        unfold markOutput
        by_cases h : st.outputUsed.contains p.1.ident = true
        · rw [TEB.use_outputUsed, if_pos h, if_pos h]; rfl
        · rw [TEB.use_outputUsed, if_neg h, if_neg h]; rfl
      rw [markOutputs_cons, markOutputs_cons, h1]
      cases markOutput st p.1 with
      | error e => rfl
      | ok st1 => exact ih st1 T
  intro tys; induction tys generalizing st with
  | nil => show markOutputs st ms = _; cases markOutputs st ms <;> rfl
  | cons T tys ih => rw [TEB.useAll_cons, ih, one]; cases markOutputs st ms <;> rfl

theorem markOutputs_useAll_append (st : TEB) (a b : List Bytes) (m1 m2 : List (Loc × Bytes)) :
    markOutputs ((st.useAll a).useAll b) (m1 ++ m2) =
      (markOutputs (st.useAll a) m1).bind fun st1 => markOutputs (st1.useAll b) m2 := by
  rw [markOutputs_useAll, markOutputs_append]
  cases markOutputs (st.useAll a) m1 with
  | error e => rfl
  | ok st1 => rw [bind_ok, bind_ok, markOutputs_useAll]

theorem markOutputs_fields {st st' : TEB} {ms : List (Loc × Bytes)} (h : markOutputs st ms = .ok st') :
    st'.argInfos = st.argInfos ∧ st'.exprs = st.exprs ∧ st'.argUsed = st.argUsed := by
  induction ms generalizing st with
  | nil => cases h; exact ⟨rfl, rfl, rfl⟩
  | cons p ms ih =>
    rw [markOutputs_cons] at h
    unfold markOutput at h
    split at h
    · cases h
    · obtain ⟨h1, h2, h3⟩ := ih h; exact ⟨h1, h2, h3⟩

theorem markOutputs_err : ∀ (ms : List (Loc × Bytes)) (st : TEB),
    ErrIn (· = "output-used-twice") (markOutputs st ms)
  | [], _ => .ok
  | p :: ms, st => by
    rw [markOutputs_cons]; unfold markOutput
    split
    · exact .error rfl
    · exact markOutputs_err ms _

/-! ### the resolvers -/

/-- the specifications (Typed/NodeDefs.lean) speak `lookupInfo`, the resolvers `lookupRes`; `lookupRes_ok` joins
    them -/
def lookupRes (infos : List (Bytes × ArgInfo)) (T : Bytes) : Except String ArgInfo :=
  match lookupInfo infos T with
  | none => .error "type-missing"
  | some a => .ok a

def memberRes (infos : List (Bytes × ArgInfo)) (T m : Bytes) : Except String Loc :=
  (lookupRes infos T).bind (·.getMember m)

def starRes (infos : List (Bytes × ArgInfo)) (T : Bytes) : Except String (List (Loc × Bytes)) :=
  (lookupRes infos T).bind (·.getAll)

def sliceRes (infos : List (Bytes × ArgInfo)) (T : Bytes) : Except String Loc :=
  (lookupRes infos T).bind (·.getSlice)

theorem getMember_ok_iff {a : ArgInfo} {m : Bytes} {l : Loc} : a.getMember m = .ok l ↔
    (∃ tid n fields tags f, a = .struct tid n fields tags ∧ fields.find? (·.tag == m) = some f ∧
      l = .field tid n f) ∨
    (∃ tid n, a = .map tid n ∧ l = .mapKey tid n m) := by
  constructor
  · intro h
    unfold ArgInfo.getMember at h
    split at h
    · split at h
      · cases h; exact .inl ⟨_, _, _, _, _, rfl, ‹_›, rfl⟩
      · cases h
    · cases h; exact .inr ⟨_, _, rfl, rfl⟩
    · cases h
  · rintro (⟨_, _, _, _, _, rfl, hf, rfl⟩ | ⟨_, _, rfl, rfl⟩)
    · simp only [ArgInfo.getMember, hf]
    · rfl

/-- the members `T.*` stands for, as `structInfo.GetAllStructMembers` (typeinfo/arginfo.go) lists them:
    the field of each tag, in the order of the tags, which `getArgInfo` has sorted -/
def starFieldsOf (fields : List SField) (tags : List Bytes) : List SField :=
  tags.filterMap fun t => fields.find? (fun f => f.tag == t)

theorem starFields_map (tid : Nat) (n : Bytes) (fields : List SField) (tags : List Bytes) :
    (tags.filterMap fun t => (fields.find? (fun f => f.tag == t)).map fun f => (Loc.field tid n f, t)) =
      (starFieldsOf fields tags).map (fun f => (Loc.field tid n f, f.tag)) := by
  unfold starFieldsOf
  induction tags with
  | nil => rfl
  | cons t rest ih =>
    simp only [List.filterMap_cons]
    cases hf : fields.find? (fun f => f.tag == t) with
    | none => simpa using ih
    | some f =>
      have ht : f.tag = t := by simpa using List.find?_some hf
      simp only [Option.map_some, List.map_cons, ht]
      rw [ih]

theorem getAll_eq {a : ArgInfo} {ms : List (Loc × Bytes)} (h : a.getAll = .ok ms) :
    ∃ tid n fields tags, a = .struct tid n fields tags ∧
      ms = (starFieldsOf fields tags).map (fun f => (Loc.field tid n f, f.tag)) := by
  unfold ArgInfo.getAll at h
  split at h
  · rename_i tid n fields tags
    split at h
    · cases h
    · cases h
      exact ⟨tid, n, fields, tags, rfl, starFields_map tid n fields tags⟩
  · cases h
  · cases h

theorem starFieldsOf_subset {fields : List SField} {tags : List Bytes} {f : SField}
    (hf : f ∈ starFieldsOf fields tags) : f ∈ fields := by
  unfold starFieldsOf at hf
  obtain ⟨t, _, hft⟩ := List.mem_filterMap.1 hf
  exact List.mem_of_find?_eq_some hft

theorem lookupRes_ok {infos : List (Bytes × ArgInfo)} {T : Bytes} {a : ArgInfo} :
    lookupRes infos T = .ok a ↔ lookupInfo infos T = some a := by
  unfold lookupRes; cases lookupInfo infos T <;> simp

theorem lookupRes_mem {infos : List (Bytes × ArgInfo)} {T : Bytes} {a : ArgInfo}
    (h : lookupRes infos T = .ok a) : (T, a) ∈ infos := mem_of_assoc (lookupRes_ok.1 h)

theorem memberRes_ok {infos : List (Bytes × ArgInfo)} {T m : Bytes} {l : Loc} :
    memberRes infos T m = .ok l ↔ ∃ a, lookupRes infos T = .ok a ∧ a.getMember m = .ok l := by
  unfold memberRes; cases lookupRes infos T <;> simp [bind_ok, bind_error]

theorem starRes_ok {infos : List (Bytes × ArgInfo)} {T : Bytes} {ms : List (Loc × Bytes)} :
    starRes infos T = .ok ms ↔ ∃ a, lookupRes infos T = .ok a ∧ a.getAll = .ok ms := by
  unfold starRes; cases lookupRes infos T <;> simp [bind_ok, bind_error]

theorem sliceRes_ok {infos : List (Bytes × ArgInfo)} {T : Bytes} {l : Loc} :
    sliceRes infos T = .ok l ↔ ∃ a, lookupRes infos T = .ok a ∧ a.getSlice = .ok l := by
  unfold sliceRes; cases lookupRes infos T <;> simp [bind_ok, bind_error]

/-! ### the builder operations -/

theorem getArg_eq (st : TEB) (T : Bytes) :
    getArg st T = (lookupRes st.argInfos T).map (·, st.use T) := by
  unfold getArg lookupRes lookupInfo TEB.use
  cases st.argInfos.find? (fun p => p.1 == T) <;> rfl

theorem inputMember_eq (st : TEB) (T m : Bytes) :
    inputMember st T m = (memberRes st.argInfos T m).map (·, st.use T) := by
  rw [inputMember, getArg_eq, memberRes]
  cases lookupRes st.argInfos T with
  | error e => rfl
  | ok a =>
    show (match a.getMember m with | .error e => _ | .ok l => _) = Except.map _ (a.getMember m)
    cases a.getMember m <;> rfl

theorem allStructInputs_eq (st : TEB) (T : Bytes) :
    allStructInputs st T = (starRes st.argInfos T).map (·, st.use T) := by
  rw [allStructInputs, getArg_eq, starRes]
  cases lookupRes st.argInfos T with
  | error e => rfl
  | ok a =>
    show (match a.getAll with | .error e => _ | .ok l => _) = Except.map _ a.getAll
    cases a.getAll <;> rfl

theorem outputMember_eq (st : TEB) (T m : Bytes) :
    outputMember st T m =
      (memberRes st.argInfos T m).bind fun l => (markOutputs (st.use T) [(l, m)]).map (l, ·) := by
  rw [outputMember, getArg_eq, memberRes]
  cases lookupRes st.argInfos T with
  | error e => rfl
  | ok a =>
    show (match a.getMember m with | .error e => _ | .ok l => _) = (a.getMember m).bind _
    cases a.getMember m with
    | error e => rfl
    | ok l =>
      rw [bind_ok]
      show (match markOutput (st.use T) l with | .error e => _ | .ok l => _) = _
      rw [show markOutputs (st.use T) [(l, m)] = (markOutput (st.use T) l).bind (markOutputs · []) from
        markOutputs_cons ..]
      cases markOutput (st.use T) l <;> rfl

theorem allStructOutputs_eq (st : TEB) (T : Bytes) :
    allStructOutputs st T =
      (starRes st.argInfos T).bind fun ms => (markOutputs (st.use T) ms).map (ms, ·) := by
  rw [allStructOutputs, getArg_eq, starRes]
  cases lookupRes st.argInfos T with
  | error e => rfl
  | ok a =>
    show (match a.getAll with | .error e => _ | .ok l => _) = a.getAll.bind _
    cases a.getAll with
    | error e => rfl
    | ok ms =>
      rw [bind_ok]
      show (match markOutputs (st.use T) ms with | .error e => _ | .ok l => _) = _
      cases markOutputs (st.use T) ms <;> rfl

/-! ### the loops

A loop over `xs` with accumulator `acc`: each element `x` is resolved against the infos to the items it
appends and the locators it claims as destinations (`res`), its samples `ty x` are marked used, the
locators are checked and marked. -/

section Loop
variable {α β : Type} (res : List (Bytes × ArgInfo) → α → Except String (List β × List (Loc × Bytes)))
  (ty : α → List Bytes) (loop : TEB → List α → List β → TR (List β))

structure IsLoop : Prop where
  nil : ∀ st acc, loop st [] acc = .ok (acc, st)
  cons : ∀ st x rest acc, loop st (x :: rest) acc =
    (res st.argInfos x).bind fun r =>
      (markOutputs (st.useAll (ty x)) r.2).bind fun st1 => loop st1 rest (acc ++ r.1)

variable {res ty loop}

theorem IsLoop.ok_iff (h : IsLoop res ty loop) : ∀ (xs : List α) (st : TEB) (acc acc' : List β) (st' : TEB),
    loop st xs acc = .ok (acc', st') ↔
      ∃ rs, xs.mapM (res st.argInfos) = .ok rs ∧
        markOutputs (st.useAll (xs.flatMap ty)) (rs.flatMap (·.2)) = .ok st' ∧
        acc' = acc ++ rs.flatMap (·.1)
  | [], st, acc, acc', st' => by
    rw [h.nil]
    constructor
    · intro e; cases e; exact ⟨[], rfl, rfl, by simp⟩
    · rintro ⟨rs, h1, h2, h3⟩; cases h1; cases h2; simp at h3; rw [h3]; rfl
  | x :: rest, st, acc, acc', st' => by
    rw [h.cons, List.flatMap_cons, TEB.useAll_append]
    cases hr : res st.argInfos x with
    | error e =>
      rw [mapM_cons_error _ _ hr]
      exact iff_of_false nofun fun ⟨_, h1, _⟩ => nomatch h1
    | ok r =>
      -- the results are `r` and those of the rest; the destinations of `x` are marked first
      rw [mapM_cons_ok _ _ hr, bind_ok, exists_map_ok_and]
      simp only [List.flatMap_cons, markOutputs_useAll_append, ← List.append_assoc]
      cases hm : markOutputs (st.useAll (ty x)) r.2 with
      | error e => exact iff_of_false nofun fun ⟨_, _, h2, _⟩ => nomatch h2
      | ok st1 =>
        have hi : st1.argInfos = st.argInfos := (markOutputs_fields hm).1.trans (TEB.useAll_argInfos ..)
        simp only [bind_ok]
        rw [← hi]
        exact h.ok_iff rest st1 _ acc' st'

theorem IsLoop.errIn (h : IsLoop res ty loop) : ∀ (xs : List α) (st : TEB) (acc : List β),
    ErrIn (fun e => xs.mapM (res st.argInfos) = .error e ∨ e = "output-used-twice") (loop st xs acc)
  | [], st, acc => by rw [h.nil]; exact .ok
  | x :: rest, st, acc => by
    rw [h.cons]
    cases hr : res st.argInfos x with
    | error e => exact .error (.inl (mapM_cons_error _ _ hr))
    | ok r =>
      rw [bind_ok, mapM_cons_ok _ _ hr]
      cases hm : markOutputs (st.useAll (ty x)) r.2 with
      | error e => exact .error (.inr (markOutputs_err _ _ e hm))
      | ok st1 =>
        have hi : st1.argInfos = st.argInfos := (markOutputs_fields hm).1.trans (TEB.useAll_argInfos ..)
        exact fun e he => (h.errIn rest st1 _ e he).imp (fun h' => by rw [← hi, h']; rfl) id

end Loop

/-! ### the seven loops -/

/-- a source `$T.*` / `$T.m` of an asterisk insert -/
def srcRes (infos : List (Bytes × ArgInfo)) (a : Acc) : Except String (List TCol × List (Loc × Bytes)) :=
  if a.member == star then
    (starRes infos a.ty).map fun ms => (ms.map fun (l, tag) => TCol.insert l tag false, [])
  else (memberRes infos a.ty a.member).map fun l => ([TCol.insert l a.member true], [])

theorem srcRes_ok {infos : List (Bytes × ArgInfo)} {a : Acc} {r : List TCol × List (Loc × Bytes)} :
    srcRes infos a = .ok r ↔
      (a.member = star ∧ ∃ ms, starRes infos a.ty = .ok ms ∧
        r = (ms.map fun (l, tag) => TCol.insert l tag false, [])) ∨
      (a.member ≠ star ∧ ∃ l, memberRes infos a.ty a.member = .ok l ∧ r = ([TCol.insert l a.member true], [])) := by
  rw [srcRes, ite_map_ok_iff, beq_iff_eq]

theorem astInsertCols_isLoop : IsLoop srcRes (fun a => [a.ty]) astInsertCols where
  nil := fun _ _ => rfl
  cons := fun st x rest acc => by
    rw [astInsertCols, srcRes]
    split
    · rw [allStructInputs_eq]; cases starRes st.argInfos x.ty <;> rfl
    · rw [inputMember_eq]; cases memberRes st.argInfos x.ty x.member <;> rfl

/-- a (column, value) pair of a basic insert -/
def pairRes (infos : List (Bytes × ArgInfo)) (p : Col × Val) : Except String (List TCol × List (Loc × Bytes)) :=
  match p.2 with
  | .lit t => .ok ([TCol.literal p.1.column t], [])
  | .acc a => (memberRes infos a.ty a.member).map fun l => ([TCol.insert l p.1.column true], [])

def pairTy (p : Col × Val) : List Bytes :=
  match p.2 with
  | .lit _ => []
  | .acc a => [a.ty]

theorem basicInsertCols_isLoop : IsLoop pairRes pairTy basicInsertCols where
  nil := fun _ _ => rfl
  cons := fun st x rest acc => by
    obtain ⟨c, v⟩ := x
    cases v with
    | lit t => rfl
    | acc a =>
      rw [basicInsertCols, inputMember_eq]
      simp only [pairRes, pairTy, TEB.useAll_cons, TEB.useAll_nil]
      cases memberRes st.argInfos a.ty a.member <;> rfl

/-- a listed column of a columns insert, given the provider table and the asterisk map -/
def colRes (infos : List (Bytes × ArgInfo)) (prov : List (Bytes × List Loc)) (rem : Option Bytes) (c : Col) :
    Except String (List TCol × List (Loc × Bytes)) :=
  match prov.find? (·.1 == c.str), rem with
  | some (_, [l]), _ => .ok ([TCol.insert l c.str true], [])
  | some (_, _), _ => .error "more-than-one-provider"
  | none, some m => (memberRes infos m c.str).map fun l => ([TCol.insert l c.str true], [])
  | none, none => .error "missing-provider"

/-- the sample a listed column marks: the asterisk map, when no provider lists the column -/
def colTy (prov : List (Bytes × List Loc)) (rem : Option Bytes) (c : Col) : List Bytes :=
  match prov.find? (·.1 == c.str), rem with
  | none, some m => [m]
  | _, _ => []

theorem colRes_ok {infos : List (Bytes × ArgInfo)} {prov : List (Bytes × List Loc)} {rem : Option Bytes} {c : Col}
    {r : List TCol × List (Loc × Bytes)} (h : colRes infos prov rem c = .ok r) :
    (∃ k l, prov.find? (·.1 == c.str) = some (k, [l]) ∧ r = ([TCol.insert l c.str true], [])) ∨
    (prov.find? (·.1 == c.str) = none ∧ ∃ m l, rem = some m ∧ memberRes infos m c.str = .ok l ∧
      r = ([TCol.insert l c.str true], [])) := by
  unfold colRes at h
  split at h
  · cases h; exact .inl ⟨_, _, ‹_›, rfl⟩
  · cases h
  · exact .inr ⟨‹_›, _, (map_ok_inv h).imp fun _ h' => ⟨rfl, h'⟩⟩
  · cases h

theorem colInsertCols_isLoop (prov : List (Bytes × List Loc)) (rem : Option Bytes) :
    IsLoop (fun infos => colRes infos prov rem) (colTy prov rem) (colInsertCols prov rem) where
  nil := fun _ _ => rfl
  cons := fun st c rest acc => by
    rw [colInsertCols.eq_def]
    simp only [colRes, colTy]
    generalize List.find? (fun x => x.1 == c.str) prov = fo
    rcases fo with _ | ⟨k, _ | ⟨l, _ | ⟨l2, ls⟩⟩⟩ <;> cases rem <;> try rfl
    all_goals (dsimp only; rw [inputMember_eq]; cases memberRes st.argInfos _ c.str <;> rfl)

/-- an accessor `&T.*` / `&T.m` of an output node with generated columns -/
def accRes (pref : Bytes) (infos : List (Bytes × ArgInfo)) (a : Acc) :
    Except String (List (Bytes × Loc) × List (Loc × Bytes)) :=
  if a.member == star then
    (starRes infos a.ty).map fun ms => (ms.map fun (l, tag) => newOutputColumn pref tag l, ms)
  else (memberRes infos a.ty a.member).map fun l => ([newOutputColumn pref a.member l], [(l, a.member)])

theorem accRes_ok {pref : Bytes} {infos : List (Bytes × ArgInfo)} {a : Acc}
    {r : List (Bytes × Loc) × List (Loc × Bytes)} :
    accRes pref infos a = .ok r ↔
      (a.member = star ∧ ∃ ms, starRes infos a.ty = .ok ms ∧
        r = (ms.map fun (l, tag) => newOutputColumn pref tag l, ms)) ∨
      (a.member ≠ star ∧ ∃ l, memberRes infos a.ty a.member = .ok l ∧
        r = ([newOutputColumn pref a.member l], [(l, a.member)])) := by
  rw [accRes, ite_map_ok_iff, beq_iff_eq]

theorem outGenerated_isLoop (pref : Bytes) : IsLoop (accRes pref) (fun a => [a.ty]) (outGenerated pref) where
  nil := fun _ _ => rfl
  cons := fun st x rest acc => by
    rw [outGenerated, accRes]
    split
    · rw [allStructOutputs_eq]
      cases starRes st.argInfos x.ty with
      | error e => rfl
      | ok ms =>
        simp only [bind_ok, map_ok, TEB.useAll_cons, TEB.useAll_nil]
        generalize markOutputs (st.use x.ty) ms = y
        cases y <;> rfl
    · rw [outputMember_eq]
      cases memberRes st.argInfos x.ty x.member with
      | error e => rfl
      | ok l =>
        simp only [bind_ok, map_ok, TEB.useAll_cons, TEB.useAll_nil]
        generalize markOutputs (st.use x.ty) [(l, x.member)] = y
        cases y <;> rfl

/-- an explicit column into the one asterisk type `ty` -/
def colStarRes (ty : Bytes) (infos : List (Bytes × ArgInfo)) (c : Col) :
    Except String (List (Bytes × Loc) × List (Loc × Bytes)) :=
  (memberRes infos ty c.column).map fun l => ([newOutputColumn c.tableName c.column l], [(l, c.column)])

theorem outIntoStar_isLoop (ty : Bytes) : IsLoop (colStarRes ty) (fun _ => [ty]) (outIntoStar ty) where
  nil := fun _ _ => rfl
  cons := fun st x rest acc => by
    rw [outIntoStar, colStarRes, outputMember_eq]
    cases memberRes st.argInfos ty x.column with
    | error e => rfl
    | ok l =>
      simp only [bind_ok, map_ok, TEB.useAll_cons, TEB.useAll_nil]
      generalize markOutputs (st.use ty) [(l, x.column)] = y
      cases y <;> rfl

/-- a (column, accessor) pair of an output node -/
def pairOutRes (infos : List (Bytes × ArgInfo)) (p : Col × Acc) :
    Except String (List (Bytes × Loc) × List (Loc × Bytes)) :=
  (memberRes infos p.2.ty p.2.member).map fun l =>
    ([newOutputColumn p.1.tableName p.1.column l], [(l, p.2.member)])

theorem outPairwise_isLoop : IsLoop pairOutRes (fun p => [p.2.ty]) outPairwise where
  nil := fun _ _ => rfl
  cons := fun st x rest acc => by
    obtain ⟨c, t⟩ := x
    rw [outPairwise, pairOutRes, outputMember_eq]
    cases memberRes st.argInfos t.ty t.member with
    | error e => rfl
    | ok l =>
      simp only [bind_ok, map_ok, TEB.useAll_cons, TEB.useAll_nil]
      generalize markOutputs (st.use t.ty) [(l, t.member)] = y
      cases y <;> rfl

/-- `provAssign` and `provAppend` both update the providers of one column by a function `g` of
    the old providers (none if the column is new) -/
def provUpd (g : List Loc → List Loc) (m : List (Bytes × List Loc)) (k : Bytes) : List (Bytes × List Loc) :=
  if m.any (·.1 == k) then m.map (fun p => if p.1 == k then (k, g p.2) else p) else m ++ [(k, g [])]

theorem provUpd_forall {I : List Loc → Prop} {g : List Loc → List Loc} {m : List (Bytes × List Loc)}
    (h : ∀ p ∈ m, I p.2) (hg : ∀ p ∈ m, I (g p.2)) (h0 : I (g [])) (k : Bytes) :
    ∀ p ∈ provUpd g m k, I p.2 := by
  unfold provUpd
  intro p hp
  split at hp
  · obtain ⟨q, hq, rfl⟩ := List.mem_map.1 hp
    split
    · exact hg q hq
    · exact h q hq
  · rcases List.mem_append.1 hp with hp | hp
    · exact h p hp
    · cases List.mem_singleton.1 hp
      exact h0

/-- one source of a columns insert: the provider table and the asterisk map after it -/
def provStepRes (infos : List (Bytes × ArgInfo)) (acc : List (Bytes × List Loc) × Option Bytes) (src : Acc) :
    Except String (List (Bytes × List Loc) × Option Bytes) :=
  if src.member == star then
    (lookupRes infos src.ty).bind fun a =>
      match a with
      | .map .. => if acc.2.isSome then .error "more-than-one-asterisk-map" else .ok (acc.1, some src.ty)
      | a => a.getAll.map fun ms => (ms.foldl (fun pr (l, tag) => provAppend pr tag l) acc.1, acc.2)
  else (memberRes infos src.ty src.member).map fun l => (provAssign acc.1 src.member l, acc.2)

theorem provStepRes_ok {infos : List (Bytes × ArgInfo)} {acc acc' : List (Bytes × List Loc) × Option Bytes} {src : Acc}
    (h : provStepRes infos acc src = .ok acc') :
    (src.member = star ∧ ∃ tid n, lookupRes infos src.ty = .ok (.map tid n) ∧ acc.2 = none ∧
      acc' = (acc.1, some src.ty)) ∨
    (src.member = star ∧ ∃ ms, starRes infos src.ty = .ok ms ∧
      acc' = (ms.foldl (fun pr (l, tag) => provAppend pr tag l) acc.1, acc.2)) ∨
    (src.member ≠ star ∧ ∃ l, memberRes infos src.ty src.member = .ok l ∧
      acc' = (provAssign acc.1 src.member l, acc.2)) := by
  unfold provStepRes at h
  split at h
  · rename_i hs
    obtain ⟨a, ha, h⟩ := bind_ok_inv h
    split at h
    · rcases of_ite_eq h with ⟨_, h⟩ | ⟨hn, h⟩ <;> cases h
      exact .inl ⟨beq_iff_eq.1 hs, _, _, ha, by simpa using hn, rfl⟩
    · obtain ⟨ms, hms, rfl⟩ := map_ok_inv h
      exact .inr (.inl ⟨beq_iff_eq.1 hs, ms, starRes_ok.2 ⟨a, ha, hms⟩, rfl⟩)
  · rename_i hs
    exact .inr (.inr ⟨mt beq_iff_eq.2 hs, map_ok_inv h⟩)

theorem colInsertProviders_eq : ∀ (srcs : List Acc) (st : TEB) (prov : List (Bytes × List Loc)) (rem : Option Bytes),
    colInsertProviders st srcs prov rem =
      (srcs.foldlM (provStepRes st.argInfos) (prov, rem)).map (·, st.useAll (srcs.map (·.ty)))
  | [], _, _, _ => rfl
  | src :: rest, st, prov, rem => by
    have ih := fun st' => colInsertProviders_eq rest st'
    rw [colInsertProviders, foldlM_cons_bind, provStepRes, List.map_cons, TEB.useAll_cons]
    split
    · rw [getArg_eq]
      cases hl : lookupRes st.argInfos src.ty with
      | error e => rfl
      | ok a =>
        simp only [map_ok, bind_ok]
        -- a struct (or slice) source looks the sample up a second time (`teb.Kind`, then `teb.AllStructInputs`)
        have again : allStructInputs (st.use src.ty) src.ty = a.getAll.map (·, st.use src.ty) := by
          rw [allStructInputs_eq, starRes, TEB.use_argInfos, hl, bind_ok, TEB.use_use]
        cases a with
        | map tid n =>
          simp only []
          split
          · rfl
          · rw [ih]; rfl
        | struct tid n fields tags =>
          simp only []
          rw [again]
          cases (ArgInfo.struct tid n fields tags).getAll with
          | error e => rfl
          | ok ms => simp only [map_ok]; rw [ih]; rfl
        | slice tid n =>
          simp only []
          rw [again]
          cases (ArgInfo.slice tid n).getAll with
          | error e => rfl
          | ok ms => simp only [map_ok]; rw [ih]; rfl
    · rw [inputMember_eq]
      cases memberRes st.argInfos src.ty src.member with
      | error e => rfl
      | ok l => simp only [map_ok, bind_ok]; rw [ih]; rfl

/-! ### the node -/

def valAccs (vals : List Val) : List Acc :=
  vals.filterMap fun v => match v with | .acc a => some a | .lit _ => none

def OSeg.valAccs (s : OSeg) : List Acc :=
  s.vals.filterMap fun v => match v with | .acc a => some a | .lit _ => none

theorem OSeg.valAccs_eq (s : OSeg) : s.valAccs = Sqlair.valAccs s.vals := rfl

theorem valAccs_cons (v : Val) (vs : List Val) : valAccs (v :: vs) = valAccs [v] ++ valAccs vs := by
  cases v <;> rfl

def nodeTypes (s : OSeg) : List Bytes :=
  match s.kind with
  | .bypass => []
  | .basicInsert => s.valAccs.map (·.ty)
  | _ => s.types.map (·.ty)

def insertOf (rs : List (List TCol × List (Loc × Bytes))) : TExpr × List (Loc × Bytes) :=
  (.insert (rs.flatMap (·.1)), rs.flatMap (·.2))

def outputOf (rs : List (List (Bytes × Loc) × List (Loc × Bytes))) : TExpr × List (Loc × Bytes) :=
  (.output (rs.flatMap (·.1)), rs.flatMap (·.2))

/-- the typed expression of a node and the output destinations it claims.  The output kind follows the
    conditions of `bindSeg` (those of `outputExpr.bindTypes`, bindtypes.go) literally, so that each of its
    three forms comes with the tests that select it. -/
def nodeRes (infos : List (Bytes × ArgInfo)) (s : OSeg) : Except String (TExpr × List (Loc × Bytes)) :=
  match s.kind with
  | .bypass => .ok (.bypass s.raw, [])
  | .member =>
    match s.types with
    | [a] => (memberRes infos a.ty a.member).map fun l => (.input l, [])
    | _ => .error "malformed-ast"
  | .slice =>
    match s.types with
    | [a] => (sliceRes infos a.ty).map fun l => (.input l, [])
    | _ => .error "malformed-ast"
  | .astInsert => (s.types.mapM (srcRes infos)).map insertOf
  | .colInsert =>
    (s.types.foldlM (provStepRes infos) ([], none)).bind fun pr =>
      (s.cols.mapM (colRes infos pr.1 pr.2)).map insertOf
  | .basicInsert =>
    if s.cols.length != s.vals.length then .error "mismatched-columns-values" else
    ((s.cols.zip s.vals).mapM (pairRes infos)).map insertOf
  | .output =>
    let numTypes := s.types.length
    let numColumns := s.cols.length
    let starTypes := starCountTypes s.types
    let starColumns := starCountCols s.cols
    if numColumns == 0 || (numColumns == 1 && starColumns == 1) then
      let pref := match s.cols with | c :: _ => c.tableName | [] => #[]
      (s.types.mapM (accRes pref infos)).map outputOf
    else if numColumns > 1 && starColumns > 0 then .error "invalid-asterisk-in-columns"
    else if starTypes == 1 && numTypes == 1 then
      (s.cols.mapM (colStarRes (s.types.headD default).ty infos)).map outputOf
    else if starTypes > 0 && numTypes > 1 then .error "invalid-asterisk-in-types"
    else if numColumns == numTypes then ((s.cols.zip s.types).mapM (pairOutRes infos)).map outputOf
    else .error "mismatched-columns-types"

def NodeTyped (infos : List (Bytes × ArgInfo)) (s : OSeg) (e : TExpr) : Prop :=
  ∃ ms, nodeRes infos s = .ok (e, ms)

/-- `X` binds a node whose typed expression and claimed destinations are `r`, from the state `st1` in which the
    node's samples are marked. -/
structure NodeRun (st1 : TEB) (r : Except String (TExpr × List (Loc × Bytes))) (X : Except String TEB) : Prop where
  ok_iff : ∀ {st'}, X = .ok st' ↔ ∃ e ms st2, r = .ok (e, ms) ∧ markOutputs st1 ms = .ok st2 ∧ st' = st2.add e
  error : ∀ {e}, X = .error e → r = .error e ∨ e = "output-used-twice"

theorem NodeRun.fail (st1 : TEB) (e : String) : NodeRun st1 (.error e) (.error e) :=
  ⟨iff_of_false nofun (fun ⟨_, _, _, h, _⟩ => nomatch h), fun h => .inl (congrArg _ (Except.error.inj h))⟩

theorem NodeRun.ok {st1 st2 : TEB} {ms : List (Loc × Bytes)} (e : TExpr) (h : markOutputs st1 ms = .ok st2) :
    NodeRun st1 (.ok (e, ms)) (.ok (st2.add e)) :=
  ⟨⟨fun hx => by cases hx; exact ⟨_, _, _, rfl, h, rfl⟩,
    fun ⟨_, _, _, h1, h2, h3⟩ => by cases h1; cases h.symm.trans h2; rw [h3]⟩, nofun⟩

theorem NodeRun.ite {c : Prop} [Decidable c] {st1 : TEB} {r r' : Except String (TExpr × List (Loc × Bytes))}
    {X X' : Except String TEB} (h : c → NodeRun st1 r X) (h' : ¬c → NodeRun st1 r' X') :
    NodeRun st1 (if c then r else r') (if c then X else X') := by
  split
  · exact h ‹_›
  · exact h' ‹_›

/-- A node whose expression `mk items` is built by one loop, run from `st0`; `X` is `bindSeg` from the loop
    on (it passes an error on and appends the expression).  `st1` is any state with the same samples marked. -/
theorem IsLoop.nodeRun {α β : Type} {res : List (Bytes × ArgInfo) → α → Except String (List β × List (Loc × Bytes))}
    {ty : α → List Bytes} {lp : TEB → List α → List β → TR (List β)} (h : IsLoop res ty lp)
    (mk : List β → TExpr) {st0 st1 : TEB} {xs : List α} (htys : st0.useAll (xs.flatMap ty) = st1)
    {X : Except String TEB} (he : ∀ e, lp st0 xs [] = .error e → X = .error e := by intro _ h; rw [h])
    (ho : ∀ r st2, lp st0 xs [] = .ok (r, st2) → X = .ok (st2.add (mk r)) := by intro _ _ h; rw [h]) :
    NodeRun st1 ((xs.mapM (res st0.argInfos)).map fun rs => (mk (rs.flatMap (·.1)), rs.flatMap (·.2)))
      X := by
  subst htys
  cases hl : lp st0 xs [] with
  | error e =>
    rw [he e hl]
    refine ⟨iff_of_false nofun ?_, fun he => ?_⟩
    · rintro ⟨e', ms, st2, h1, h2, _⟩
      obtain ⟨rs, hrs, hq⟩ := map_ok_inv h1
      cases hq
      exact nomatch hl.symm.trans ((h.ok_iff xs st0 [] _ st2).2 ⟨rs, hrs, h2, rfl⟩)
    · cases he
      exact (h.errIn xs st0 [] e hl).imp (fun h' => by rw [h']; rfl) id
  | ok p =>
    obtain ⟨r, st2⟩ := p
    obtain ⟨rs, hrs, h2, h3⟩ := (h.ok_iff ..).1 hl
    rw [List.nil_append] at h3
    rw [ho r st2 hl, hrs, map_ok, h3]
    exact .ok _ h2

theorem provStepRes_rem {infos : List (Bytes × ArgInfo)} {srcs : List Acc}
    {pr : List (Bytes × List Loc) × Option Bytes} (h : srcs.foldlM (provStepRes infos) ([], none) = .ok pr) :
    ∀ m, pr.2 = some m → m ∈ srcs.map (·.ty) :=
  foldlM_except_inv (provStepRes infos) (fun pr => ∀ m, pr.2 = some m → m ∈ srcs.map (·.ty)) srcs
    (fun b a b' ha hb hstep => by
      rcases provStepRes_ok hstep with ⟨_, _, _, _, _, rfl⟩ | ⟨_, _, _, rfl⟩ | ⟨_, _, _, rfl⟩
      · intro m hm
        cases hm
        exact List.mem_map_of_mem ha
      · exact hb
      · exact hb)
    _ _ (by intro _ hm; cases hm) h

theorem flatMap_pairTy_zip : ∀ (cols : List Col) (vals : List Val), cols.length = vals.length →
    (cols.zip vals).flatMap pairTy = (valAccs vals).map (·.ty)
  | [], [], _ => rfl
  | [], _ :: _, h => nomatch h
  | _ :: _, [], h => nomatch h
  | c :: cs, v :: vs, h => by
    rw [List.zip_cons_cons, List.flatMap_cons, flatMap_pairTy_zip cs vs (Nat.succ.inj h)]
    cases v <;> rfl

theorem bindSeg_nodeRun (st : TEB) (s : OSeg) :
    NodeRun (st.useAll (nodeTypes s)) (nodeRes st.argInfos s) (bindSeg st s) := by
  unfold bindSeg nodeRes nodeTypes
  cases hkind : s.kind <;> dsimp only
  case bypass => exact .ok _ rfl
  case member =>
    rcases s.types with _ | ⟨a, _ | ⟨b, l⟩⟩
    · exact .fail ..
    · dsimp only
      rw [inputMember_eq]
      cases memberRes st.argInfos a.ty a.member with
      | error e => exact .fail ..
      | ok l => exact .ok _ rfl
    · exact .fail ..
  case slice =>
    rcases s.types with _ | ⟨a, _ | ⟨b, l⟩⟩
    · exact .fail ..
    · dsimp only
      rw [getArg_eq, sliceRes]
      cases lookupRes st.argInfos a.ty with
      | error e => exact .fail ..
      | ok ai =>
        simp only [map_ok, bind_ok]
        cases ai.getSlice with
        | error e => exact .fail ..
        | ok l => exact .ok _ rfl
    · exact .fail ..
  case astInsert =>
    exact astInsertCols_isLoop.nodeRun .insert (by rw [← List.map_eq_flatMap])
  case colInsert =>
    rw [colInsertProviders_eq]
    cases hp : s.types.foldlM (provStepRes st.argInfos) ([], none) with
    | error e => exact .fail ..
    | ok pr =>
      simp only [map_ok, bind_ok]
      rw [← TEB.useAll_argInfos st (s.types.map (·.ty))]
      -- the columns mark at most the asterisk map, which the sources have marked
      refine (colInsertCols_isLoop pr.1 pr.2).nodeRun .insert
        (TEB.useAll_of_mem fun n hn => ?_)
      obtain ⟨c, _, hc⟩ := List.mem_flatMap.1 hn
      unfold colTy at hc
      split at hc
      · rename_i hrem
        cases List.mem_singleton.1 hc
        exact (TEB.mem_useAll ..).2 (.inr (provStepRes_rem hp _ hrem))
      · cases hc
  case basicInsert =>
    refine .ite (fun _ => .fail ..) fun hlen => ?_
    exact basicInsertCols_isLoop.nodeRun .insert
      (congrArg _ (flatMap_pairTy_zip _ _ (by simpa using hlen)))
  case output =>
    refine .ite (fun _ => ?_) fun c1 => .ite (fun _ => .fail ..) fun _ => .ite (fun c3 => ?_) fun _ =>
      .ite (fun _ => .fail ..) fun _ => .ite (fun c5 => ?_) fun _ => .fail ..
    · cases s.cols <;>
        exact (outGenerated_isLoop _).nodeRun .output (by rw [← List.map_eq_flatMap])
    · -- one type, marked once per column; there is a column
      obtain ⟨t, ht⟩ := List.length_eq_one_iff.1 (beq_iff_eq.1 (Bool.and_eq_true_iff.1 c3).2)
      have hne : s.cols ≠ [] := fun h0 => c1 (by rw [h0]; rfl)
      exact (outIntoStar_isLoop _).nodeRun .output (by rw [TEB.useAll_same _ _ hne, ht]; rfl)
    · exact outPairwise_isLoop.nodeRun .output
        (by rw [← List.map_eq_flatMap, show (fun p : Col × Acc => p.2.ty) = (·.ty) ∘ Prod.snd from rfl,
          ← List.map_map, List.map_snd_zip (Nat.le_of_eq (beq_iff_eq.1 c5).symm)])

theorem bindSeg_nodeRes {st st' : TEB} {s : OSeg} (h : bindSeg st s = .ok st') :
    ∃ e ms, nodeRes st.argInfos s = .ok (e, ms) ∧ st'.exprs = st.exprs ++ [e] ∧ st'.argInfos = st.argInfos := by
  obtain ⟨e, ms, st1, h1, h2, rfl⟩ := (bindSeg_nodeRun st s).ok_iff.1 h
  obtain ⟨g1, g2, _⟩ := markOutputs_fields h2
  exact ⟨e, ms, h1, congrArg (· ++ [e]) (g2.trans (TEB.useAll_exprs ..)), g1.trans (TEB.useAll_argInfos ..)⟩

theorem bindSeg_argInfos {st st' : TEB} {s : OSeg} (h : bindSeg st s = .ok st') :
    st'.argInfos = st.argInfos :=
  (bindSeg_nodeRes h).elim fun _ h => h.elim fun _ h => h.2.2

theorem bindSeg_typed {st st' : TEB} {s : OSeg} (h : bindSeg st s = .ok st') :
    ∃ e, st'.exprs = st.exprs ++ [e] ∧ NodeTyped st.argInfos s e :=
  let ⟨e, ms, h1, h2, _⟩ := bindSeg_nodeRes h
  ⟨e, h2, ms, h1⟩

theorem starCountCols_zero {cs : List Col} (h : starCountCols cs = 0) :
    ∀ c ∈ cs, c.column ≠ star := by
  unfold starCountCols at h
  have h' := List.eq_nil_of_length_eq_zero h
  rw [List.filter_eq_nil_iff] at h'
  intro c hc heq
  exact h' c hc (by rw [heq]; exact beq_self_eq_true _)

/-- the three forms of an output node (cases 1 to 3 of `outputExpr.bindTypes`, bindtypes.go): generated
    columns (at most one written column), explicit columns into one asterisk type, explicit columns and types
    pairwise -/
theorem nodeRes_output {infos : List (Bytes × ArgInfo)} {s : OSeg} {e : TExpr} {ms : List (Loc × Bytes)}
    (hk : s.kind = .output) (h : nodeRes infos s = .ok (e, ms)) :
    ∃ rs, (e, ms) = outputOf rs ∧
      ((s.cols.length ≤ 1 ∧
          s.types.mapM (accRes (match s.cols with | c :: _ => c.tableName | [] => #[]) infos) = .ok rs) ∨
       (s.cols ≠ [] ∧ (∀ c ∈ s.cols, c.column ≠ star) ∧ ∃ t, s.types = [t] ∧
          s.cols.mapM (colStarRes t.ty infos) = .ok rs) ∨
       (s.cols ≠ [] ∧ (∀ c ∈ s.cols, c.column ≠ star) ∧ s.cols.length = s.types.length ∧
          (s.cols.zip s.types).mapM (pairOutRes infos) = .ok rs)) := by
  unfold nodeRes at h
  simp only [hk] at h
  have hle : starCountCols s.cols ≤ s.cols.length := List.length_filter_le _ _
  rcases of_ite_eq h with ⟨c1, h⟩ | ⟨c1, h⟩
  · obtain ⟨rs, hm, he⟩ := map_ok_inv h
    refine ⟨rs, he, .inl ⟨?_, hm⟩⟩
    simp only [Bool.or_eq_true, beq_iff_eq, Bool.and_eq_true] at c1
    omega
  rcases of_ite_eq h with ⟨_, h⟩ | ⟨c2, h⟩
  · cases h
  simp only [Bool.or_eq_true, beq_iff_eq, Bool.and_eq_true, decide_eq_true_eq, not_or, not_and] at c1 c2
  have hne : s.cols ≠ [] := fun h0 => c1.1 (by rw [h0]; rfl)
  have hns := starCountCols_zero (cs := s.cols) (by omega)
  rcases of_ite_eq h with ⟨c3, h⟩ | ⟨_, h⟩
  · obtain ⟨rs, hm, he⟩ := map_ok_inv h
    simp only [Bool.and_eq_true, beq_iff_eq] at c3
    obtain ⟨t, ht⟩ := List.length_eq_one_iff.1 c3.2
    rw [ht] at hm
    exact ⟨rs, he, .inr (.inl ⟨hne, hns, t, ht, hm⟩)⟩
  rcases of_ite_eq h with ⟨_, h⟩ | ⟨_, h⟩
  · cases h
  rcases of_ite_eq h with ⟨c5, h⟩ | ⟨_, h⟩
  · obtain ⟨rs, hm, he⟩ := map_ok_inv h
    exact ⟨rs, he, .inr (.inr ⟨hne, hns, beq_iff_eq.1 c5, hm⟩)⟩
  · cases h

section
variable {infos : List (Bytes × ArgInfo)} {s : OSeg} {e : TExpr}

theorem NodeTyped.bypass (h : NodeTyped infos s e) (hk : s.kind = .bypass) : e = .bypass s.raw := by
  obtain ⟨_, h⟩ := h
  simp only [nodeRes, hk] at h
  cases h; rfl

theorem NodeTyped.member (h : NodeTyped infos s e) (hk : s.kind = .member) :
    ∃ a l, s.types = [a] ∧ memberRes infos a.ty a.member = .ok l ∧ e = .input l := by
  obtain ⟨_, h⟩ := h
  simp only [nodeRes, hk] at h
  split at h
  · obtain ⟨l, hl, he⟩ := map_ok_inv h
    exact ⟨_, l, ‹_›, hl, (Prod.mk.inj he).1⟩
  · cases h

theorem NodeTyped.slice (h : NodeTyped infos s e) (hk : s.kind = .slice) :
    ∃ a l, s.types = [a] ∧ sliceRes infos a.ty = .ok l ∧ e = .input l := by
  obtain ⟨_, h⟩ := h
  simp only [nodeRes, hk] at h
  split at h
  · obtain ⟨l, hl, he⟩ := map_ok_inv h
    exact ⟨_, l, ‹_›, hl, (Prod.mk.inj he).1⟩
  · cases h

theorem NodeTyped.astInsert (h : NodeTyped infos s e) (hk : s.kind = .astInsert) :
    ∃ rs, s.types.mapM (srcRes infos) = .ok rs ∧ e = .insert (rs.flatMap (·.1)) := by
  obtain ⟨_, h⟩ := h
  simp only [nodeRes, hk] at h
  obtain ⟨rs, hm, he⟩ := map_ok_inv h
  exact ⟨rs, hm, (Prod.mk.inj he).1⟩

theorem NodeTyped.colInsert (h : NodeTyped infos s e) (hk : s.kind = .colInsert) :
    ∃ pr rs, s.types.foldlM (provStepRes infos) ([], none) = .ok pr ∧
      s.cols.mapM (colRes infos pr.1 pr.2) = .ok rs ∧ e = .insert (rs.flatMap (·.1)) := by
  obtain ⟨_, h⟩ := h
  simp only [nodeRes, hk] at h
  obtain ⟨pr, hp, h⟩ := bind_ok_inv h
  obtain ⟨rs, hm, he⟩ := map_ok_inv h
  exact ⟨pr, rs, hp, hm, (Prod.mk.inj he).1⟩

theorem NodeTyped.basicInsert (h : NodeTyped infos s e) (hk : s.kind = .basicInsert) :
    s.cols.length = s.vals.length ∧
      ∃ rs, (s.cols.zip s.vals).mapM (pairRes infos) = .ok rs ∧ e = .insert (rs.flatMap (·.1)) := by
  obtain ⟨_, h⟩ := h
  simp only [nodeRes, hk] at h
  rcases of_ite_eq h with ⟨_, h⟩ | ⟨hlen, h⟩
  · cases h
  · obtain ⟨rs, hm, he⟩ := map_ok_inv h
    exact ⟨by simpa using hlen, rs, hm, (Prod.mk.inj he).1⟩

theorem NodeTyped.output (h : NodeTyped infos s e) (hk : s.kind = .output) :
    (s.cols.length ≤ 1 ∧ ∃ rs,
      s.types.mapM (accRes (match s.cols with | c :: _ => c.tableName | [] => #[]) infos) = .ok rs ∧
      e = .output (rs.flatMap (·.1))) ∨
    (s.cols ≠ [] ∧ ∃ t rs, s.types = [t] ∧ s.cols.mapM (colStarRes t.ty infos) = .ok rs ∧
      e = .output (rs.flatMap (·.1))) ∨
    (s.cols ≠ [] ∧ s.cols.length = s.types.length ∧ ∃ rs,
      (s.cols.zip s.types).mapM (pairOutRes infos) = .ok rs ∧ e = .output (rs.flatMap (·.1))) := by
  obtain ⟨ms, h⟩ := h
  obtain ⟨rs, he, hf⟩ := nodeRes_output hk h
  have he : e = .output (rs.flatMap (·.1)) := (Prod.mk.inj he).1
  rcases hf with ⟨hl, hm⟩ | ⟨hne, _, t, ht, hm⟩ | ⟨hne, _, hl, hm⟩
  · exact .inl ⟨hl, rs, hm, he⟩
  · exact .inr (.inl ⟨hne, t, rs, ht, hm, he⟩)
  · exact .inr (.inr ⟨hne, hl, rs, hm, he⟩)

theorem NodeTyped.not_output (h : NodeTyped infos s e) (hk : s.kind ≠ .output) : ∀ cols, e ≠ .output cols := by
  cases hkind : s.kind
  case output => exact absurd hkind hk
  case bypass => cases h.bypass hkind; nofun
  case member => obtain ⟨_, _, _, _, rfl⟩ := h.member hkind; nofun
  case slice => obtain ⟨_, _, _, _, rfl⟩ := h.slice hkind; nofun
  case astInsert => obtain ⟨_, _, rfl⟩ := h.astInsert hkind; nofun
  case colInsert => obtain ⟨_, _, _, _, rfl⟩ := h.colInsert hkind; nofun
  case basicInsert => obtain ⟨_, _, _, rfl⟩ := h.basicInsert hkind; nofun

end

theorem bindSegs_cons (st : TEB) (s : OSeg) (rest : List OSeg) :
    bindSegs st (s :: rest) = (bindSeg st s).bind (bindSegs · rest) := by
  rw [bindSegs]; cases bindSeg st s <;> rfl

theorem bindSegs_eq_foldlM : ∀ (segs : List OSeg) (st : TEB), bindSegs st segs = segs.foldlM bindSeg st
  | [], _ => rfl
  | s :: rest, st => by
    rw [bindSegs_cons, foldlM_cons_bind]
    exact congrArg _ (funext (bindSegs_eq_foldlM rest))

theorem Tag.bindSegs_invariant {Inv : TEB → Prop} : ∀ (segs : List OSeg) (st st' : TEB),
    (∀ s ∈ segs, ∀ st1 st2, bindSeg st1 s = .ok st2 → Inv st1 → Inv st2) →
    bindSegs st segs = .ok st' → Inv st → Inv st' :=
  fun segs st st' step h hi => foldlM_except_inv bindSeg Inv segs
    (fun st1 s st2 hs hi hst => step s hs st1 st2 hst hi) st st' hi (bindSegs_eq_foldlM segs st ▸ h)

theorem bindTypes_eq (C : Cls) (tt : TypeTable) (segs : List OSeg) (samples : List (Option Nat)) :
    bindTypes C tt segs samples = (generateArgInfo C tt samples []).bind fun infos =>
      (bindSegs { argInfos := infos } segs).bind fun st =>
        if infos.all (fun p => st.argUsed.contains p.1) then .ok st.exprs else .error "sample-not-used" := by
  rw [bindTypes]
  cases generateArgInfo C tt samples [] with
  | error e => rfl
  | ok infos => simp only [bind_ok]; cases bindSegs { argInfos := infos } segs <;> rfl

theorem bindTypes_ok_iff {C : Cls} {tt : TypeTable} {segs : List OSeg} {samples : List (Option Nat)}
    {tes : List TExpr} :
    bindTypes C tt segs samples = .ok tes ↔
      ∃ infos st, generateArgInfo C tt samples [] = .ok infos ∧
        bindSegs { argInfos := infos } segs = .ok st ∧
        infos.all (fun p => st.argUsed.contains p.1) = true ∧ tes = st.exprs := by
  rw [bindTypes_eq]
  constructor
  · intro h
    obtain ⟨infos, hg, h⟩ := bind_ok_inv h
    obtain ⟨st, hs, h⟩ := bind_ok_inv h
    rcases of_ite_eq h with ⟨hall, h⟩ | ⟨_, h⟩ <;> cases h
    exact ⟨infos, st, hg, hs, hall, rfl⟩
  · rintro ⟨infos, st, hg, hs, hall, rfl⟩
    rw [hg, bind_ok, hs, bind_ok, if_pos hall]

end Sqlair
