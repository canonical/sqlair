/-
  Parser nodes never carry a member / column that ends with `*` (other than `*` itself): parser output
  satisfies the hypothesis `NodeNoStarEnd` of `bindTypes_no_wildcard` (`Bind/Tag.lean`).

  The pass over the payloads runs parallel to the `Good`/position pass of `Parser/*`: for every scanning
  function, what the byte just before the resulting scanner position is (a closing quote, a `)`, the last byte
  of a name rune); for every parse function, what that says about the `Bytes` it extracts.
-/
import SqlairProofs.Parser.LexScan
import SqlairProofs.Bind.Tag

namespace Sqlair

/-- What the pass needs of the decoder beyond `DecOK`, so that the byte before the scanner can be read off the
    last character. -/
structure DecStarOK (E : Env) : Prop where
  last_star : ∀ p, p < E.len → bAt E.inp (p + (E.dec E.inp p).2 - 1) = 42 → (E.dec E.inp p).1 = 42
  ascii : SmallDec E

theorem decodeRune_DecStarOK (inp : Bytes) (letter digit : Nat → Bool) :
    DecStarOK { inp := inp, dec := decodeRune, letter := letter, digit := digit } where
  last_star := fun p hp h42 => by
    change bAt inp (p + (decodeRune inp p).2 - 1) = 42 at h42
    show (decodeRune inp p).1 = 42
    rcases decodeRune_cases inp p hp with h | h | h
    · simp only [h.1] at h42 ⊢
      rw [Nat.add_sub_cancel] at h42; exact h42
    · simp only [h.1] at h42
      rw [Nat.add_sub_cancel] at h42; omega
    · have := h.2.2.2 (p + (decodeRune inp p).2 - 1) (by omega) (by omega)
      omega
  ascii := fun p hp hlt => by
    show (decodeRune inp p).2 = 1 ∧ bAt inp p = (decodeRune inp p).1
    rw [decodeRune_small inp p hp hlt]
    exact ⟨rfl, rfl⟩

def IdentOK (b : Bytes) : Prop := b = star ∨ NoStarEnd b
def ColOK (c : Col) : Prop := IdentOK c.column
def AccOK (a : Acc) : Prop := IdentOK a.member
/-- `NodeNoStarEnd (s.toOSeg inp)` of `Bind/Tag.lean` unfolded (`SegOK.toOSeg` is `rfl`); it does not
    depend on the input. -/
def SegOK (s : Seg) : Prop := (∀ a ∈ s.types, AccOK a) ∧ (∀ c ∈ s.cols, ColOK c)

theorem noStarEnd_empty : NoStarEnd #[] := by
  intro h; cases h

theorem noStarEnd_extract (inp : Bytes) (a b : Nat) (hb : b ≤ inp.size)
    (h : bAt inp (b - 1) ≠ 42) : NoStarEnd (inp.extract a b) := by
  intro hback
  rw [Array.back?_eq_getElem?, Array.size_extract, Array.getElem?_extract, Nat.min_eq_left hb] at hback
  split at hback
  · next hlt =>
    refine h ?_
    have e : a + (b - a - 1) = b - 1 := by omega
    rw [e] at hback
    exact bAt_eq_toNat_iff.mpr (by rw [Array.getD_eq_getD_getElem?, hback])
  · cases hback

section
variable {E : Env}

def prevByte (E : Env) (s : Sc) : Nat := bAt E.inp (s.pos - 1)

theorem advanceChar_prev_ascii (hs : DecStarOK E) {s : Sc} (g : Good E s) (hp : s.pos < E.len)
    (hc : s.char < 128) : prevByte E (advanceChar E s) = s.char := by
  unfold prevByte
  have hn : s.nextPos = s.pos + sz E s.pos := (g.next hp).1
  have hch : s.char = rn E s.pos := (g.next hp).2
  obtain ⟨hw, hb⟩ := hs.ascii s.pos hp (hch ▸ hc)
  rw [advanceChar_pos, hn, hw, Nat.add_sub_cancel, hb, hch]

theorem skipChar_prev (hs : DecStarOK E) {c : Nat} (hc : c < 128) {s : Sc} (g : Good E s)
    (ht : (skipChar E c s).2 = true) : prevByte E (skipChar E c s).1 = c := by
  obtain ⟨hp, hch, heq⟩ := skipChar_true ht
  rw [heq, advanceChar_prev_ascii hs g hp (hch ▸ hc), hch]

theorem isNameChar_star (hC : E.letter 42 = false ∧ E.digit 42 = false) : isNameChar E 42 = false :=
  isNameChar_eq_false_iff.mpr ⟨hC.1, hC.2, by decide⟩

theorem nameLoop_prev (h : DecOK E) (hs : DecStarOK E) (hC : E.letter 42 = false ∧ E.digit 42 = false)
    (f : Nat) {s s' : Sc} (g : Good E s) (hl : nameLoop E f s = some s') :
    s' = s ∨ prevByte E s' ≠ 42 := by
  induction f generalizing s with
  | zero => unfold nameLoop at hl; cases hl
  | succ f ih =>
    unfold nameLoop at hl
    split at hl
    · next hp =>
      rcases ih (advanceChar_good h g) hl with he | hne
      · right
        intro h42
        obtain ⟨hn, hc⟩ := g.next hp.1
        rw [he, prevByte, advanceChar_pos, hn] at h42
        rw [hc, hs.last_star s.pos hp.1 h42, isNameChar_star hC] at hp
        cases hp.2
      · exact .inr hne
    · cases hl; exact .inl rfl

def PrevP {α : Type} (Q : Nat → Prop) (E : Env) (r : Sc × Res α) : Prop :=
  ∀ x, r.2 = .ok x → Q (prevByte E r.1)

theorem PrevP.elim {α : Type} {Q : Nat → Prop} {r : Sc × Res α} (hr : PrevP Q E r) {s1 : Sc} {x : α}
    (heq : r = (s1, .ok x)) : Q (prevByte E s1) := by
  subst heq; exact hr x rfl

theorem PrevP.of_err {α : Type} {Q : Nat → Prop} {s : Sc} {e : PErr} : PrevP (α := α) Q E (s, .err e) :=
  fun _ hx => by cases hx

/-- It ends where the reference lexer's literal ends (`skipStringLiteral_eq_lexer`), which is right behind the
    quote byte. -/
theorem skipStringLiteral_prev (h : DecOK E) (hs : DecStarOK E) {s : Sc} (g : Good E s) :
    PrevP (fun b => b = 34 ∨ b = 39) E (skipStringLiteral E s) := by
  intro u hu
  obtain ⟨_, hc, hle⟩ := (skipStringLiteral_eq_lexer h g).1 _ u (Prod.ext rfl hu)
  obtain ⟨q, hq, _, hb, _⟩ := LE_shape h hs.ascii (c := s.char) (by omega) hle
  unfold prevByte
  rw [hq, Nat.add_sub_cancel, hb]
  exact hc

theorem parenLoop_prev (h : DecOK E) (hs : DecStarOK E) (cp : Sc) (f count : Nat) {s : Sc}
    (g : Good E s) (h0 : count = 0 → prevByte E s = 41) :
    PrevP (· = 41) E (parenLoop E cp f count s) := by
  induction f generalizing s count with
  | zero => unfold parenLoop; exact PrevP.of_err
  | succ f ih =>
    unfold parenLoop
    refine iteInduction (fun hc => ?_) fun _ =>
      iteInduction (fun _ => .of_err) fun hc _ _ => h0 (by omega)
    have hcount : ¬ count = 0 := by omega
    have hsl := skipStringLiteral_xok h g
    split
    · exact PrevP.of_err
    · next heq1 => exact ih count (hsl.elim_ok heq1).1 (fun h0' => (hcount h0').elim)
    · exact iteInduction (fun _ => ih count (skipComment_bok h g).good (fun h0' => (hcount h0').elim)) fun _ =>
        iteInduction (fun _ => ih _ (skipChar_bok h 40 g).good (fun h0' => by omega)) fun _ =>
        iteInduction (fun ht => ih _ (skipChar_bok h 41 g).good (fun _ => skipChar_prev hs (by omega) g ht)) fun _ =>
        ih count (advanceChar_good h g) (fun h0' => (hcount h0').elim)

theorem skipEnclosedParentheses_prev (h : DecOK E) (hs : DecStarOK E) {s s1 : Sc} {u : Unit}
    (g : Good E s) (heq : skipEnclosedParentheses E s = (s1, .ok u)) : prevByte E s1 = 41 := by
  unfold skipEnclosedParentheses at heq
  simp only [] at heq
  split at heq
  · exact (parenLoop_prev h hs s _ 1 (skipChar_bok h 40 g).good (fun h0 => by omega)).elim heq
  · cases heq

theorem IdentOK.star : IdentOK star := .inl rfl

structure PayHyp (E : Env) : Prop where
  dec : DecOK E
  decStar : DecStarOK E
  cls : E.letter 42 = false ∧ E.digit 42 = false

theorem parseIdentifier_pay (H : PayHyp E) {s : Sc} (g : Good E s) :
    ResP NoStarEnd (parseIdentifier E s) := by
  have h := H.dec
  unfold parseIdentifier
  have hsl := skipStringLiteral_xok h g
  have hpv := skipStringLiteral_prev h H.decStar g
  split
  · exact ResP.of_err
  · next s1 u heq =>
    obtain ⟨g1, hlt⟩ := hsl.elim_ok heq
    have hq := hpv.elim heq
    refine ResP.of_ok (noStarEnd_extract _ _ _ g1.pos_le ?_)
    show prevByte E s1 ≠ 42
    omega
  · extract_lets s2
    have hp2 : Good E s2 ∧ (s2 = s ∨ prevByte E s2 ≠ 42) := by
      unfold s2
      obtain ⟨s', hs', hp', _⟩ := nameLoop_spec h (E.len + 1) g (by omega)
      rw [hs']
      exact ⟨hp'.good, nameLoop_prev h H.decStar H.cls _ g hs'⟩
    clear_value s2
    split
    · next hgt =>
      refine ResP.of_ok (noStarEnd_extract _ _ _ hp2.1.pos_le ?_)
      rcases hp2.2 with he | hne
      · rw [he] at hgt; omega
      · exact hne
    · exact ResP.of_no

theorem parseIdentifierAsterisk_pay (H : PayHyp E) {s : Sc} (g : Good E s) :
    ResP IdentOK (parseIdentifierAsterisk E s) := by
  unfold parseIdentifierAsterisk
  exact .ite (.of_ok IdentOK.star) fun x hx => .inr (parseIdentifier_pay H g x hx)

theorem parseColumnAccessor_pay (H : PayHyp E) {s : Sc} (g : Good E s) :
    ResP ColOK (parseColumnAccessor E s) := by
  have h := H.dec
  unfold parseColumnAccessor
  refine .ite (.of_ok IdentOK.star) ?_
  have hid := parseIdentifier_rok h g
  have hidp := parseIdentifier_pay H g
  split
  · exact ResP.of_err
  · exact ResP.of_no
  · next s1 id heq =>
    obtain ⟨g1, hle1, _⟩ := hid.elim heq
    have hidok : NoStarEnd id := hidp.elim heq
    have hb1 : BOK E s1 (skipChar E 46 s1) := skipChar_bok h 46 g1
    refine .ite ?_ ?_
    · have hia := parseIdentifierAsterisk_pay H hb1.good
      split
      · exact ResP.of_err
      · next heq2 => exact ResP.of_ok (hia.elim heq2)
      · exact ResP.of_no
    · have hpar := skipEnclosedParentheses_xok h g1
      split
      · exact ResP.of_err
      · next s2 u heq2 =>
        obtain ⟨g2, hle2, _⟩ := hpar.elim heq2
        have hq := skipEnclosedParentheses_prev h H.decStar g1 heq2
        refine ResP.of_ok (.inr (noStarEnd_extract _ _ _ g2.pos_le ?_))
        show prevByte E s2 ≠ 42
        omega
      · exact ResP.of_ok (.inr hidok)

theorem parseTypeAndMember_pay (H : PayHyp E) {s : Sc} (g : Good E s) :
    ResP AccOK (parseTypeAndMember E s) := by
  have h := H.dec
  unfold parseTypeAndMember
  extract_lets identifierCol
  obtain ⟨hp1, _, _⟩ := parseTypeName_post h g
  split
  · next s1 id heq =>
    rw [heq] at hp1
    have g1 : Good E s1 := hp1.good
    refine .ite .of_err ?_
    have hia := parseIdentifierAsterisk_pay H (skipChar_bok h 46 g1).good
    split
    · exact ResP.of_err
    · exact ResP.of_err
    · next heq2 => exact ResP.of_ok (hia.elim heq2)
  · exact ResP.of_no

theorem parseTargetType_pay (H : PayHyp E) {s : Sc} (g : Good E s) :
    ResP AccOK (parseTargetType E s) := by
  have h := H.dec
  unfold parseTargetType
  refine .ite ?_ .of_no
  obtain ⟨hsl, _⟩ := parseSliceAccessor_rok h (skipChar_bok h 38 g).good
  split
  · exact ResP.of_err
  · exact ResP.of_err
  · next s1 heq =>
    obtain ⟨g1, _, _⟩ := hsl.elim heq
    have htm := parseTypeAndMember_pay H g1
    split
    · exact ResP.of_no
    · exact htm

theorem parseInputMemberAccessor_pay (H : PayHyp E) {s : Sc} (g : Good E s) :
    ResP AccOK (parseInputMemberAccessor E s) := by
  unfold parseInputMemberAccessor
  exact .ite (parseTypeAndMember_pay H (skipChar_bok H.dec 36 g).good) .of_no

theorem listLoop_pay (h : DecOK E) {α : Type} {P : α → Prop} {fn : Sc → Sc × Res α}
    (hfn : ∀ s, Good E s → ROK E s (fn s)) (hfp : ∀ s, Good E s → ResP P (fn s)) (cp : Sc)
    (f : Nat) (first : Bool) (acc : List α) (hacc : ∀ x ∈ acc, P x) {s : Sc} (g : Good E s) :
    ResP (fun xs => ∀ x ∈ xs, P x) (listLoop E fn cp f first acc s) := by
  induction f generalizing s first acc with
  | zero => unfold listLoop; exact ResP.of_err
  | succ f ih =>
    unfold listLoop
    extract_lets s1
    have hp1 : Post E s s1 := skipBlanks_post h g
    have hr := hfn s1 hp1.good
    have hrp := hfp s1 hp1.good
    split
    · next s2 x heq =>
      obtain ⟨g2, _, _⟩ := hr.elim heq
      have hx : P x := hrp.elim heq
      have hacc' : ∀ y ∈ acc ++ [x], P y :=
        List.forall_mem_append.2 ⟨hacc, List.forall_mem_singleton.2 hx⟩
      exact .ite (.of_ok hacc') (.ite
        (ih false _ hacc' (skipChar_bok h 44 (skipBlanks_post h g2).good).good) .of_err)
    · exact ResP.of_err
    · exact .ite .of_no .of_err

theorem parseList_pay (h : DecOK E) {α : Type} {P : α → Prop} {fn : Sc → Sc × Res α}
    (hfn : ∀ s, Good E s → ROK E s (fn s)) (hfp : ∀ s, Good E s → ResP P (fn s))
    {s : Sc} (g : Good E s) : ResP (fun xs => ∀ x ∈ xs, P x) (parseList E fn s) := by
  unfold parseList
  exact .ite (listLoop_pay h hfn hfp s _ true [] (List.forall_mem_nil _) (skipChar_bok h 40 g).good)
    .of_no

theorem parseColumns_pay (H : PayHyp E) {s : Sc} (g : Good E s) :
    ∀ cs b, (parseColumns E s).2 = some (cs, b) → ∀ c ∈ cs, ColOK c := by
  have h := H.dec
  unfold parseColumns
  have hc := parseColumnAccessor_rok h g
  have hcp := parseColumnAccessor_pay H g
  split
  · next s1 c heq =>
    intro cs b hx
    cases hx
    exact List.forall_mem_singleton.2 (hcp.elim heq)
  · next s1 res _ heq =>
    obtain ⟨g1, _, _⟩ := hc.elim heq
    have hl := parseList_pay h (fun s g => parseColumnAccessor_rok h g)
      (fun s g => parseColumnAccessor_pay H g) g1
    split
    · next s2 cs' heq2 =>
      intro cs b hx
      cases hx
      exact hl.elim heq2
    · intro cs b hx; cases hx

theorem parseTargetTypes_pay (H : PayHyp E) {s : Sc} (g : Good E s) :
    ResP (fun tb => ∀ t ∈ tb.1, AccOK t) (parseTargetTypes E s) := by
  have h := H.dec
  unfold parseTargetTypes
  have ht := (parseTargetType_xok h g).toROK
  have htp := parseTargetType_pay H g
  split
  · exact ResP.of_err
  · next s1 t heq =>
    exact ResP.of_ok (List.forall_mem_singleton.2 (htp.elim heq))
  · next heq =>
    obtain ⟨g1, _, _⟩ := ht.elim heq
    have hl := parseList_pay h (fun s g => (parseTargetType_xok h g).toROK)
      (fun s g => parseTargetType_pay H g) g1
    split
    · exact ResP.of_err
    · next heq2 => exact ResP.of_ok (hl.elim heq2)
    · exact ResP.of_no

theorem parseOutputExpr_pay (H : PayHyp E) {s : Sc} (g : Good E s) :
    ResP SegOK (parseOutputExpr E s) := by
  have h := H.dec
  unfold parseOutputExpr
  have ht := parseTargetType_xok h g
  have htp := parseTargetType_pay H g
  split
  · exact ResP.of_err
  · next heq => exact ResP.of_ok ⟨List.forall_mem_singleton.2 (htp.elim heq), List.forall_mem_nil _⟩
  · next cp heq =>
    have hcp : cp = s := ht.elim_no heq
    subst hcp
    have hpc := parseColumns_post h g
    have hpcp := parseColumns_pay H g
    split
    · exact ResP.of_no
    · next s2 cols parenCols heq2 =>
      rw [heq2] at hpc hpcp
      have g2 : Good E s2 := hpc.good
      have hcols : ∀ c ∈ cols, ColOK c := hpcp cols parenCols rfl
      extract_lets s3 r s4
      have hp3 : Post E s2 s3 := skipBlanks_post h g2
      have hb : BOK E s3 r := skipString_AS_bok hp3.good
      have hp4 : Post E r.1 s4 := skipBlanks_post h hb.good
      have htt := parseTargetTypes_pay H hp4.good
      refine .ite .of_no ?_
      split
      · exact ResP.of_err
      · exact ResP.of_no
      · next s5 types parenTypes heq3 =>
        have htypes : ∀ t ∈ types, AccOK t := htt.elim heq3
        refine .ite .of_err (.ite .of_err ?_)
        split
        · exact ResP.of_err
        · exact ResP.of_ok ⟨htypes, hcols⟩

theorem parseSliceInputExpr_pay {s : Sc} : ResP SegOK (parseSliceInputExpr E s) := by
  unfold parseSliceInputExpr
  refine .ite .of_no ?_
  split
  · exact ResP.of_err
  · exact ResP.of_ok ⟨List.forall_mem_singleton.2 (.inr noStarEnd_empty), List.forall_mem_nil _⟩
  · exact ResP.of_no

theorem parseMemberInputExpr_pay (H : PayHyp E) {s : Sc} (g : Good E s) :
    ResP SegOK (parseMemberInputExpr E s) := by
  unfold parseMemberInputExpr
  have hm := parseInputMemberAccessor_pay H g
  split
  · exact ResP.of_err
  · exact ResP.of_no
  · next heq => exact .ite .of_err (.of_ok ⟨List.forall_mem_singleton.2 (hm.elim heq), List.forall_mem_nil _⟩)

theorem parseComplexInsertValues_pay (H : PayHyp E) {s : Sc} (g : Good E s) :
    ResP (fun ts => ∀ t ∈ ts, AccOK t) (parseComplexInsertValues E s) := fun _ hts =>
  (parseList_pay H.dec (fun _ g => (parseInputMemberAccessor_sok H.dec g).toROK)
    (fun _ g => parseInputMemberAccessor_pay H g) g).elim (parseComplexInsertValues_ok (Prod.ext rfl hts))

theorem parseAsteriskInsertExpr_pay (H : PayHyp E) {s : Sc} (g : Good E s) :
    ResP SegOK (parseAsteriskInsertExpr E s) := by
  have h := H.dec
  unfold parseAsteriskInsertExpr
  extract_lets r1 r2 r3 r4
  have hb1 : BOK E s r1 := skipChar_bok h 40 g
  have hb2 : BOK E _ r2 := skipChar_bok h 42 (skipBlanks_post h hb1.good).good
  have hb3 : BOK E _ r3 := skipChar_bok h 41 (skipBlanks_post h hb2.good).good
  have hb4 : BOK E _ r4 := skipString_VALUES_bok (skipBlanks_post h hb3.good).good
  have hc := parseComplexInsertValues_pay H (skipBlanks_post h hb4.good).good
  refine .ite .of_no (.ite .of_no (.ite .of_no (.ite .of_no ?_)))
  split
  · next heq => exact ResP.of_ok ⟨hc.elim heq, List.forall_mem_nil _⟩
  · exact ResP.of_err
  · exact ResP.of_no

theorem parseInsertExpr_pay (H : PayHyp E) {s : Sc} (g : Good E s) :
    ResP SegOK (parseInsertExpr E s) := by
  have h := H.dec
  rw [parseInsertExpr_eq]
  have ha := parseAsteriskInsertExpr_eok h g
  have hap := parseAsteriskInsertExpr_pay H g
  split
  · exact ResP.of_err
  · next heq => exact ResP.of_ok (hap.elim heq)
  · next cp heq =>
    have hcp : cp = s := ha.elim_no heq
    subst hcp
    have hpc := parseColumns_post h g
    have hpcp := parseColumns_pay H g
    split
    · next s1 columns heq2 =>
      rw [heq2] at hpc hpcp
      have hcols : ∀ c ∈ columns, ColOK c := hpcp columns true rfl
      have hp2 := skipBlanks_post h (skipString_VALUES_bok (skipBlanks_post h hpc.good).good).good
      refine .ite .of_no fun seg hseg => ?_
      rcases insertTail_inv (Prod.ext rfl hseg) with ⟨srcs, hcv, _, rfl⟩ | ⟨vals, _, rfl⟩
      · exact ⟨(parseComplexInsertValues_pay H hp2.good).elim hcv, hcols⟩
      · exact ⟨List.forall_mem_nil _, hcols⟩
    · exact ResP.of_no

theorem parseInputExpr_pay (H : PayHyp E) {s : Sc} (g : Good E s) :
    ResP SegOK (parseInputExpr E s) := by
  intro seg hseg
  rcases parseInputExpr_ok_cases H.dec g (Prod.ext rfl hseg) with h1 | ⟨_, h2⟩ | ⟨_, _, h3⟩
  · exact parseSliceInputExpr_pay.elim h1
  · exact (parseMemberInputExpr_pay H g).elim h2
  · exact (parseInsertExpr_pay H g).elim h3

theorem SegOK.bypass (a b : Nat) : SegOK { kind := .bypass, a := a, b := b } :=
  ⟨List.forall_mem_nil _, List.forall_mem_nil _⟩

theorem parse_segOK (H : PayHyp E) {segs : List Seg} (hp : parse E = .ok segs) :
    ∀ s ∈ segs, SegOK s := by
  intro x hx
  rcases parse_nodes H.dec hp x hx with ⟨_, _, rfl⟩ | ⟨_, _, _, _, g1, _, _, _, _, ho | ⟨_, hi⟩⟩
  · exact SegOK.bypass _ _
  · exact (parseOutputExpr_pay H g1).elim ho
  · exact (parseInputExpr_pay H g1).elim hi

end

theorem SegOK.toOSeg {s : Seg} (h : SegOK s) (inp : Bytes) : NodeNoStarEnd (s.toOSeg inp) := h

theorem parse_nodeNoStarEnd (E : Env) (hd : DecOK E) (hs : DecStarOK E)
    (hC : E.letter 42 = false ∧ E.digit 42 = false) {segs : List Seg} (h : parse E = .ok segs) :
    ∀ s ∈ segs, NodeNoStarEnd (s.toOSeg E.inp) :=
  fun s hm => (parse_segOK ⟨hd, hs, hC⟩ h s hm).toOSeg E.inp

theorem parse_nodeNoStarEnd_decodeRune (inp : Bytes) (letter digit : Nat → Bool)
    (hC : letter 42 = false ∧ digit 42 = false) {segs : List Seg}
    (h : parse { inp := inp, dec := decodeRune, letter := letter, digit := digit } = .ok segs) :
    ∀ s ∈ segs, NodeNoStarEnd (s.toOSeg inp) :=
  parse_nodeNoStarEnd { inp := inp, dec := decodeRune, letter := letter, digit := digit }
    (decodeRune_DecOK inp letter digit) (decodeRune_DecStarOK inp letter digit) hC h

/-- end to end (C05.11): parse then bind — no output column of a typed expression is
    `*` or `t.*` -/
theorem parse_bindTypes_no_wildcard_decodeRune (inp : Bytes) {C : Cls}
    (hC : C.letter 42 = false ∧ C.digit 42 = false)
    {tt : TypeTable} {segs : List Seg} {samples : List (Option Nat)} {tes : List TExpr}
    (hp : parse { inp := inp, dec := decodeRune, letter := C.letter, digit := C.digit } = .ok segs)
    (hb : bindTypes C tt (segs.map (Seg.toOSeg inp)) samples = .ok tes) :
    ∀ cols, TExpr.output cols ∈ tes → ∀ c ∈ cols, c.1 ≠ star ∧ ∀ t, c.1 ≠ t ++ dot ++ star :=
  bindTypes_no_wildcard hC hb fun o ho => by
    obtain ⟨s, hm, rfl⟩ := List.mem_map.mp ho
    exact parse_nodeNoStarEnd_decodeRune inp C.letter C.digit hC hp s hm

namespace ParserNodesEx

def letter (c : Nat) : Bool := (65 ≤ c && c ≤ 90) || (97 ≤ c && c ≤ 122)
def digit (c : Nat) : Bool := 48 ≤ c && c ≤ 57
def cls : Cls := { letter := letter, digit := digit }
def env (inp : Bytes) : Env := { inp := inp, dec := decodeRune, letter := letter, digit := digit }

/-- `Except` has no `DecidableEq`; through `Option` the kernel alone evaluates the parser -/
theorem eq_ok_of_toOption {ε α : Type} {x : Except ε α} {a : α} (h : x.toOption = some a) :
    x = .ok a := by
  cases x <;> cases h; rfl

/-- `SELECT &T.* FROM t` -/
def q1 : Bytes := #[83, 69, 76, 69, 67, 84, 32, 38, 84, 46, 42, 32, 70, 82, 79, 77, 32, 116]

def segs1 : List Seg :=
  [{ kind := .bypass, a := 0, b := 7 },
   { kind := .output, a := 7, b := 11, types := [{ ty := #[84], member := star }] },
   { kind := .bypass, a := 11, b := 18 }]

theorem parse_q1 : parse (env q1) = .ok segs1 := eq_ok_of_toOption (by decide +kernel)

/-- the hypotheses of `parse_nodeNoStarEnd` are jointly satisfiable, with a successful parse -/
example : ∀ s ∈ segs1, NodeNoStarEnd (s.toOSeg q1) :=
  parse_nodeNoStarEnd (env q1) (decodeRune_DecOK q1 letter digit) (decodeRune_DecStarOK q1 letter digit)
    (by decide) parse_q1

/-- `SELECT count(*) AS &T.x FROM t`: a function-call column that contains `*` but ends
    with `)` -/
def q2 : Bytes := #[83, 69, 76, 69, 67, 84, 32, 99, 111, 117, 110, 116, 40, 42, 41, 32, 65, 83, 32,
  38, 84, 46, 120, 32, 70, 82, 79, 77, 32, 116]

example : parse (env q2) = .ok
    [{ kind := .bypass, a := 0, b := 7 },
     { kind := .output, a := 7, b := 23,
       cols := [{ table := #[], column := #[99, 111, 117, 110, 116, 40, 42, 41], func := true }],
       types := [{ ty := #[84], member := #[120] }] },
     { kind := .bypass, a := 23, b := 30 }] :=
  eq_ok_of_toOption (by decide +kernel)

/-- struct `T` with two string fields tagged `a` and `b` -/
def tt : TypeTable := #[
  { kind := .struct, kindStr := "struct", name := #[84],
    fields := [{ name := #[65], tag := #[97], exported := true, anon := false, ty := 1 },
               { name := #[66], tag := #[98], exported := true, anon := false, ty := 1 }] },
  { kind := .string, kindStr := "string", name := #[] }]

def outNames : TExpr → List Bytes
  | .output cols => cols.map (·.1)
  | _ => []

/-- end to end, non-vacuous: `SELECT &T.* FROM t` parses, binds against `T`, and the output
    node generates the columns `a`, `b` -/
example : ((parse (env q1)).toOption.bind fun segs =>
    (bindTypes cls tt (segs.map (Seg.toOSeg q1)) [some 0]).toOption.map (·.map outNames)) =
    some [[], [#[97], #[98]], []] := by rw [parse_q1]; decide +kernel

/-- `SELECT &T.a* FROM t` -/
def q3 : Bytes := #[83, 69, 76, 69, 67, 84, 32, 38, 84, 46, 97, 42, 32, 70, 82, 79, 77, 32, 116]

/-- the classifier hypothesis is needed: if `*` is classed as a letter, the member of
    `&T.a*` is the name `a*`, which ends with `*` -/
example : parse { env q3 with letter := fun c => letter c || c == 42 } = .ok
    [{ kind := .bypass, a := 0, b := 7 },
     { kind := .output, a := 7, b := 12, types := [{ ty := #[84], member := #[97, 42] }] },
     { kind := .bypass, a := 12, b := 19 }] :=
  eq_ok_of_toOption (by decide +kernel)

/-- with the honest classifier the name stops before the `*` -/
example : parse (env q3) = .ok
    [{ kind := .bypass, a := 0, b := 7 },
     { kind := .output, a := 7, b := 11, types := [{ ty := #[84], member := #[97] }] },
     { kind := .bypass, a := 11, b := 19 }] :=
  eq_ok_of_toOption (by decide +kernel)

end ParserNodesEx

end Sqlair
