/-
  The tuples and parameters emitted by `addInsert`, as functions of the bound
  columns; the numbering lemmas (bounds, placeholder/parameter correspondence, no
  duplicates) of an INSERT expansion.
-/
import SqlairProofs.Bind.Insert
namespace Sqlair

def insRows (bcs : List BCol) (numRows : Nat) : List (List Cell) :=
  (List.range numRows).map fun r => (keptCols bcs).map (·.cellAt r)

def insParams (bcs : List BCol) (numRows : Nat) : List (Nat × String) :=
  (List.range numRows).flatMap fun r => (keptCols bcs).filterMap (·.paramAt r)

def insNames (bcs : List BCol) : List Bytes := (keptCols bcs).map (·.column)

theorem insRows_length (bcs : List BCol) (numRows : Nat) : (insRows bcs numRows).length = numRows := by
  rw [insRows, List.length_map, List.length_range]

theorem insRows_getElem? (bcs : List BCol) {numRows r : Nat} (h : r < numRows) :
    (insRows bcs numRows)[r]? = some ((keptCols bcs).map (·.cellAt r)) := by
  rw [insRows, List.getElem?_map, List.getElem?_range h]; rfl

theorem addInsert_spec {qb qb' : QB} {bcs : List BCol} {numRows : Nat}
    (h : addInsert qb bcs numRows = .ok qb') :
    qb' = { qb with params := qb.params ++ insParams bcs numRows,
                    pieces := qb.pieces ++ [.insert (insNames bcs) (insRows bcs numRows)] } := by
  unfold addInsert at h
  split at h
  · cases h
  · rename_i rows ps hr
    cases ((insertRows_ok_iff _).1 hr).2
    cases h
    rfl

theorem Cell.mem_phs {c : Cell} {n : Nat} : n ∈ c.phs ↔ c = .ph n := by
  cases c <;> simp [Cell.phs, eq_comm]

theorem mem_phs_insRows {bcs : List BCol} {numRows n : Nat} {names : List Bytes} :
    n ∈ (Piece.insert names (insRows bcs numRows)).phs ↔
      ∃ r, r < numRows ∧ ∃ bc ∈ bcs, bc.om = false ∧ bc.cellAt r = .ph n := by
  simp only [Piece.phs, insRows, List.mem_flatMap, List.mem_map, List.mem_range, Cell.mem_phs]
  constructor
  · rintro ⟨_, ⟨r, hr, rfl⟩, _, hc, rfl⟩
    rw [List.mem_map] at hc
    obtain ⟨bc, hbc, hcell⟩ := hc
    rw [mem_keptCols] at hbc
    exact ⟨r, hr, bc, hbc.1, hbc.2, hcell⟩
  · rintro ⟨r, hr, bc, hbc, hom, hc⟩
    exact ⟨_, ⟨r, hr, rfl⟩, _, List.mem_map.2 ⟨bc, mem_keptCols.2 ⟨hbc, hom⟩, hc⟩, rfl⟩

theorem mem_insParams {bcs : List BCol} {numRows : Nat} {p : Nat × String} :
    p ∈ insParams bcs numRows ↔
      ∃ r, r < numRows ∧ ∃ bc ∈ bcs, bc.om = false ∧ bc.paramAt r = some p := by
  simp only [insParams, List.mem_flatMap, List.mem_filterMap, List.mem_range, mem_keptCols, and_assoc]

theorem BChain.ranges : ∀ {bcs : List BCol} {c0 : Nat}, BChain c0 bcs →
    ∀ bc ∈ bcs, bc.width ≠ 0 → c0 ≤ bc.first ∧ bc.first + bc.width ≤ bcsEnd c0 bcs := by
  intro bcs
  induction bcs with
  | nil => intro c0 _ bc hbc; cases hbc
  | cons b rest ih =>
    intro c0 h bc hbc hw
    obtain ⟨h1, h2⟩ := h
    rw [bcsEnd_cons]
    rcases List.mem_cons.1 hbc with rfl | hbc
    · rw [h1 hw]; exact ⟨Nat.le_refl _, le_bcsEnd _ _⟩
    · obtain ⟨hlo, hhi⟩ := ih h2 bc hbc hw
      exact ⟨Nat.le_trans (Nat.le_add_right _ _) hlo, hhi⟩

theorem BChain.pairwise : ∀ {bcs : List BCol} {c0 : Nat}, BChain c0 bcs →
    bcs.Pairwise (fun a b => a.width ≠ 0 → b.width ≠ 0 → a.first + a.width ≤ b.first) := by
  intro bcs
  induction bcs with
  | nil => intro _ _; exact List.Pairwise.nil
  | cons b rest ih =>
    intro c0 h
    obtain ⟨h1, h2⟩ := h
    refine List.Pairwise.cons ?_ (ih h2)
    intro b' hb' hw hw'
    have := (BChain.ranges h2 b' hb' hw').1
    rw [h1 hw]; exact this

theorem pairwise_mem_cases {α : Type} {R : α → α → Prop} {l : List α} (h : l.Pairwise R)
    {a b : α} (ha : a ∈ l) (hb : b ∈ l) : a = b ∨ R a b ∨ R b a := by
  induction h with
  | nil => cases ha
  | cons hhd _ ih =>
    rcases List.mem_cons.1 ha with ha' | ha' <;> rcases List.mem_cons.1 hb with hb' | hb'
    · exact Or.inl (ha'.trans hb'.symm)
    · exact Or.inr (Or.inl (ha' ▸ hhd _ hb'))
    · exact Or.inr (Or.inr (hb' ▸ hhd _ ha'))
    · exact ih ha' hb'

/-- what a successful `bindCols` guarantees of its bound columns (`bindCols_spec`, `bindCols_shape`) -/
structure BColsOK (c0 : Nat) (bcs : List BCol) (numRows : Nat) : Prop where
  chain : BChain c0 bcs
  shape : ∀ bc ∈ bcs, bc.om = false → bc.vals.length ≤ 1 ∨ bc.vals.length = numRows

theorem BCol.width_of_not_om {bc : BCol} (h : bc.om = false) : bc.width = bc.vals.length := by
  simp [BCol.width, h]

theorem BCol.cellAt_ph_iff {bc : BCol} {numRows n : Nat} (hom : bc.om = false)
    (hs : bc.vals.length ≤ 1 ∨ bc.vals.length = numRows) (hpos : 1 ≤ numRows) :
    (∃ r, r < numRows ∧ bc.cellAt r = .ph n) ↔ bc.first ≤ n ∧ n < bc.first + bc.width := by
  rw [BCol.width_of_not_om hom]
  constructor
  · rintro ⟨r, hr, hc⟩
    rcases BCol.cellAt_ph hc with ⟨h1, rfl⟩ | ⟨h2, rfl⟩
    · exact ⟨Nat.le_refl _, by rw [h1]; exact Nat.lt_add_one _⟩
    · have hlen : bc.vals.length = numRows := hs.resolve_left (Nat.not_le_of_lt h2)
      exact ⟨Nat.le_add_right _ _, Nat.add_lt_add_left (hlen ▸ hr) _⟩
  · rintro ⟨hlo, hhi⟩
    obtain ⟨k, rfl⟩ := Nat.exists_eq_add_of_le hlo
    have hk : k < bc.vals.length := Nat.lt_of_add_lt_add_left hhi
    exact ⟨k, hs.elim (fun h1 => by omega) (· ▸ hk), BCol.cellAt_of_lt hk⟩

theorem insert_phs_bounds {c0 numRows : Nat} {bcs : List BCol} (ok : BColsOK c0 bcs numRows)
    {names : List Bytes} {n : Nat} (hn : n ∈ (Piece.insert names (insRows bcs numRows)).phs) :
    c0 ≤ n ∧ n < bcsEnd c0 bcs := by
  obtain ⟨r, hr, bc, hbc, hom, hc⟩ := mem_phs_insRows.1 hn
  obtain ⟨hlo, hhi⟩ :=
    (BCol.cellAt_ph_iff hom (ok.shape bc hbc hom) (Nat.zero_lt_of_lt hr)).1 ⟨r, hr, hc⟩
  obtain ⟨h1, h2⟩ := ok.chain.ranges bc hbc
    fun h0 => by rw [h0] at hhi; exact Nat.not_lt_of_le hlo hhi
  exact ⟨Nat.le_trans h1 hlo, Nat.lt_of_lt_of_le hhi h2⟩

theorem insert_phs_iff_params {c0 numRows : Nat} {bcs : List BCol} (ok : BColsOK c0 bcs numRows)
    {names : List Bytes} (n : Nat) :
    n ∈ (Piece.insert names (insRows bcs numRows)).phs ↔ n ∈ (insParams bcs numRows).map (·.1) := by
  rw [mem_phs_insRows, List.mem_map]
  constructor
  · rintro ⟨r, hr, bc, hbc, hom, hc⟩
    -- a single value is emitted in row 0, a bulk value in its own row
    have : ∃ r', r' < numRows ∧ r' < bc.vals.length ∧ n = bc.first + r' := by
      rcases BCol.cellAt_ph hc with ⟨h1, rfl⟩ | ⟨h2, rfl⟩
      · exact ⟨0, Nat.zero_lt_of_lt hr, by rw [h1]; exact Nat.one_pos, rfl⟩
      · exact ⟨r, hr, ((ok.shape bc hbc hom).resolve_left (Nat.not_le_of_lt h2)).symm ▸ hr, rfl⟩
    obtain ⟨r', hr', hlt, rfl⟩ := this
    exact ⟨_, mem_insParams.2 ⟨r', hr', bc, hbc, hom,
      BCol.paramAt_eq_some.2 ⟨rfl, List.getElem?_eq_getElem hlt⟩⟩, rfl⟩
  · rintro ⟨⟨n', v⟩, hp, rfl⟩
    obtain ⟨r, hr, bc, hbc, hom, hp⟩ := mem_insParams.1 hp
    obtain ⟨rfl, hv⟩ := BCol.paramAt_eq_some.1 hp
    have hlt := (List.getElem?_eq_some_iff.1 hv).1
    exact ⟨r, hr, bc, hbc, hom, BCol.cellAt_of_lt hlt⟩

theorem BCol.paramAt_range {bc : BCol} {r n : Nat} {v : String} (hom : bc.om = false)
    (h : bc.paramAt r = some (n, v)) : bc.width ≠ 0 ∧ bc.first ≤ n ∧ n < bc.first + bc.width := by
  obtain ⟨rfl, hv⟩ := BCol.paramAt_eq_some.1 h
  obtain ⟨hr, _⟩ := List.getElem?_eq_some_iff.1 hv
  rw [BCol.width_of_not_om hom]
  exact ⟨Nat.ne_of_gt (Nat.zero_lt_of_lt hr), Nat.le_add_right _ _, Nat.add_lt_add_left hr _⟩

theorem insParams_nodup {c0 numRows : Nat} {bcs : List BCol} (ok : BColsOK c0 bcs numRows) :
    ((insParams bcs numRows).map (·.1)).Nodup := by
  have hpw := ok.chain.pairwise
  unfold insParams
  rw [List.map_flatMap]
  unfold List.Nodup
  rw [List.pairwise_flatMap]
  constructor
  · intro r _
    rw [List.map_filterMap, List.pairwise_filterMap]
    have hk : (keptCols bcs).Pairwise (fun a b => a.width ≠ 0 → b.width ≠ 0 → a.first + a.width ≤ b.first) :=
      hpw.filter _
    refine List.Pairwise.imp_of_mem ?_ hk
    intro a b ha hb hab x hx y hy
    simp only [Option.map_eq_some_iff] at hx hy
    obtain ⟨⟨n1, v1⟩, hx, rfl⟩ := hx
    obtain ⟨⟨n2, v2⟩, hy, rfl⟩ := hy
    have h1 := BCol.paramAt_range (mem_keptCols.1 ha).2 hx
    have h2 := BCol.paramAt_range (mem_keptCols.1 hb).2 hy
    exact Nat.ne_of_lt (Nat.lt_of_lt_of_le h1.2.2 (Nat.le_trans (hab h1.1 h2.1) h2.2.1))
  · refine List.Pairwise.imp ?_ List.pairwise_lt_range
    intro r r' hrr x hx y hy
    simp only [List.mem_map, List.mem_filterMap] at hx hy
    obtain ⟨⟨n1, v1⟩, ⟨a, ha, hx⟩, rfl⟩ := hx
    obtain ⟨⟨n2, v2⟩, ⟨b, hb, hy⟩, rfl⟩ := hy
    rw [mem_keptCols] at ha hb
    have h1 := BCol.paramAt_range ha.2 hx
    have h2 := BCol.paramAt_range hb.2 hy
    rcases pairwise_mem_cases hpw ha.1 hb.1 with rfl | h | h
    · -- the same column: the number determines the row
      rw [(BCol.paramAt_eq_some.1 hx).1, (BCol.paramAt_eq_some.1 hy).1]
      exact Nat.ne_of_lt (Nat.add_lt_add_left hrr _)
    · exact Nat.ne_of_lt (Nat.lt_of_lt_of_le h1.2.2 (Nat.le_trans (h h1.1 h2.1) h2.2.1))
    · exact Nat.ne_of_gt (Nat.lt_of_lt_of_le h2.2.2 (Nat.le_trans (h h2.1 h1.1) h1.2.1))

theorem BChain.cover : ∀ {bcs : List BCol} {c0 : Nat}, BChain c0 bcs → ∀ n, c0 ≤ n → n < bcsEnd c0 bcs →
    ∃ bc ∈ bcs, bc.width ≠ 0 ∧ bc.first ≤ n ∧ n < bc.first + bc.width := by
  intro bcs
  induction bcs with
  | nil => intro c0 _ n h1 h2; exact absurd h2 (Nat.not_lt_of_le h1)
  | cons b rest ih =>
    intro c0 h n h1 h2
    obtain ⟨hb, hrest⟩ := h
    rw [bcsEnd_cons] at h2
    rcases Nat.lt_or_ge n (c0 + b.width) with hlt | hge
    · have hw : b.width ≠ 0 := fun h0 => by rw [h0] at hlt; exact Nat.not_lt_of_le h1 hlt
      exact ⟨b, List.mem_cons_self, hw, by rw [hb hw]; exact h1, by rw [hb hw]; exact hlt⟩
    · obtain ⟨bc, hbc, h⟩ := ih hrest n hge h2
      exact ⟨bc, List.mem_cons_of_mem _ hbc, h⟩

theorem insert_phs_cover {c0 numRows : Nat} {bcs : List BCol} (ok : BColsOK c0 bcs numRows)
    (hpos : 1 ≤ numRows) {names : List Bytes} {n : Nat} (h1 : c0 ≤ n) (h2 : n < bcsEnd c0 bcs) :
    n ∈ (Piece.insert names (insRows bcs numRows)).phs := by
  obtain ⟨bc, hbc, hw, hlo, hhi⟩ := ok.chain.cover n h1 h2
  have hom : bc.om = false := by
    cases h : bc.om
    · rfl
    · simp [BCol.width, h] at hw
  obtain ⟨r, hr, hc⟩ := (BCol.cellAt_ph_iff hom (ok.shape bc hbc hom) hpos).2 ⟨hlo, hhi⟩
  exact mem_phs_insRows.2 ⟨r, hr, bc, hbc, hom, hc⟩

theorem insRows_rect (bcs : List BCol) (numRows : Nat) :
    ∀ r ∈ insRows bcs numRows, r.length = (insNames bcs).length := by
  intro r hr
  simp only [insRows, List.mem_map] at hr
  obtain ⟨_, _, rfl⟩ := hr
  simp [insNames]

end Sqlair
