/-
  E2E/NodeShape: the nodes the parser produces carry type names only where their kind says:
  a basic insert in its values, every other expression in its `types`, a bypass node nowhere.
  So `OSeg.typeNames` is every type name occurring in a parsed node.  The main loop is walked here a second time
  (`parseLoop_shape`) and not through `parseLoop_rule` (Parser/Main.lean): that one also shows that the fuel suffices,
  hence its `DecOK E`, while the shape of the nodes holds for every environment, as `parse_bindTypes_ok_imp`
  (Props/E2E.lean) needs it.
-/
import SqlairProofs.Parser.Main
import SqlairProofs.E2E.Uses

namespace Sqlair

def SegShape (s : Seg) : Prop :=
  (s.kind = .bypass → s.types = [] ∧ s.vals = []) ∧ (s.kind = .basicInsert → s.types = []) ∧
  (s.kind ≠ .basicInsert → s.vals = [])

section
variable {E : Env} {s : Sc}

theorem SegShape.of_novals {k : SegKind} {a b : Nat} {cols : List Col} {types : List Acc}
    (h1 : k ≠ .bypass) (h2 : k ≠ .basicInsert) :
    SegShape { kind := k, a := a, b := b, cols := cols, types := types } :=
  ⟨fun h => absurd h h1, fun h => absurd h h2, fun _ => rfl⟩

theorem parseOutputExpr_shape : ResP SegShape (parseOutputExpr E s) := by
  unfold parseOutputExpr
  generalize parseTargetType E s = r
  obtain ⟨s1, _ | _ | _⟩ := r
  · exact .of_ok (.of_novals nofun nofun)
  · dsimp only
    generalize parseColumns E s1 = r
    obtain ⟨s2, _ | ⟨cols, parenCols⟩⟩ := r
    · exact .of_no
    · refine .ite .of_no ?_
      generalize parseTargetTypes E _ = r
      obtain ⟨s5, _ | _ | _⟩ := r
      · refine .ite .of_err <| .ite .of_err ?_
        split
        · exact .of_err
        · exact .of_ok (.of_novals nofun nofun)
      · exact .of_no
      · exact .of_err
  · exact .of_err

theorem parseSliceInputExpr_shape : ResP SegShape (parseSliceInputExpr E s) := by
  unfold parseSliceInputExpr
  refine .ite .of_no ?_
  generalize parseSliceAccessor E _ = r
  obtain ⟨s1, _ | _ | _⟩ := r
  · exact .of_ok (.of_novals nofun nofun)
  · exact .of_no
  · exact .of_err

theorem parseMemberInputExpr_shape : ResP SegShape (parseMemberInputExpr E s) := by
  unfold parseMemberInputExpr
  generalize parseInputMemberAccessor E s = r
  obtain ⟨s1, _ | _ | _⟩ := r
  · exact .ite .of_err <| .of_ok (.of_novals nofun nofun)
  · exact .of_no
  · exact .of_err

theorem parseAsteriskInsertExpr_shape : ResP SegShape (parseAsteriskInsertExpr E s) := by
  unfold parseAsteriskInsertExpr
  refine .ite .of_no <| .ite .of_no <| .ite .of_no <| .ite .of_no ?_
  generalize parseComplexInsertValues E _ = r
  obtain ⟨s1, _ | _ | _⟩ := r
  · exact .of_ok (.of_novals nofun nofun)
  · exact .of_no
  · exact .of_err

theorem parseInsertExpr_shape : ResP SegShape (parseInsertExpr E s) := by
  unfold parseInsertExpr
  split
  · exact ResP.of_err
  · next heq => exact ResP.of_ok (parseAsteriskInsertExpr_shape.elim heq)
  · split
    · extract_lets r colcp complex
      split
      · exact ResP.of_no
      clear_value complex
      split
      · exact ResP.of_ok (.of_novals nofun nofun)
      · split
        · exact ResP.of_err
        · exact ResP.of_ok ⟨(by intro hk; cases hk), fun _ => rfl, fun hk => absurd rfl hk⟩
        · exact ResP.of_no
    · exact ResP.of_no

theorem parseInputExpr_shape : ResP SegShape (parseInputExpr E s) := by
  unfold parseInputExpr
  split
  · exact ResP.of_err
  · next heq => exact ResP.of_ok (parseSliceInputExpr_shape.elim heq)
  · split
    · exact ResP.of_err
    · next heq => exact ResP.of_ok (parseMemberInputExpr_shape.elim heq)
    · exact parseInsertExpr_shape

theorem SegShape.bypass (a b : Nat) : SegShape { kind := .bypass, a := a, b := b } :=
  ⟨fun _ => ⟨rfl, rfl⟩, fun _ => rfl, fun _ => rfl⟩

theorem parseLoop_shape (f : Nat) {st st' : PS} (hall : ∀ x ∈ st.exprs, SegShape x)
    (hl : parseLoop E f st = .ok st') : ∀ x ∈ st'.exprs, SegShape x := by
  induction f generalizing st with
  | zero => unfold parseLoop at hl; cases hl
  | succ f ih =>
    unfold parseLoop at hl
    split at hl
    · cases hl
    · next sc1 heq =>
      simp only [] at hl
      split at hl
      · cases hl; exact hall
      · split at hl
        · cases hl
        · next sc2 seg heq2 =>
          refine ih ?_ hl
          exact PS.add_forall (st := { st with sc := sc2, currentExprStart := sc1.pos }) hall SegShape.bypass (some seg)
            (fun x hx => by cases hx; exact parseOutputExpr_shape.elim heq2)
        · next sc2 heq2 =>
          split at hl
          · cases hl
          · next sc3 seg heq3 =>
            refine ih ?_ hl
            exact PS.add_forall (st := { st with sc := sc3, currentExprStart := sc1.pos }) hall SegShape.bypass
              (some seg)
              (fun x hx => by cases hx; exact parseInputExpr_shape.elim heq3)
          · next sc3 heq3 => exact ih (st := { st with sc := advanceChar E sc3, currentExprStart := sc1.pos }) hall hl

theorem parse_shape {segs : List Seg} (hp : parse E = .ok segs) : ∀ s ∈ segs, SegShape s := by
  unfold parse at hp
  split at hp
  · cases hp
  · next st heq =>
    cases hp
    exact PS.add_forall (parseLoop_shape _ (by intro x hx; cases hx) heq) SegShape.bypass none (fun _ hx => by cases hx)

end

def OSeg.allTypeNames (s : OSeg) : List Bytes := s.types.map (·.ty) ++ s.vals.filterMap valTy

theorem SegShape.typeNames_eq {s : Seg} (h : SegShape s) (inp : Bytes) :
    (s.toOSeg inp).typeNames = (s.toOSeg inp).allTypeNames := by
  unfold OSeg.typeNames OSeg.allTypeNames
  obtain ⟨h1, h2, h3⟩ := h
  simp only [Seg.toOSeg]
  cases hk : s.kind <;> simp only []
  · obtain ⟨a, b⟩ := h1 hk; simp [a, b]
  case basicInsert => rw [h2 hk]; simp
  all_goals (rw [h3 (by rw [hk]; intro hh; cases hh)]; simp)

end Sqlair
