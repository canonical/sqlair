/-
  E2E/Nodes: nodes, typed expressions and SQL pieces correspond one to one (`Corr`, Basics): `NodeTyped` (Bind/Resolve)
  relates a node to its typed expression, `ExprPiece` a typed expression to the piece it expands to, and `NodePiece` is
  their composition kind by kind (the bind-layer half of C01 end to end).  Also what the binder does on bypass nodes,
  for the statements about plain SQL and about a single expression between bypass chunks.
-/
import SqlairProofs.Bind.Tag
import SqlairProofs.Bind.Fold
import SqlairProofs.Bind.Resolve

namespace Sqlair

variable {C : Cls} {tt : TypeTable} {m : TypeToValue} {segs : List OSeg} {samples : List (Option Nat)}
    {tes : List TExpr} {args : List GoVal} {pq : Primed}

def NodeExpr (s : OSeg) (e : TExpr) : Prop :=
  match s.kind with
  | .bypass => e = .bypass s.raw
  | .member | .slice => ∃ l, e = .input l
  | .astInsert | .colInsert | .basicInsert => ∃ cols, e = .insert cols
  | .output => ∃ cols, e = .output cols

/-- a member input is one placeholder: the count is kept for L2Sound/Exact, `NodeExpr.piece` drops it -/
def ExprPiece (e : TExpr) (p : Piece) : Prop :=
  match e with
  | .bypass chunk => p = .text chunk
  | .input l => ∃ first num, p = .inputs first num ∧ (l.nonSlice → num = 1)
  | .insert _ => ∃ names rows, p = .insert names rows
  | .output cols => ∃ first, p = .outputs first (cols.map (·.1))

def NodePiece (k : SegKind) (raw : Bytes) (p : Piece) : Prop :=
  match k with
  | .bypass => p = .text raw
  | .member | .slice => ∃ first num, p = .inputs first num
  | .astInsert | .colInsert | .basicInsert => ∃ names rows, p = .insert names rows
  | .output => ∃ first cols, p = .outputs first cols

def Piece.isText : Piece → Bool
  | .text _ => true
  | _ => false

theorem NodePiece.bypass {raw : Bytes} {p : Piece} (h : NodePiece .bypass raw p) : p = .text raw := h

theorem NodePiece.not_text {k : SegKind} {raw : Bytes} {p : Piece} (h : NodePiece k raw p)
    (hk : k ≠ .bypass) : p.isText = false := by
  cases k <;> simp only [NodePiece] at h
  case bypass => exact absurd rfl hk
  all_goals (obtain ⟨_, _, rfl⟩ := h; rfl)

theorem NodeExpr.piece {s : OSeg} {e : TExpr} {p : Piece} (h1 : NodeExpr s e) (h2 : ExprPiece e p) :
    NodePiece s.kind s.raw p := by
  unfold NodeExpr at h1
  unfold NodePiece
  cases hk : s.kind <;> simp only [hk] at h1 ⊢
  case bypass => subst h1; exact h2
  case output => obtain ⟨cols, rfl⟩ := h1; obtain ⟨f, hf⟩ := h2; exact ⟨f, _, hf⟩
  case member | slice => obtain ⟨_, rfl⟩ := h1; obtain ⟨f, n, rfl, _⟩ := h2; exact ⟨f, n, rfl⟩
  all_goals (obtain ⟨_, rfl⟩ := h1; exact h2)

section
variable {infos : List (Bytes × ArgInfo)} {s : OSeg} {e : TExpr}

theorem NodeTyped.member_nonSlice (h : NodeTyped infos s e) (hk : s.kind = .member) :
    ∃ l, e = .input l ∧ l.nonSlice := by
  obtain ⟨a, l, _, hl, rfl⟩ := h.member hk
  obtain ⟨_, _, hg⟩ := memberRes_ok.1 hl
  exact ⟨l, rfl, getMember_nonSlice hg⟩

theorem NodeTyped.lits (h : NodeTyped infos s e) (hk : s.kind = .basicInsert) :
    ∃ cols, e = .insert cols ∧ ∀ b, Val.lit b ∈ s.vals → ∃ c, TCol.literal c b ∈ cols := by
  obtain ⟨hlen, rs, hm, rfl⟩ := h.basicInsert hk
  refine ⟨_, rfl, fun b hb => ?_⟩
  obtain ⟨i, hi, hvi⟩ := List.getElem_of_mem hb
  have hz : (s.cols[i]'(hlen ▸ hi), Val.lit b) ∈ s.cols.zip s.vals := by
    rw [List.mem_iff_getElem]
    exact ⟨i, by rw [List.length_zip]; omega, by rw [List.getElem_zip, hvi]⟩
  obtain ⟨r, hr, hbr⟩ := (mapM_ok_iff.1 hm).mem hz
  cases hbr
  exact ⟨_, List.mem_flatMap.2 ⟨_, hr, List.mem_singleton.2 rfl⟩⟩

theorem NodeTyped.nodeExpr (h : NodeTyped infos s e) : NodeExpr s e := by
  unfold NodeExpr
  cases hk : s.kind <;> simp only []
  case bypass => exact h.bypass hk
  case member => obtain ⟨_, l, _, _, he⟩ := h.member hk; exact ⟨l, he⟩
  case slice => obtain ⟨_, l, _, _, he⟩ := h.slice hk; exact ⟨l, he⟩
  case astInsert => obtain ⟨_, _, he⟩ := h.astInsert hk; exact ⟨_, he⟩
  case colInsert => obtain ⟨_, _, _, _, he⟩ := h.colInsert hk; exact ⟨_, he⟩
  case basicInsert => obtain ⟨_, _, _, he⟩ := h.basicInsert hk; exact ⟨_, he⟩
  case output =>
    rcases h.output hk with ⟨_, _, _, he⟩ | ⟨_, _, _, _, _, he⟩ | ⟨_, _, _, _, he⟩ <;> exact ⟨_, he⟩

end

theorem bindSegs_typed {st st' : TEB} (h : bindSegs st segs = .ok st') :
    ∃ new, st'.exprs = st.exprs ++ new ∧ Corr (NodeTyped st.argInfos) segs new :=
  foldlM_except_corr TEB.exprs TEB.argInfos (R := NodeTyped)
    (fun hs => ⟨bindSeg_argInfos hs, bindSeg_typed hs⟩) (bindSegs_eq_foldlM segs st ▸ h)

theorem bindTypes_typed (h : bindTypes C tt segs samples = .ok tes) :
    ∃ infos, generateArgInfo C tt samples [] = .ok infos ∧ Corr (NodeTyped infos) segs tes := by
  obtain ⟨infos, st, hg, hs, _, rfl⟩ := bindTypes_ok_iff.1 h
  obtain ⟨new, hnew, hc⟩ := bindSegs_typed hs
  exact ⟨infos, hg, (List.nil_append new ▸ hnew) ▸ hc⟩

theorem bindTypes_exprs (h : bindTypes C tt segs samples = .ok tes) : Corr NodeExpr segs tes :=
  let ⟨_, _, hc⟩ := bindTypes_typed h
  hc.imp fun _ _ => NodeTyped.nodeExpr

theorem addToQuery_piece {qb qb' : QB} {te : TExpr}
    (h : addToQuery tt m qb te = .ok qb') : ∃ p, qb'.pieces = qb.pieces ++ [p] ∧ ExprPiece te p := by
  cases te with
  | bypass chunk => cases h; exact ⟨_, rfl, rfl⟩
  | input loc =>
    obtain ⟨p, hs⟩ := addToQuery_input_spec h
    exact ⟨_, hs.pieces, _, _, rfl, locateParams_single hs.located hs.not_bulk⟩
  | insert cols =>
    obtain ⟨bcs, numRows, hs⟩ := addToQuery_insert_spec h
    exact ⟨_, hs.pieces, _, _, rfl⟩
  | output cols => cases h; exact ⟨_, rfl, _, rfl⟩

theorem bindInputs_pieces (h : bindInputs tt tes args = .ok pq) : Corr ExprPiece tes pq.pieces := by
  obtain ⟨m, qb, _, hq, _, rfl⟩ := bindInputs_ok_unfold h
  obtain ⟨ps, hps, hc⟩ := foldlM_except_corr QB.pieces (fun _ => ()) (R := fun _ => ExprPiece)
    (fun hs => ⟨rfl, addToQuery_piece hs⟩) hq
  rw [show qb.pieces = ps from hps]; exact hc

theorem bind_pieces (hp : bindTypes C tt segs samples = .ok tes) (hq : bindInputs tt tes args = .ok pq) :
    Corr (fun s p => NodePiece s.kind s.raw p) segs pq.pieces :=
  Corr.trans (R := NodeExpr) (S := ExprPiece) (fun _ _ _ => NodeExpr.piece) (bindTypes_exprs hp)
    (bindInputs_pieces hq)

/-! ### bypass nodes -/

theorem bindSeg_bypass_ok {st : TEB} {x : OSeg} (hx : x.kind = .bypass) :
    bindSeg st x = .ok (st.add (.bypass x.raw)) := by
  unfold bindSeg
  rw [hx]

theorem bindSegs_all_bypass : ∀ (segs : List OSeg) (st : TEB), (∀ s ∈ segs, s.kind = .bypass) →
    bindSegs st segs = .ok { st with exprs := st.exprs ++ (segs.map (·.raw)).map TExpr.bypass } := by
  intro segs
  induction segs with
  | nil => intro st _; simp [bindSegs]
  | cons s rest ih =>
    intro st h
    rw [bindSegs_cons, bindSeg_bypass_ok (h s List.mem_cons_self), bind_ok,
      ih _ (fun s' hs' => h s' (List.mem_cons_of_mem _ hs'))]
    simp [TEB.add]

theorem bindSegs_single {segs : List OSeg} {s : OSeg} {st st' : TEB}
    (hf : segs.filter (·.kind != .bypass) = [s]) (h : bindSegs st segs = .ok st') :
    ∃ (pre post : List Bytes) (st1 st2 : TEB), st1.argInfos = st.argInfos ∧
      st1.exprs = st.exprs ++ pre.map .bypass ∧ bindSeg st1 s = .ok st2 ∧
      st'.exprs = st2.exprs ++ post.map .bypass := by
  induction segs generalizing st with
  | nil => simp at hf
  | cons x rest ih =>
    by_cases hx : x.kind = .bypass
    · rw [List.filter_cons_of_neg (by simp [hx])] at hf
      rw [bindSegs_cons, bindSeg_bypass_ok hx, bind_ok] at h
      obtain ⟨pre, post, st1, st2, h3, h4, h5, h6⟩ := ih hf h
      exact ⟨x.raw :: pre, post, st1, st2, h3, by rw [h4]; simp [TEB.add], h5, h6⟩
    · rw [List.filter_cons_of_pos (by simpa using hx), List.cons.injEq] at hf
      obtain ⟨rfl, hrest⟩ := hf
      rw [bindSegs_cons] at h
      obtain ⟨st2, hs, h⟩ := bind_ok_inv h
      rw [bindSegs_all_bypass rest st2
        (fun y hy => by simpa using List.filter_eq_nil_iff.1 hrest y hy)] at h
      cases h
      exact ⟨[], rest.map (·.raw), st, st2, rfl, (List.append_nil _).symm, hs, rfl⟩

theorem foldlM_addToQuery_bypass (tt : TypeTable) (m : TypeToValue) : ∀ (chunks : List Bytes) (qb : QB),
    (chunks.map TExpr.bypass).foldlM (addToQuery tt m) qb =
      .ok { qb with pieces := qb.pieces ++ chunks.map Piece.text } := by
  intro chunks
  induction chunks with
  | nil => intro qb; simp [pure, Except.pure]
  | cons c rest ih =>
    intro qb
    rw [List.map_cons, foldlM_cons_bind]
    simp only [addToQuery]
    rw [bind_ok, ih]
    simp

theorem bindInputs_single_insert {tt : TypeTable} {pre post : List Bytes} {cols : List TCol}
    {args : List GoVal} {pq : Primed}
    (h : bindInputs tt (pre.map .bypass ++ .insert cols :: post.map .bypass) args = .ok pq) :
    ∃ m q1 q2, validateInputs tt args [] = .ok m ∧ addToQuery tt m q1 (.insert cols) = .ok q2 ∧
      q1.params = [] ∧ pq.params = q2.params := by
  obtain ⟨m, qb, hm, hq, _, rfl⟩ := bindInputs_ok_unfold h
  obtain ⟨q1, q2, h1, h2, h3⟩ := foldlM_except_split _ _ _ _ _ _ hq
  rw [foldlM_addToQuery_bypass] at h1 h3
  cases h1
  cases h3
  exact ⟨m, _, q2, hm, h2, rfl, rfl⟩

theorem single_insert_run {s : OSeg} (hp : bindTypes C tt segs samples = .ok tes)
    (hb : bindInputs tt tes args = .ok pq) (hf : segs.filter (·.kind != .bypass) = [s]) :
    ∃ infos e, generateArgInfo C tt samples [] = .ok infos ∧ NodeTyped infos s e ∧
      ∀ {cols}, e = .insert cols → ∃ m q1 q2, validateInputs tt args [] = .ok m ∧
        addToQuery tt m q1 (.insert cols) = .ok q2 ∧ q1.params = [] ∧ pq.params = q2.params := by
  obtain ⟨infos, st, hg, hs, _, rfl⟩ := bindTypes_ok_iff.1 hp
  obtain ⟨pre, post, st1, st2, hinf, hex1, hbs, hex2⟩ := bindSegs_single hf hs
  obtain ⟨e, he, hn⟩ := bindSeg_typed hbs
  refine ⟨infos, e, hg, (show st1.argInfos = infos from hinf) ▸ hn, fun hc => ?_⟩
  rw [hex2, he, hc, hex1, List.nil_append, List.append_assoc, List.singleton_append] at hb
  exact bindInputs_single_insert hb

end Sqlair
