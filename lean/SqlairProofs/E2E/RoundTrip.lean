/-
  E2E/RoundTrip: C17, second half of the composition (the first is E2E/InsertStore.lean): scanning the row that a
  `SELECT tag_0 AS _sqlair_0, …` of all the tags of a struct returns, and the two halves composed.
-/
import SqlairProofs.Props.Scan
import SqlairProofs.E2E.InsertStore

namespace Sqlair

variable {tt : TypeTable}

/-- the result columns of `SELECT &T.*` over `k` fields: `_sqlair_0 … _sqlair_<k-1>` -/
def aliasCols (k : Nat) : List Bytes := (List.range k).map markerName

/-- output `k` is assigned from some column carrying its alias (`scan_every_output_assigned`), and column `j` carries
    alias `j` -/
theorem scan_fields {E : ScanEnv} {tid : Nat} {n : Bytes} {fields : List SField}
    {row : List DV} {dests dests' : List Dest} {di : Nat} {d : Dest}
    (hget : scanGet E tt (fieldOutputs tid n fields) (aliasCols fields.length) row dests = (dests', none))
    (hwf : WFOut (fieldOutputs tid n fields) dests) (hd : dests[di]? = some d) (htid : d.tid = tid) :
    ∃ d', dests'[di]? = some d' ∧
      ∀ (k : Nat) (f : SField), fields[k]? = some f → ∃ v txt, row[k]? = some v ∧
        expectedText E tt (.field tid n f) v = some txt ∧ d'.fieldVal f.index = some (some txt) := by
  obtain ⟨d', hd', _⟩ := (scanGet_frame hget).2 di d hd
  refine ⟨d', hd', fun k f hk => ?_⟩
  obtain ⟨j, di0, c, _, d0', v, txt, hj, hc, _, _, huniq, hv, hd0', hex, hval⟩ :=
    scan_every_output_assigned hget hwf (l := .field tid n f) (by rw [fieldOutputs, List.getElem?_map, hk]; rfl)
  have hjl : j < fields.length := by simpa [aliasCols] using (List.getElem?_eq_some_iff.1 hj).1
  rw [aliasCols, List.getElem?_map, List.getElem?_range hjl] at hj
  obtain rfl : j = k := markerName_inj ((Option.some.inj hj).trans (markerIndex_iff.mp hc).1)
  obtain rfl := huniq di d hd htid
  rw [hd'] at hd0'; cases hd0'
  exact ⟨v, txt, hv, hex, Loc.valIn_field.1 hval⟩

/-- column `k` of the select of all tags is `rowGet srow` of tag `k`, which `hst.stored` gives in terms of
    `locateParams`, and `scan_fields` puts its `expectedText` into field `k` -/
theorem InsertStored.roundtrip {m : TypeToValue} {tid : Nat} {n : Bytes} {fields : List SField} {names : List Bytes}
    {rows : List (List Cell)} {P : List (Nat × String)} (hst : InsertStored tt m tid n fields names rows P)
    {stored : List SRow} (hexec : execInsert names rows P = some stored) {r : Nat} {srow : SRow}
    (hr : stored[r]? = some srow) {E : ScanEnv} {dests dests' : List Dest} {di : Nat} {d : Dest}
    (hconv : ∀ v t, E.conv (some v) t = some v)
    (hget : scanGet E tt (fieldOutputs tid n fields) (aliasCols fields.length)
      (selectRow (fields.map (·.tag)) srow) dests = (dests', none))
    (hwf : WFOut (fieldOutputs tid n fields) dests) (hd : dests[di]? = some d) (htid : d.tid = tid) :
    ∃ d', dests'[di]? = some d' ∧
      ∀ f ∈ fields, ∀ p, locateParams tt m (.field tid n f) = .ok p →
        (p.om = false → ∃ v, p.rowVal r = some v ∧ d'.fieldVal f.index = some (some v)) ∧
        (p.om = true →
          match fieldCat tt (fieldTypeOf tt tid f.index true) with
          | .proxy => d'.fieldVal f.index = some (some (E.zeroText (fieldTypeOf tt tid f.index true)))
          | .directPtr _ => d'.fieldVal f.index = some (some E.nilText)
          | .directScanner => ∃ txt, E.conv none (fieldTypeOf tt tid f.index true) = some txt ∧
              d'.fieldVal f.index = some (some txt)) := by
  obtain ⟨d', hd', hscan⟩ := scan_fields hget hwf hd htid
  refine ⟨d', hd', fun f hf p hp => ?_⟩
  obtain ⟨k, hk⟩ := List.getElem?_of_mem hf
  obtain ⟨v, txt, hv, hex, hval⟩ := hscan k f hk
  rw [selectRow_getElem? _ _ k f.tag (by rw [List.getElem?_map, hk]; rfl)] at hv
  cases hv
  obtain ⟨hkept, hom⟩ := (hst.stored stored hexec).2 r srow hr f hf p hp
  constructor
  · intro hp0
    obtain ⟨v, hv, hg⟩ := hkept hp0
    rw [hg, expectedText_field_val, hconv] at hex
    cases hex
    exact ⟨_, hv, hval⟩
  · intro hp1
    rw [hom hp1] at hex
    exact expectedText_field_null_elim (P := fun t => d'.fieldVal f.index = some (some t)) hex hval

end Sqlair
