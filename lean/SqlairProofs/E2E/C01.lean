/-
  E2E/C01: the pipeline `prepareAndBind` and the lemmas of property C01 end to end.
-/
import SqlairProofs.Parser.Main
import SqlairProofs.E2E.Render
import SqlairProofs.E2E.Nodes

namespace Sqlair

variable {E : Env} {C : Cls} {tt : TypeTable} {samples : List (Option Nat)}
    {tes : List TExpr} {args : List GoVal} {pq : Primed}
    {segs : List Seg}

/-- Parse, Prepare (BindTypes with the type samples), Query (BindInputs with the argument values); `renderSQL` is
    applied to the result in the statements -/
def prepareAndBind (E : Env) (C : Cls) (tt : TypeTable) (samples : List (Option Nat)) (args : List GoVal) :
    Option Primed :=
  match parse E with
  | .ok segs =>
    match bindTypes C tt (segs.map (Seg.toOSeg E.inp)) samples with
    | .ok tes => (bindInputs tt tes args).toOption
    | .error _ => none
  | .error _ => none

theorem prepareAndBind_some (h : prepareAndBind E C tt samples args = some pq) :
    ∃ segs tes, parse E = .ok segs ∧ bindTypes C tt (segs.map (Seg.toOSeg E.inp)) samples = .ok tes ∧
      bindInputs tt tes args = .ok pq := by
  unfold prepareAndBind at h
  split at h
  · rename_i segs hp
    split at h
    · rename_i tes hb
      cases hq : bindInputs tt tes args with
      | error e => rw [hq] at h; cases h
      | ok pq' =>
        rw [hq] at h
        have : pq' = pq := by simpa [Except.toOption] using h
        subst this
        exact ⟨segs, tes, hp, hb, hq⟩
    · cases h
  · cases h

theorem prepareAndBind_of (hp : parse E = .ok segs)
    (hb : bindTypes C tt (segs.map (Seg.toOSeg E.inp)) samples = .ok tes)
    (hq : bindInputs tt tes args = .ok pq) : prepareAndBind E C tt samples args = some pq := by
  unfold prepareAndBind
  rw [hp]; simp only []; rw [hb]; simp only []; rw [hq]; rfl

theorem parse_bind_pieces (hb : bindTypes C tt (segs.map (Seg.toOSeg E.inp)) samples = .ok tes)
    (hq : bindInputs tt tes args = .ok pq) :
    Corr (fun s p => NodePiece s.kind (E.inp.extract s.a s.b) p) segs pq.pieces :=
  (bind_pieces hb hq).map_left

theorem expansion_eq {inp : Bytes} {ps : List Piece}
    (h : Corr (fun s p => NodePiece s.kind (inp.extract s.a s.b) p) segs ps) :
    ps.map Piece.render =
      (segs.zip ps).map fun sp => if sp.1.kind = .bypass then inp.extract sp.1.a sp.1.b else sp.2.render := by
  induction segs, ps, h using Corr.induction with
  | nil => rfl
  | @cons s p segs ps hr _ ih =>
    rw [List.map_cons, List.zip_cons_cons, List.map_cons, ih]
    split
    · rename_i hk
      rw [hk] at hr
      rw [hr.bypass]; rfl
    · rfl

theorem SpansChain.bounds {a b : Nat} {segs : List Seg} (hc : SpansChain a b segs) :
    ∀ s ∈ segs, a ≤ s.a ∧ s.a ≤ s.b ∧ s.b ≤ b := by
  induction hc with
  | nil x => intro s hs; cases hs
  | cons s rest to hle hrest ih =>
    intro s' hs'
    rcases List.mem_cons.1 hs' with rfl | hs'
    · exact ⟨Nat.le_refl _, hle, hrest.le⟩
    · exact ⟨Nat.le_trans hle (ih s' hs').1, (ih s' hs').2⟩

theorem SpansChain.pairwise {a b : Nat} {segs : List Seg} (hc : SpansChain a b segs) :
    segs.Pairwise (fun s s' => s.b ≤ s'.a) := by
  induction hc with
  | nil x => exact List.Pairwise.nil
  | cons s rest to hle hrest ih =>
    rw [List.pairwise_cons]
    exact ⟨fun s' hs' => (hrest.bounds s' hs').1, ih⟩

theorem SpansChain.cover {a b : Nat} (hc : SpansChain a b segs) :
    ∀ x, a ≤ x → x < b → ∃ s ∈ segs, s.a ≤ x ∧ x < s.b := by
  induction hc with
  | nil x => intro y h1 h2; exact absurd (Nat.lt_of_le_of_lt h1 h2) (Nat.lt_irrefl _)
  | cons s rest to hle hrest ih =>
    intro x h1 h2
    rcases Nat.lt_or_ge x s.b with h | h
    · exact ⟨s, List.mem_cons_self, h1, h⟩
    · obtain ⟨s', hs', h3⟩ := ih x h h2
      exact ⟨s', List.mem_cons_of_mem _ hs', h3⟩

theorem SpansChain.unique {a b : Nat} {segs : List Seg} (hc : SpansChain a b segs) {s s' : Seg}
    (hs : s ∈ segs) (hs' : s' ∈ segs) {x : Nat} (h1 : s.a ≤ x ∧ x < s.b) (h2 : s'.a ≤ x ∧ x < s'.b) :
    s = s' := by
  rcases pairwise_mem_cases hc.pairwise hs hs' with h | h | h
  · exact h
  · exact absurd (Nat.lt_of_lt_of_le h1.2 (Nat.le_trans h h2.1)) (Nat.lt_irrefl _)
  · exact absurd (Nat.lt_of_lt_of_le h2.2 (Nat.le_trans h h1.1)) (Nat.lt_irrefl _)

theorem SpansChain.bypass_complement {b : Nat} (hc : SpansChain 0 b segs)
    (x : Nat) (hx : x < b) :
    (∃ s ∈ segs, s.kind = .bypass ∧ s.a ≤ x ∧ x < s.b) ↔
      ¬ ∃ s ∈ segs, s.kind ≠ .bypass ∧ s.a ≤ x ∧ x < s.b := by
  constructor
  · rintro ⟨s, hs, hk, h1⟩ ⟨s', hs', hk', h2⟩
    have := hc.unique hs hs' h1 h2
    subst this
    exact hk' hk
  · intro hno
    obtain ⟨s, hs, h1⟩ := hc.cover x (Nat.zero_le _) hx
    by_cases hk : s.kind = .bypass
    · exact ⟨s, hs, hk, h1⟩
    · exact absurd ⟨s, hs, hk, h1⟩ hno

theorem concat_spans {inp : Bytes} {b : Nat} (hc : SpansChain 0 b segs) (hb : inp.size ≤ b) :
    concatBytes (segs.map fun s => inp.extract s.a s.b) = inp := by
  have h := flattenRaws_chain inp hc
  rw [Array.extract_zero, List.foldl_map] at h
  have h2 : concatBytes (segs.map fun s => inp.extract s.a s.b) =
      segs.foldl (fun acc s => acc ++ (Seg.toOSeg inp s).raw) #[] := by
    unfold concatBytes
    rw [List.foldl_map]; rfl
  rw [h2, h]
  exact Array.extract_eq_self_of_le hb

theorem bindTypes_all_bypass (C : Cls) (tt : TypeTable) (segs : List OSeg)
    (h : ∀ s ∈ segs, s.kind = .bypass) :
    bindTypes C tt segs [] = .ok ((segs.map (·.raw)).map TExpr.bypass) :=
  bindTypes_ok_iff.2 ⟨[], _, rfl, bindSegs_all_bypass segs _ h, rfl, by simp⟩

theorem bindInputs_all_bypass (tt : TypeTable) (chunks : List Bytes) :
    bindInputs tt (chunks.map TExpr.bypass) [] =
      .ok { pieces := chunks.map Piece.text, params := [], outputs := [] } := by
  rw [bindInputs_eq, show validateInputs tt [] [] = .ok [] from rfl, bind_ok, foldlM_addToQuery_bypass]
  rfl

theorem renderSQL_texts (chunks : List Bytes) : renderSQL (chunks.map Piece.text) = concatBytes chunks := by
  rw [renderSQL_eq_concat, List.map_map, show Piece.render ∘ Piece.text = id from rfl, List.map_id]

end Sqlair
