/-
  E2E/Render: the generated SQL text is the in-order concatenation of the renderings of the
  pieces, and generic facts about concatenation of byte strings.
-/
import SqlairModel.Bind

namespace Sqlair

def concatBytes (l : List Bytes) : Bytes := l.foldl (· ++ ·) #[]

theorem foldl_append_bytes (l : List Bytes) (init : Bytes) :
    l.foldl (· ++ ·) init = init ++ concatBytes l := by
  unfold concatBytes
  induction l generalizing init with
  | nil => simp
  | cons x xs ih =>
    simp only [List.foldl_cons]
    rw [ih (init ++ x), ih (#[] ++ x)]
    simp [Array.append_assoc]

theorem concatBytes_nil : concatBytes [] = #[] := rfl

theorem concatBytes_cons (x : Bytes) (xs : List Bytes) : concatBytes (x :: xs) = x ++ concatBytes xs := by
  show (x :: xs).foldl (· ++ ·) #[] = _
  rw [List.foldl_cons, foldl_append_bytes]
  simp

theorem concatBytes_append (a b : List Bytes) : concatBytes (a ++ b) = concatBytes a ++ concatBytes b := by
  induction a with
  | nil => simp [concatBytes_nil]
  | cons x xs ih => simp [concatBytes_cons, ih, Array.append_assoc]

theorem concatBytes_toList (l : List Bytes) : (concatBytes l).toList = (l.map Array.toList).flatten := by
  induction l with
  | nil => rfl
  | cons x xs ih => simp [concatBytes_cons, ih]

theorem concatBytes_size (l : List Bytes) : (concatBytes l).size = (l.map Array.size).sum := by
  induction l with
  | nil => rfl
  | cons x xs ih => simp [concatBytes_cons, ih]

theorem renderSQL_eq_concat (ps : List Piece) : renderSQL ps = concatBytes (ps.map Piece.render) := by
  unfold renderSQL concatBytes
  rw [List.foldl_map]

end Sqlair
