/-
  E2E/Shapes: the shapes the C17 composition is stated for (`fieldCols` / `fieldOutputs` / `fieldOutCols`), and that the
  typed expressions `bindTypes` produces for `(*) VALUES ($T.*)` and `&T.*` have them: the same fields of the struct, in
  the same (tag-sorted) order.  For `(cols) VALUES ($T.*)` the typed columns are a selection of the fields of `T` over a
  struct sample (`fieldColsE`), one key locator per written column over a map sample (`mapColsE`).
-/
import SqlairProofs.E2E.Nodes

namespace Sqlair

def fieldCols (tid : Nat) (n : Bytes) (fields : List SField) : List TCol :=
  fields.map fun f => TCol.insert (.field tid n f) f.tag false

/-- `fieldCols` over a selection of the fields and with the flag `explicit` of `insertColumn`
    (internal/expr/bindinputs.go) left open: `true` for columns written in the statement,
    `(c1, c2) VALUES ($T.*)`, `false` for `(*) VALUES ($T.*)` -/
def fieldColsE (tid : Nat) (n : Bytes) (e : Bool) (sel : List SField) : List TCol :=
  sel.map fun f => TCol.insert (.field tid n f) f.tag e

theorem fieldCols_eq_E (tid : Nat) (n : Bytes) (fields : List SField) :
    fieldCols tid n fields = fieldColsE tid n false fields := rfl

def fieldOutputs (tid : Nat) (n : Bytes) (fields : List SField) : List Loc := fields.map (Loc.field tid n)

def fieldOutCols (tid : Nat) (n : Bytes) (fields : List SField) : List (Bytes × Loc) :=
  fields.map fun f => (f.tag, Loc.field tid n f)

theorem fieldOutCols_snd (tid : Nat) (n : Bytes) (fields : List SField) :
    (fieldOutCols tid n fields).map (·.2) = fieldOutputs tid n fields := by
  simp [fieldOutCols, fieldOutputs]

theorem fieldOutCols_fst (tid : Nat) (n : Bytes) (fields : List SField) :
    (fieldOutCols tid n fields).map (·.1) = fields.map (·.tag) := by
  simp [fieldOutCols]

variable {infos : List (Bytes × ArgInfo)} {s : OSeg} {e : TExpr}

theorem starRes_fields {ty : Bytes} {ms : List (Loc × Bytes)} (h : starRes infos ty = .ok ms) :
    ∃ tid n fields tags, lookupInfo infos ty = some (.struct tid n fields tags) ∧
      ms = (starFieldsOf fields tags).map (fun f => (Loc.field tid n f, f.tag)) := by
  obtain ⟨a, hl, ha⟩ := starRes_ok.1 h
  obtain ⟨tid, n, fields, tags, rfl, rfl⟩ := getAll_eq ha
  exact ⟨tid, n, fields, tags, lookupRes_ok.1 hl, rfl⟩

theorem NodeTyped.astStar (h : NodeTyped infos s e) (hk : s.kind = .astInsert) {a : Acc}
    (ht : s.types = [a]) (hstar : a.member = star) :
    ∃ tid n fields tags, lookupInfo infos a.ty = some (.struct tid n fields tags) ∧
      e = .insert (fieldCols tid n (starFieldsOf fields tags)) := by
  obtain ⟨rs, hm, rfl⟩ := h.astInsert hk
  obtain ⟨r, _, hr, hnil, rfl⟩ := mapM_cons_ok_iff.1 (ht ▸ hm)
  rw [List.mapM_nil] at hnil
  cases hnil
  simp only [srcRes, hstar, beq_self_eq_true, if_true] at hr
  obtain ⟨ms, hs, rfl⟩ := map_ok_inv hr
  obtain ⟨tid, n, fields, tags, hl, rfl⟩ := starRes_fields hs
  exact ⟨tid, n, fields, tags, hl, by simp [fieldCols, List.map_map, Function.comp_def]⟩

theorem NodeTyped.outStar (h : NodeTyped infos s e) (hk : s.kind = .output) {a : Acc}
    (ht : s.types = [a]) (hstar : a.member = star) (hcols : s.cols = []) :
    ∃ tid n fields tags, lookupInfo infos a.ty = some (.struct tid n fields tags) ∧
      e = .output (fieldOutCols tid n (starFieldsOf fields tags)) := by
  rcases h.output hk with ⟨_, rs, hm, rfl⟩ | ⟨hne, _⟩ | ⟨hne, _⟩
  · rw [hcols] at hm
    obtain ⟨r, _, hr, hnil, rfl⟩ := mapM_cons_ok_iff.1 (ht ▸ hm)
    rw [List.mapM_nil] at hnil
    cases hnil
    simp only [accRes, hstar, beq_self_eq_true, if_true] at hr
    obtain ⟨ms, hs, rfl⟩ := map_ok_inv hr
    obtain ⟨tid, n, fields, tags, hl, rfl⟩ := starRes_fields hs
    exact ⟨tid, n, fields, tags, hl, by simp [fieldOutCols, List.map_map, Function.comp_def, newOutputColumn]⟩
  · exact absurd hcols hne
  · exact absurd hcols hne

/-- the invariant of the provider table (`colToInput` of `columnsInsertExpr.bindTypes`) as long as
    only `$T.*` over the struct `T` has been filed -/
def ProvFields (tid : Nat) (n : Bytes) (fields : List SField) (prov : List (Bytes × List Loc)) : Prop :=
  ∀ p ∈ prov, ∀ l ∈ p.2, ∃ f ∈ fields, l = Loc.field tid n f ∧ f.tag = p.1

theorem ProvFields.append {tid : Nat} {n : Bytes} {fields : List SField} {prov : List (Bytes × List Loc)}
    (h : ProvFields tid n fields prov) {f : SField} (hf : f ∈ fields) :
    ProvFields tid n fields (provAppend prov f.tag (.field tid n f)) := by
  unfold provAppend
  split
  · intro p hp l hl
    obtain ⟨q, hq, rfl⟩ := List.mem_map.1 hp
    by_cases hk : (q.1 == f.tag) = true
    · simp only [hk, if_true] at hl ⊢
      rcases List.mem_append.1 hl with hl | hl
      · obtain ⟨f', hf', e1, e2⟩ := h q hq l hl
        exact ⟨f', hf', e1, by rw [e2]; simpa using hk⟩
      · simp only [List.mem_singleton] at hl
        exact ⟨f, hf, hl, rfl⟩
    · simp only [hk] at hl ⊢
      exact h q hq l hl
  · intro p hp l hl
    rcases List.mem_append.1 hp with hp | hp
    · exact h p hp l hl
    · simp only [List.mem_singleton] at hp
      subst hp
      simp only [List.mem_singleton] at hl
      exact ⟨f, hf, hl, rfl⟩

theorem ProvFields.foldl {tid : Nat} {n : Bytes} {fields sel : List SField} {prov : List (Bytes × List Loc)}
    (h : ProvFields tid n fields prov) (hs : ∀ f ∈ sel, f ∈ fields) :
    ProvFields tid n fields
      ((sel.map fun f => (Loc.field tid n f, f.tag)).foldl (fun pr (l, tag) => provAppend pr tag l) prov) := by
  induction sel generalizing prov with
  | nil => exact h
  | cons f rest ih =>
    rw [List.map_cons, List.foldl_cons]
    exact ih (h.append (hs f List.mem_cons_self)) (fun g hg => hs g (List.mem_cons_of_mem _ hg))

theorem colRes_fields {tid : Nat} {n : Bytes} {fields : List SField} {prov : List (Bytes × List Loc)}
    (hprov : ProvFields tid n fields prov) :
    ∀ {cs : List Col} {rs : List (List TCol × List (Loc × Bytes))}, cs.mapM (colRes infos prov none) = .ok rs →
    ∃ sel, rs.flatMap (·.1) = fieldColsE tid n true sel ∧ sel.map (·.tag) = cs.map (·.str) ∧
      ∀ f ∈ sel, f ∈ fields
  | [], _, h => by rw [List.mapM_nil] at h; cases h; exact ⟨[], rfl, rfl, by simp⟩
  | c :: cs, _, h => by
    obtain ⟨r, rs', hc, hl, rfl⟩ := mapM_cons_ok_iff.1 h
    obtain ⟨sel, h1, h2, h3⟩ := colRes_fields hprov hl
    rcases colRes_ok hc with ⟨k, l, hfind, rfl⟩ | ⟨_, _, _, hrem, _⟩
    · obtain ⟨f, hf, e1, e2⟩ := hprov _ (List.mem_of_find?_eq_some hfind) l (by simp)
      have hkey : k = c.str := by simpa using List.find?_some hfind
      simp only at e2
      exact ⟨f :: sel, by simp [List.flatMap_cons, h1, fieldColsE, e1, e2, hkey], by simp [h2, e2, hkey],
        List.forall_mem_cons.2 ⟨hf, h3⟩⟩
    · cases hrem

/-- the typed columns of `(cols) VALUES ($M.*)`, `M` a map: every written column is a spare one and
    is taken from the map (`remainingMap` of `columnsInsertExpr.bindTypes`), as an explicit column -/
def mapColsE (tid : Nat) (n : Bytes) (keys : List Bytes) : List TCol :=
  keys.map fun k => TCol.insert (.mapKey tid n k) k true

theorem NodeTyped.colStar {a : Acc} (h : NodeTyped infos s e) (hk : s.kind = .colInsert) (ht : s.types = [a]) (hm : a.member = star) :
    (∃ tid n, lookupInfo infos a.ty = some (.map tid n) ∧
      e = .insert (mapColsE tid n (s.cols.map (·.str)))) ∨
    (∃ tid n fields tags sel, lookupInfo infos a.ty = some (.struct tid n fields tags) ∧
      e = .insert (fieldColsE tid n true sel) ∧
      sel.map (·.tag) = s.cols.map (·.str) ∧ ∀ f ∈ sel, f ∈ fields) := by
  obtain ⟨pr, rs, hp, hc, rfl⟩ := h.colInsert hk
  rw [ht, foldlM_cons_bind] at hp
  obtain ⟨pr', hstep, hp⟩ := bind_ok_inv hp
  cases hp
  rcases provStepRes_ok hstep with ⟨_, tid, n, hl, _, rfl⟩ | ⟨_, ms, hs, rfl⟩ | ⟨hne, _⟩
  · refine .inl ⟨tid, n, lookupRes_ok.1 hl, ?_⟩
    rw [← (mapM_ok_iff.1 hc).flatMap_eq (g := (·.1)) (f := fun c : Col => [TCol.insert (.mapKey tid n c.str) c.str true])]
    · rw [← List.map_eq_flatMap]
      simp [mapColsE, List.map_map, Function.comp_def]
    · intro c _ r hr
      -- no provider is listed, so the column is a key of the map
      rcases colRes_ok hr with ⟨_, _, hfind, _⟩ | ⟨_, m, l, hrem, hl', rfl⟩
      · cases hfind
      · cases hrem
        obtain ⟨ai, hl2, hg⟩ := memberRes_ok.1 hl'
        cases hl.symm.trans hl2
        rcases getMember_ok_iff.1 hg with ⟨_, _, _, _, _, e0, _⟩ | ⟨_, _, e0, rfl⟩
        · cases e0
        · cases e0; rfl
  · obtain ⟨tid, n, fields, tags, hl, rfl⟩ := starRes_fields hs
    obtain ⟨sel, h1, h2, h3⟩ := colRes_fields
      (ProvFields.foldl (by intro p hp; cases hp) fun f => starFieldsOf_subset) hc
    exact .inr ⟨tid, n, fields, tags, sel, hl, by rw [h1], h2, h3⟩
  · exact absurd hm hne

end Sqlair
