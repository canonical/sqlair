/-
  E2E/Prepared: the C17 shapes for statements prepared by `bindTypes`: the insert expression of
  `(*) VALUES ($T.*)` and the output expression of `&T.*` range over the same field list when
  the sample named `T` is the same type in both statements.
-/
import SqlairProofs.E2E.Shapes
import SqlairProofs.Typed.Samples

namespace Sqlair

variable {C : Cls} {tt : TypeTable} {segs : List OSeg} {samples : List (Option Nat)} {tes : List TExpr}
    {tid : Nat}

theorem infos_find_sample {infos : List (Bytes × ArgInfo)} (h : generateArgInfo C tt samples [] = .ok infos)
    (hs : some tid ∈ samples) {a : ArgInfo}
    (hl : lookupInfo infos (tt.get tid).name = some a) : getArgInfo C tt tid = .ok a := by
  obtain ⟨tid', hs', hn, hi, _⟩ := generateArgInfo_mem_sample h (mem_of_assoc hl)
  obtain ⟨tids, rfl, _, hnd, _⟩ := generateArgInfo_nil_ok_iff.1 h
  obtain ⟨_, ht, ⟨⟩⟩ := List.mem_map.1 hs
  obtain ⟨_, ht', ⟨⟩⟩ := List.mem_map.1 hs'
  -- the names are distinct, so the info found under the name is the sample's own
  cases inj_of_nodup_map hnd ht' ht hn.symm
  exact getArgInfo_ok_iff.2 hi

theorem prepared_insert_shape (hb : bindTypes C tt segs samples = .ok tes) (hs : some tid ∈ samples)
    {i : Nat} {s : OSeg} (hi : segs[i]? = some s) (hk : s.kind = .astInsert)
    (ht : s.types = [{ ty := (tt.get tid).name, member := star }]) :
    ∃ fields tags, getArgInfo C tt tid = .ok (.struct tid (tt.get tid).name fields tags) ∧
      tes[i]? = some (.insert (fieldCols tid (tt.get tid).name (starFieldsOf fields tags))) := by
  obtain ⟨infos, hg, hc⟩ := bindTypes_typed hb
  obtain ⟨e, he, hn⟩ := hc.2 i s hi
  obtain ⟨tid', n, fields, tags, hf, rfl⟩ := hn.astStar hk ht rfl
  have ha := infos_find_sample hg hs hf
  obtain ⟨rfl, rfl, _⟩ := getArgInfo_struct ha
  exact ⟨fields, tags, ha, he⟩

theorem prepared_output_shape (hb : bindTypes C tt segs samples = .ok tes) (hs : some tid ∈ samples)
    {j : Nat} {s : OSeg} (hj : segs[j]? = some s) (hk : s.kind = .output)
    (ht : s.types = [{ ty := (tt.get tid).name, member := star }]) (hcols : s.cols = [])
    (honly : ∀ j' s', segs[j']? = some s' → s'.kind = .output → j' = j) :
    ∃ fields tags, getArgInfo C tt tid = .ok (.struct tid (tt.get tid).name fields tags) ∧
      tes.flatMap TExpr.outCols = fieldOutCols tid (tt.get tid).name (starFieldsOf fields tags) := by
  obtain ⟨infos, hg, hc⟩ := bindTypes_typed hb
  obtain ⟨e, he, hn⟩ := hc.2 j s hj
  obtain ⟨tid', n, fields, tags, hf, rfl⟩ := hn.outStar hk ht rfl hcols
  have ha := infos_find_sample hg hs hf
  obtain ⟨rfl, rfl, _⟩ := getArgInfo_struct ha
  refine ⟨fields, tags, ha, ?_⟩
  rw [flatMap_single TExpr.outCols he]
  · rfl
  · intro j' y hy hne
    have hj'l : j' < segs.length := by rw [← hc.1]; exact (List.getElem?_eq_some_iff.1 hy).1
    obtain ⟨y', hy', hn⟩ := hc.2 j' segs[j'] (List.getElem?_eq_getElem hj'l)
    cases hy.symm.trans hy'
    have hn := hn.nodeExpr
    unfold NodeExpr at hn
    cases hkk : segs[j'].kind <;> simp only [hkk] at hn
    case output => exact absurd (honly j' _ (List.getElem?_eq_getElem hj'l) hkk) hne
    case bypass => rw [hn]; rfl
    all_goals (obtain ⟨_, rfl⟩ := hn; rfl)

end Sqlair
