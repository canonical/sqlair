/-
  E2E/Uses: `OSeg.typeNames`, the type names a node refers to, in the spelling of the C07 statements of
  Props/E2E; it is `nodeTypes` of Bind/Resolve.lean (`typeNames_eq_nodeTypes`).
-/
import SqlairProofs.Bind.Resolve

namespace Sqlair

def valTy : Val → Option Bytes
  | .acc a => some a.ty
  | .lit _ => none

def OSeg.typeNames (s : OSeg) : List Bytes :=
  match s.kind with
  | .bypass => []
  | .basicInsert => s.vals.filterMap valTy
  | _ => s.types.map (·.ty)

theorem typeNames_eq_nodeTypes (s : OSeg) : s.typeNames = nodeTypes s := by
  unfold OSeg.typeNames nodeTypes OSeg.valAccs
  cases s.kind <;> try rfl
  simp only []
  induction s.vals with
  | nil => rfl
  | cons v vs ih => cases v <;> simp [valTy, List.filterMap_cons, ih]

end Sqlair
