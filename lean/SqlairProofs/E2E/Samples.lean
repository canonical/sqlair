/-
  E2E/Samples: the name of an `Option` sample in the spelling of the C07 statements, and the tags of the fields `$T.*`
  stands for: a sublist of the sorted tags of `T`, pairwise distinct.
-/
import SqlairProofs.Bind.Resolve
import SqlairProofs.Typed.Samples

namespace Sqlair

variable {C : Cls} {tt : TypeTable} {samples : List (Option Nat)}
    {tid tid' : Nat} {n : Bytes} {fields : List SField} {tags : List Bytes}

/-- `reflect.Type.Name()` of a sample (`#[]` for the untyped nil) -/
def e2eSampleName (tt : TypeTable) : Option Nat → Bytes
  | some tid => (tt.get tid).name
  | none => #[]

theorem Corr.append_left {α β : Type} {R : α → β → Prop} {a : α} {b : β} {l : List α} {l' : List β}
    (h : R a b) (ht : Corr R l l') : Corr R (a :: l) (b :: l') := .cons h ht

theorem starFieldsOf_tags_sublist (fields : List SField) (tags : List Bytes) :
    ((starFieldsOf fields tags).map (·.tag)).Sublist tags := by
  unfold starFieldsOf
  induction tags with
  | nil => exact List.Sublist.slnil
  | cons t rest ih =>
    simp only [List.filterMap_cons]
    cases hf : fields.find? (fun f => f.tag == t) with
    | none => exact List.Sublist.cons _ ih
    | some f =>
      have ht : f.tag = t := by simpa using List.find?_some hf
      simp only [List.map_cons, ht]
      exact List.Sublist.cons_cons _ ih

theorem starFields_tags_nodup (h : getArgInfo C tt tid = .ok (.struct tid' n fields tags)) :
    ((starFieldsOf fields tags).map (·.tag)).Nodup := by
  obtain ⟨_, _, _, hnd, rfl, _⟩ := getArgInfo_struct h
  exact (starFieldsOf_tags_sublist _ _).nodup ((sortBytes_perm _).nodup_iff.2 hnd)

end Sqlair
