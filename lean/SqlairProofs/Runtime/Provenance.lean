/-
  Runtime, provenance of errors (for C20): an error `b` (the context's error, or ErrTxDone) that neither the statement's
  start nor the driver's fetch and close results produce is not returned by any call: not by `Next` / `Close` / `Get`
  on the iterator (each keeps `Iter.l4s_Free` and returns errors free of `b`; a cancellation does not), not by `Get` /
  `GetAll` (read off the closed forms `getSpec`, `getAllSpec`, `getAllArgsSpec`).  "Free of `b`" means neither `b` nor
  `wrapped b`.
-/
import SqlairProofs.Runtime.GetAllArgs

namespace Sqlair.Rt

def Err.l4s_free (e b : Err) : Prop := e ≠ b ∧ e ≠ .wrapped b

/-- the two errors C20 looks for -/
def Err.l4s_sought (b : Err) : Prop := b = .ctx ∨ b = .txDone

theorem l4s_free_wrapped {b e : Err} (hb : b.l4s_sought) (h : e ≠ b) : (Err.wrapped e).l4s_free b := by
  constructor
  · rcases hb with rfl | rfl <;> simp
  · simpa using h

theorem l4s_free_sqlair {b : Err} (hb : b.l4s_sought) (x : String) : (Err.sqlair x).l4s_free b := by
  rcases hb with rfl | rfl <;> exact ⟨by simp, by simp⟩

theorem l4s_free_noRows {b : Err} (hb : b.l4s_sought) : Err.noRows.l4s_free b := by
  rcases hb with rfl | rfl <;> exact ⟨by simp, by simp⟩

theorem l4s_free_inj {b : Err} (hb : b.l4s_sought) (n : Nat) : (Err.inj n).l4s_free b := by
  rcases hb with rfl | rfl <;> exact ⟨by simp, by simp⟩

def l4s_OFree (b : Err) (o : Option Err) : Prop := ∀ e, o = some e → e.l4s_free b

theorem l4s_OFree_none (b : Err) : l4s_OFree b none := by intro e h; cases h

theorem l4s_OFree_some {b e : Err} (h : e.l4s_free b) : l4s_OFree b (some e) := by
  intro e' he; cases he; exact h

theorem l4s_OFree_or {b : Err} {o1 o2 : Option Err} (h1 : l4s_OFree b o1) (h2 : l4s_OFree b o2) :
    l4s_OFree b (o1.or o2) := by
  cases o1 with
  | none => simpa using h2
  | some e => simpa using h1

structure Rows.l4s_Free (b : Err) (r : Rows) : Prop where
  lasterr : l4s_OFree b r.lasterr
  closeErr : l4s_OFree b r.closeErr
  fetch : ∀ e, Except.error e ∈ r.fetch → e.l4s_free b

structure Iter.l4s_Free (b : Err) (it : Iter) : Prop where
  err : l4s_OFree b it.err
  rows : ∀ r, it.rows = some r → r.l4s_Free b

theorem l4s_Rows_close_free {b : Err} {r : Rows} (h : r.l4s_Free b) (w : World) :
    (r.close w).1.l4s_Free b ∧ l4s_OFree b (r.close w).2.2 := by
  cases hc : r.closed
  · rw [Rows.close_of_open hc]
    exact ⟨⟨l4s_OFree_or h.lasterr h.closeErr, h.closeErr, h.fetch⟩, h.closeErr⟩
  · rw [Rows.close_of_closed hc]; exact ⟨h, l4s_OFree_none b⟩

theorem l4s_Rows_next_free {b : Err} {r : Rows} (h : r.l4s_Free b) (w : World) : (r.next w).1.l4s_Free b := by
  cases hc : r.closed
  · rcases hf : r.fetch with _ | ⟨e | row, rest⟩
    · rw [Rows.next_nil hc hf]; exact (l4s_Rows_close_free (r := { r with cur := none }) ⟨h.lasterr, h.closeErr, h.fetch⟩ _).1
    · rw [Rows.next_error hc hf]
      refine (l4s_Rows_close_free (r := { r with fetch := rest, lasterr := some e, cur := none }) ⟨?_, h.closeErr, ?_⟩ _).1
      · intro e' he'; cases he'; exact h.fetch e (by rw [hf]; simp)
      · intro e' he'; exact h.fetch e' (by rw [hf]; simp [he'])
    · rw [Rows.next_ok hc hf]
      exact ⟨h.lasterr, h.closeErr, fun e' he' => h.fetch e' (by rw [hf]; simp [he'])⟩
  · rw [Rows.next_of_closed hc]; exact h

theorem l4s_Iter_next_free {b : Err} {it : Iter} (h : it.l4s_Free b) (w : World) : (it.next w).1.l4s_Free b := by
  rcases Iter.next_cases it w with hn | ⟨r, _, hr, hn⟩
  · rw [hn]; exact ⟨h.err, h.rows⟩
  · rw [hn]
    refine ⟨h.err, ?_⟩
    intro r' hr'
    simp at hr'
    subst hr'
    exact l4s_Rows_next_free (h.rows r hr) w

theorem l4s_Iter_close_free {b : Err} {it : Iter} (h : it.l4s_Free b) (w : World) :
    (it.close w).1.l4s_Free b ∧ l4s_OFree b (it.close w).2.2 := by
  cases hr : it.rows with
  | none =>
    rw [Iter.close_of_rows_none hr]
    exact ⟨⟨h.err, by simp [hr]⟩, h.err⟩
  | some r =>
    rw [Iter.close_of_rows hr]
    obtain ⟨h1, h2⟩ := l4s_Rows_close_free (h.rows r hr) w
    have : l4s_OFree b (it.err.or ((r.close w).1.lasterr.or (r.close w).2.2)) :=
      l4s_OFree_or h.err (l4s_OFree_or h1.lasterr h2)
    exact ⟨⟨this, by simp⟩, this⟩

theorem l4s_Rows_scan_ne {b : Err} (hb : b.l4s_sought) {r : Rows} (h : r.l4s_Free b) {e : Err}
    (hs : r.scan = .error e) : e ≠ b := by
  rcases Rows.scan_cases r with ⟨e', hl, h'⟩ | ⟨_, _, h'⟩ | ⟨_, _, _, h'⟩ | ⟨row, _, _, _, h'⟩ <;> rw [h'] at hs
  · cases hs; exact (h.lasterr _ hl).1
  · cases hs; rcases hb with rfl | rfl <;> simp
  · cases hs; exact (l4s_free_sqlair hb _).1
  · cases hk : row.scanOK <;> rw [hk] at hs <;> cases hs
    rcases hb with rfl | rfl <;> simp

theorem l4s_Iter_get_free {b : Err} (hb : b.l4s_sought) {it : Iter} (h : it.l4s_Free b) (a : GetArgs) {e : Err}
    (hg : it.get a = .err e) : e.l4s_free b := by
  rcases Iter.get_err_cases hg with he | ⟨x, rfl⟩ | ⟨r, e', hr, hs, rfl⟩
  · exact h.err _ he
  · exact l4s_free_wrapped hb (l4s_free_sqlair hb x).1
  · exact l4s_free_wrapped hb (l4s_Rows_scan_ne hb (h.rows r hr) hs)

structure Script.l4s_Free (b : Err) (s : Script) : Prop where
  openErr : l4s_OFree b s.openErr
  closeErr : l4s_OFree b s.closeErr
  fetch : ∀ e, Except.error e ∈ s.fetch → e.l4s_free b

theorem l4s_free_of_getD {b : Err} (hb : b.l4s_sought) {o : Option Err} (h : l4s_OFree b o) :
    (o.getD .noRows).l4s_free b := by
  cases o with
  | none => exact l4s_free_noRows hb
  | some e => exact h e rfl

theorem l4s_getSpec_free {b : Err} (hb : b.l4s_sought) {s : Script} (h : s.l4s_Free b) (call : GetCall) :
    l4s_OFree b (getSpec s call).err := by
  rcases getSpec_cases s call with ⟨_, _, hg⟩ | ⟨_, ⟨e, he, hg⟩ | ⟨_, _, hg⟩ |
    ⟨_, _, oc, _, ⟨_, hg⟩ | ⟨e, rest, hf, hg⟩ | ⟨row, rest, _, hg⟩⟩⟩ <;> rw [hg]
  · exact l4s_OFree_some (l4s_free_sqlair hb _)
  · exact l4s_OFree_some (h.openErr _ he)
  · exact l4s_OFree_none b
  · exact l4s_OFree_some (l4s_free_of_getD hb h.closeErr)
  · exact l4s_OFree_some (h.fetch _ (by rw [hf]; simp))
  · split
    · exact l4s_OFree_some (l4s_free_wrapped hb (l4s_free_sqlair hb _).1)
    · split
      · exact h.closeErr
      · exact l4s_OFree_some (l4s_free_wrapped hb (by rcases hb with rfl | rfl <;> simp))

theorem l4s_loopRes_free {b : Err} (hb : b.l4s_sought) {ce : Option Err} (hce : l4s_OFree b ce) (dv : Bool)
    (l : List (Except Err Row)) (hf : ∀ e, Except.error e ∈ l → e.l4s_free b) (acc : List Nat) :
    l4s_OFree b (loopRes ce dv l acc).2 := by
  induction l generalizing acc with
  | nil => exact hce
  | cons x rest ih =>
    cases x with
    | error e => exact l4s_OFree_some (hf e (by simp))
    | ok row =>
      unfold loopRes
      cases dv
      · exact l4s_OFree_some (l4s_free_wrapped hb (l4s_free_sqlair hb _).1)
      · cases row.scanOK
        · exact l4s_OFree_some (l4s_free_wrapped hb (by rcases hb with rfl | rfl <;> simp))
        · exact ih (fun e he => hf e (by simp [he])) _

theorem l4s_getAllSpec_free {b : Err} (hb : b.l4s_sought) {s : Script} (h : s.l4s_Free b) (n : Nat) (dv : Bool) :
    l4s_OFree b (getAllSpec s n dv).err := by
  have hl := l4s_loopRes_free hb h.closeErr dv s.fetch h.fetch []
  unfold getAllSpec
  by_cases hrej : (!s.hasOutputs && decide (n > 0)) = true
  · rw [if_pos hrej]; exact l4s_OFree_some (l4s_free_sqlair hb _)
  · rw [if_neg hrej]
    cases hoe : s.openErr with
    | some e => exact l4s_OFree_some (h.openErr _ hoe)
    | none =>
      cases hout : s.hasOutputs with
      | false => exact l4s_OFree_none b
      | true =>
        dsimp only
        rw [if_pos rfl]
        cases hlr : (loopRes s.closeErr dv s.fetch []).2 with
        | some e => exact l4s_OFree_some (hl _ hlr)
        | none =>
          dsimp only
          cases (loopRes s.closeErr dv s.fetch []).1.isEmpty
          · exact l4s_OFree_none b
          · exact l4s_OFree_some (l4s_free_noRows hb)

theorem l4s_getAllArgsSpec_free {b : Err} (hb : b.l4s_sought) {s : Script} (h : s.l4s_Free b)
    (args : List SliceArg) (dv : Bool) : l4s_OFree b (getAllArgsSpec s args dv).err := by
  rcases getAllArgsSpec_cases s args dv with ⟨x, hx⟩ | hx | hx <;> rw [hx]
  · exact l4s_OFree_some (l4s_free_sqlair hb _)
  · unfold badElemSpec
    split
    · exact l4s_OFree_some (l4s_free_sqlair hb _)
    · exact l4s_getSpec_free hb h _
  · exact l4s_getAllSpec_free hb h _ dv

theorem l4s_iterOpen_free {b : Err} {s : Script} (h : s.l4s_Free b) (w : World) : (iterOpen s w).1.l4s_Free b := by
  refine ⟨by rw [iterOpen_err]; exact h.openErr, fun r hr => ?_⟩
  rw [iterOpen_rows] at hr
  cases hs : s.opensRows
  · rw [Script.openRows_of_not_opensRows hs] at hr; cases hr
  · rw [Script.openRows_of_opensRows hs] at hr; cases hr
    exact ⟨l4s_OFree_none b, h.closeErr, h.fetch⟩

end Sqlair.Rt
