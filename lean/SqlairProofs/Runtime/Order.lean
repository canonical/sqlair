/-
  Runtime, order of delivery (C14).  "Rows in driver order, each exactly once" is said with `delivered`, the rows made
  current by the successful `Next` calls of a call sequence, and `Iter.remaining`, the driver results still ahead of the
  iterator: `delivered` is a prefix of the leading successful fetches (`delivered_prefix`), and all of them when nothing
  closes or cancels and `Next` is called often enough (`delivered_complete`); a row that `Get` stores is the current
  one, and the current row is the last one delivered.  Every `Close` of a call sequence returns what a `Close` at its
  end would (`run_closed_eq_final`).
-/
import SqlairProofs.Runtime.Protocol

namespace Sqlair.Rt

theorem run_closed_eq_final (it : Iter) (w : World) (cs : List Call) :
    ∀ e, Out.closed e ∈ (run it w cs).2.2 → e = ((run it w cs).1.close (run it w cs).2.1).2.2 := by
  induction cs generalizing it w with
  | nil => simp
  | cons c cs ih =>
    rw [run_cons]
    intro e he
    rcases List.mem_cons.1 he with he | he
    · cases c with
      | close =>
        -- the iterator keeps the error this `Close` returned, and has no rows from here on
        obtain ⟨h1, h2, _⟩ := run_of_rows_none (it := (it.close w).1) (Iter.close_rows it w) (it.close w).2.1 cs
        rw [step_close, Iter.close_of_rows_none h1, h2, Iter.close_err]
        exact Out.closed.inj he
      | next => simp at he
      | get a => simp at he
      | cancel => simp at he
    · exact ih _ _ e he

theorem run_closed_of_pending {it : Iter} (hwf : it.WF) {e : Err} (h : it.pending = some e) (w : World)
    (cs : List Call) :
    ((run it w cs).1.close (run it w cs).2.1).2.2 = some e ∧
    ∀ e', Out.closed e' ∈ (run it w cs).2.2 → e' = some e := by
  have hfin := Iter.close_of_pending (run_pending hwf h w cs) (run it w cs).2.1
  exact ⟨hfin, fun e' he' => (run_closed_eq_final it w cs e' he').trans hfin⟩

def Iter.remaining (it : Iter) : List (Except Err Row) :=
  match it.err, it.rows with
  | none, some r => if r.closed then [] else r.fetch
  | _, _ => []

def leadRows : List (Except Err Row) → List Row
  | .ok r :: rest => r :: leadRows rest
  | _ => []

def okRows : List (Except Err Row) → List Row
  | [] => []
  | .ok r :: rest => r :: okRows rest
  | .error _ :: rest => okRows rest

def Iter.curId (it : Iter) : Option Nat := (it.rows.bind (·.cur)).map (·.id)

theorem leadRows_prefix_okRows (l : List (Except Err Row)) : leadRows l <+: okRows l := by
  induction l with
  | nil => simp [leadRows, okRows]
  | cons x rest ih =>
    cases x with
    | ok r => simpa [leadRows, okRows] using ih
    | error e => simp [leadRows]

theorem leadRows_map_ok (rows : List Row) : leadRows (rows.map .ok) = rows := by
  induction rows with
  | nil => rfl
  | cons r rest ih => simp [leadRows, ih]

theorem okRows_map_ok (rows : List Row) : okRows (rows.map .ok) = rows := by
  induction rows with
  | nil => rfl
  | cons r rest ih => simp [okRows, ih]

theorem leadRows_append_error (oks : List Row) (e : Err) (rest : List (Except Err Row)) :
    leadRows (oks.map .ok ++ .error e :: rest) = oks := by
  induction oks with
  | nil => rfl
  | cons r oks ih => simp [leadRows, ih]

theorem leadRows_succ_le {l : List (Except Err Row)} {n : Nat} {row : Row} (hn : n ≤ (leadRows l).length)
    (h : l[n]? = some (.ok row)) : n + 1 ≤ (leadRows l).length := by
  induction l generalizing n with
  | nil => rw [List.getElem?_nil] at h; cases h
  | cons x t ih =>
    cases x with
    | error e =>
      obtain rfl : n = 0 := Nat.le_zero.1 hn
      rw [List.getElem?_cons_zero] at h; cases h
    | ok r =>
      cases n with
      | zero => exact Nat.succ_le_succ (Nat.zero_le _)
      | succ m =>
        rw [List.getElem?_cons_succ] at h
        exact Nat.succ_le_succ (ih (Nat.le_of_succ_le_succ hn) h)

theorem Iter.remaining_of_rows_none {it : Iter} (h : it.rows = none) : it.remaining = [] := by
  unfold Iter.remaining; split <;> simp_all

theorem Iter.remaining_of_rows {it : Iter} {r : Rows} (he : it.err = none) (hr : it.rows = some r) :
    it.remaining = if r.closed then [] else r.fetch := by
  simp [Iter.remaining, he, hr]

theorem Iter.remaining_of_ended {it : Iter} (h : it.ended = true) : it.remaining = [] := by
  unfold Iter.remaining; split
  · rename_i r he hr; rw [if_pos (Iter.ended_of_rows he hr ▸ h)]
  · rfl

theorem Iter.next_remaining (it : Iter) (w : World) :
    ((it.next w).2.2 = false ∧ leadRows it.remaining = [] ∧ (it.next w).1.remaining = []) ∨
    (∃ row rest, it.remaining = .ok row :: rest ∧ (it.next w).2.2 = true ∧
      (it.next w).1.curId = some row.id ∧ (it.next w).1.remaining = rest) := by
  -- a `Next` returning false ends the iteration, so nothing remains after it
  have hfalse : (it.next w).2.2 = false → leadRows it.remaining = [] →
      (it.next w).2.2 = false ∧ leadRows it.remaining = [] ∧ (it.next w).1.remaining = [] :=
    fun hb hl => ⟨hb, hl, Iter.remaining_of_ended (Iter.ended_of_next_false it w hb)⟩
  cases hend : it.ended
  · obtain ⟨r, he, hr, hc⟩ := Iter.of_not_ended hend
    have hrem : it.remaining = r.fetch := by rw [Iter.remaining_of_rows he hr, hc]; rfl
    have hn := Iter.next_of_rows he hr w
    cases hf : r.fetch with
    | nil => exact .inl (hfalse (by rw [hn, Rows.next_nil hc hf]) (by rw [hrem, hf]; rfl))
    | cons x rest =>
      cases x with
      | error e => exact .inl (hfalse (by rw [hn, Rows.next_error hc hf]) (by rw [hrem, hf]; rfl))
      | ok row =>
        have hnr := Iter.next_row he hr hc hf w
        refine .inr ⟨row, rest, by rw [hrem, hf], by rw [hnr], by rw [hnr]; rfl, ?_⟩
        rw [Iter.remaining_of_rows (it := (it.next w).1) (r := { r with fetch := rest, cur := some row })
          (by rw [hnr]; exact he) (by rw [hnr])]
        simp [hc]
  · exact .inl (hfalse (by rw [Iter.next_of_ended hend]) (by rw [Iter.remaining_of_ended hend]; rfl))

theorem iterOpen_remaining (s : Script) (w : World) :
    (iterOpen s w).1.remaining = if s.opensRows then s.fetch else [] := by
  cases hop : s.opensRows
  · rw [Iter.remaining_of_rows_none (iterOpen_rows_none hop w)]; rfl
  · obtain ⟨he, hr⟩ := iterOpen_of_opensRows hop w
    rw [Iter.remaining_of_rows he hr]; rfl

theorem iterOpen_curId (s : Script) (w : World) : (iterOpen s w).1.curId = none := by
  unfold Iter.curId; rw [iterOpen_rows]; unfold Script.openRows; split <;> rfl

def delivered (it : Iter) (w : World) : List Call → List (Option Nat)
  | [] => []
  | c :: cs =>
    (if (step it w c).2.2 = .bool true then [(step it w c).1.curId] else []) ++
      delivered (step it w c).1 (step it w c).2.1 cs

theorem delivered_prefix (it : Iter) (w : World) (cs : List Call) :
    delivered it w cs <+: (leadRows it.remaining).map (fun r => some r.id) := by
  induction cs generalizing it w with
  | nil => simp [delivered]
  | cons c cs ih =>
    have hnil : ∀ it' w', it'.remaining = [] → delivered it' w' cs = [] :=
      fun it' w' h => List.prefix_nil.1 (by simpa [h, leadRows] using ih it' w')
    cases c with
    | cancel =>
      rcases Iter.cancel_ended it w with h | h
      · simp [delivered, hnil _ _ (Iter.remaining_of_ended h)]
      · simpa [delivered, h] using ih (it.cancel w).1 (it.cancel w).2
    | get a => simpa [delivered] using ih it w
    | close => simp [delivered, hnil _ _ (Iter.remaining_of_rows_none (Iter.close_rows it w))]
    | next =>
      rcases Iter.next_remaining it w with ⟨h1, h2, h3⟩ | ⟨row, rest, h1, h2, h3, h4⟩
      · simp [delivered, hnil _ _ h3, h1]
      · have := ih (it.next w).1 (it.next w).2.1
        rw [h4] at this
        simp only [delivered, step_next, h2, if_true, h3, h1, leadRows, List.map_cons, List.singleton_append]
        exact List.prefix_cons_inj _ |>.2 this

theorem delivered_eq_nil {it : Iter} (h : it.remaining = []) (w : World) (cs : List Call) :
    delivered it w cs = [] :=
  List.prefix_nil.1 (by simpa [h, leadRows] using delivered_prefix it w cs)

theorem delivered_complete (it : Iter) (w : World) (cs : List Call)
    (hc : ∀ c ∈ cs, c ≠ .cancel ∧ c ≠ .close)
    (hn : (leadRows it.remaining).length ≤ cs.count .next) :
    delivered it w cs = (leadRows it.remaining).map (fun r => some r.id) := by
  induction cs generalizing it w with
  | nil =>
    have : leadRows it.remaining = [] := by simpa using hn
    simp [delivered, this]
  | cons c cs ih =>
    have hcs : ∀ c ∈ cs, c ≠ .cancel ∧ c ≠ .close := fun c h => hc c (by simp [h])
    cases c with
    | cancel => exact absurd rfl (hc .cancel (by simp)).1
    | close => exact absurd rfl (hc .close (by simp)).2
    | get a => simpa [delivered] using ih it w hcs (by simpa using hn)
    | next =>
      rcases Iter.next_remaining it w with ⟨h1, h2, h3⟩ | ⟨row, rest, h1, h2, h3, h4⟩
      · simp [delivered, delivered_eq_nil h3, h1, h2]
      · have := ih (it.next w).1 (it.next w).2.1 hcs (by
          rw [h4]; rw [h1] at hn; simp [leadRows] at hn; omega)
        rw [h4] at this
        simp [delivered, h2, h3, h1, leadRows, this]

theorem Iter.get_row_cur {it : Iter} {a : GetArgs} {id : Nat} (h : it.get a = .row id) :
    it.curId = some id := by
  rcases Iter.get_cases it a with ⟨_, _, hg⟩ | ⟨_, _, hg⟩ | ⟨_, _, _, hg⟩ | ⟨r, _, _, hr, hg⟩ <;> rw [hg] at h
  · cases h
  · cases a <;> cases h
  · cases h
  · cases a
    · rcases Rows.scan_cases r with ⟨_, _, hs⟩ | ⟨_, _, hs⟩ | ⟨_, _, _, hs⟩ | ⟨row, _, _, hcur, hs⟩ <;> rw [hs] at h
      · cases h
      · cases h
      · cases h
      · cases hk : row.scanOK <;> rw [hk] at h <;> cases h
        simp [Iter.curId, hr, hcur]
    all_goals cases h

theorem Iter.curId_of_ended {it : Iter} (hwf : it.WF) (h : it.ended = true) : it.curId = none := by
  cases hr : it.rows with
  | none => simp [Iter.curId, hr]
  | some r =>
    have he := hwf.err_none hr
    have hc : r.closed = true := Iter.ended_of_rows he hr ▸ h
    simp [Iter.curId, hr, (hwf.rows_wf r hr).closed_cur hc]

theorem delivered_append (it : Iter) (w : World) (cs ds : List Call) :
    delivered it w (cs ++ ds) = delivered it w cs ++ delivered (run it w cs).1 (run it w cs).2.1 ds := by
  induction cs generalizing it w with
  | nil => simp [delivered]
  | cons c cs ih => simp [delivered, run_cons, ih]

/-- `d0`: what was delivered before `it` was reached (the induction over the calls needs it; for a fresh iterator it
    is `[]`). -/
theorem cur_is_last_delivered {it : Iter} (hwf : it.WF) (w : World) (cs : List Call) (d0 : List (Option Nat))
    (h0 : it.curId = none ∨ d0.getLast? = some it.curId) :
    (run it w cs).1.curId = none ∨
      (d0 ++ delivered it w cs).getLast? = some (run it w cs).1.curId := by
  induction cs generalizing it w d0 with
  | nil => simpa [delivered] using h0
  | cons c cs ih =>
    rw [run_cons]
    have hwf' := step_WF hwf w c
    have key : (step it w c).1.curId = none ∨
        (d0 ++ (if (step it w c).2.2 = .bool true then [(step it w c).1.curId] else [])).getLast?
          = some (step it w c).1.curId := by
      cases c with
      | get a => simpa using h0
      | close => left; simp [Iter.curId]
      | cancel =>
        rcases Iter.cancel_ended it w with h | h
        · left; exact Iter.curId_of_ended (Iter.cancel_WF hwf w) h
        · simpa [h] using h0
      | next =>
        cases hb : (it.next w).2.2
        · left; exact Iter.curId_of_ended (Iter.next_WF hwf w) (Iter.ended_of_next_false it w hb)
        · right; simp [hb]
    have := ih hwf' (step it w c).2.1 _ key
    simpa [delivered, List.append_assoc] using this

/-- From any open result set, but without `Close` and cancellation; `run_fetch_error_reported` (Runtime/Reach) is the
    statement for all call sequences on the iterator of `Query.Iter`. -/
theorem run_reaches_error {it : Iter} (hwf : it.WF) {r : Rows} {oks : List Row} {e : Err}
    {rest : List (Except Err Row)} (he : it.err = none) (hr : it.rows = some r) (ho : r.closed = false)
    (hf : r.fetch = oks.map .ok ++ .error e :: rest) (w : World) (cs : List Call)
    (hc : ∀ c ∈ cs, c ≠ .cancel ∧ c ≠ .close) (hn : oks.length < cs.count .next) :
    (run it w cs).1.pending = some e := by
  induction cs generalizing it w r oks with
  | nil => simp at hn
  | cons c cs ih =>
    have hcs : ∀ c ∈ cs, c ≠ .cancel ∧ c ≠ .close := fun c h => hc c (by simp [h])
    rw [run_cons]
    cases c with
    | cancel => exact absurd rfl (hc .cancel (by simp)).1
    | close => exact absurd rfl (hc .close (by simp)).2
    | get a => exact ih hwf he hr ho hf w hcs (by simpa using hn)
    | next =>
      cases oks with
      | nil =>
        obtain ⟨_, hp⟩ := Iter.next_fetch_error he hr ho (by simpa using hf) w
        exact run_pending (Iter.next_WF hwf w) hp _ cs
      | cons row oks =>
        have hnx := Rows.next_ok (row := row) ho (by simpa using hf) w
        have hn' := Iter.next_of_rows he hr w
        rw [hnx] at hn'
        refine ih (it := (it.next w).1) (Iter.next_WF hwf w) (by simpa using he) (by rw [hn']) (by simpa using ho) rfl _ hcs ?_
        simp at hn; omega

end Sqlair.Rt
