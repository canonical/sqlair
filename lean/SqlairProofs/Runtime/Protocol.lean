/-
  Runtime, iterator protocol (C14): every iterator reachable from `Query.Iter` satisfies `Iter.WF`
  (`reachable_WF`, which DESIGN.md also lists under C18); an iterator without result set is inert
  (`run_of_rows_none`); once the iteration has ended (`Iter.ended`) every `Next` returns false (`run_ended`); an error
  that ended it stays pending under every call and is what `Close` returns (`run_pending`, `Iter.close_of_pending`).
-/
import SqlairProofs.Runtime.Open

namespace Sqlair.Rt

/-- Invariant of the model of `sql.Rows`: every path that sets `lasterr` also closes the rows, and closing
    drops the current row. -/
structure Rows.WF (r : Rows) : Prop where
  lasterr_closed : r.lasterr ≠ none → r.closed = true
  closed_cur : r.closed = true → r.cur = none

structure Iter.WF (it : Iter) : Prop where
  err_rows : it.err ≠ none → it.rows = none
  rows_out : ∀ r, it.rows = some r → it.hasOutputs = true
  rows_wf : ∀ r, it.rows = some r → r.WF

theorem Rows.WF.lasterr_none {r : Rows} (h : r.WF) (ho : r.closed = false) : r.lasterr = none := by
  cases hl : r.lasterr with
  | none => rfl
  | some e => have := h.lasterr_closed (by simp [hl]); simp_all

theorem Iter.WF.err_none {it : Iter} {r : Rows} (h : it.WF) (hr : it.rows = some r) : it.err = none := by
  cases he : it.err with
  | none => rfl
  | some e => have := h.err_rows (by simp [he]); simp [hr] at this

theorem Rows.close_WF {r : Rows} (h : r.closed = true → r.WF) (w : World) : (r.close w).1.WF := by
  cases hc : r.closed
  · rw [Rows.close_of_open hc]; constructor <;> simp
  · rw [Rows.close_of_closed hc]; exact h hc

theorem Rows.next_WF {r : Rows} (h : r.WF) (w : World) : (r.next w).1.WF := by
  cases hc : r.closed
  · rcases hf : r.fetch with _ | ⟨_ | row, rest⟩
    · rw [Rows.next_nil hc hf]; exact Rows.close_WF (by simp [hc]) _
    · rw [Rows.next_error hc hf]; exact Rows.close_WF (by simp [hc]) _
    · rw [Rows.next_ok hc hf]; exact ⟨by simp [h.lasterr_none hc], by simp [hc]⟩
  · rw [Rows.next_of_closed hc]; exact h

theorem Rows.cancel_WF {r : Rows} (h : r.WF) (w : World) : (r.cancel w).1.WF := by
  cases hc : r.closed
  · rw [Rows.cancel_of_open hc]; exact Rows.close_WF (by simp [hc]) _
  · rw [Rows.cancel_of_closed hc]; exact h

theorem iterOpen_WF (s : Script) (w : World) : (iterOpen s w).1.WF := by
  cases hop : s.opensRows
  · have hr : (iterOpen s w).1.rows = none :=
      iterOpen_rows_none hop w
    exact ⟨fun _ => hr, fun r h => absurd (hr.symm.trans h).symm (Option.some_ne_none r),
      fun r h => absurd (hr.symm.trans h).symm (Option.some_ne_none r)⟩
  · obtain ⟨hout, hoe⟩ := Script.opensRows_iff.1 hop
    refine ⟨fun h => absurd ((iterOpen_err s w).trans hoe) h,
      fun _ _ => (iterOpen_hasOutputs s w).trans hout, fun r h => ?_⟩
    rw [iterOpen_rows, Script.openRows_of_opensRows hop] at h
    cases h
    constructor <;> simp

theorem Iter.next_WF {it : Iter} (h : it.WF) (w : World) : (it.next w).1.WF := by
  rcases Iter.next_cases it w with hn | ⟨r, he, hr, hn⟩
  · rw [hn]; exact ⟨h.err_rows, h.rows_out, h.rows_wf⟩
  · rw [hn]
    refine ⟨by simp [he], fun _ _ => h.rows_out r hr, ?_⟩
    intro r' hr'
    simp at hr'
    subst hr'
    exact Rows.next_WF (h.rows_wf r hr) w

theorem Iter.close_WF (it : Iter) (w : World) : (it.close w).1.WF :=
  ⟨by simp, by simp, by simp⟩

theorem Iter.cancel_WF {it : Iter} (h : it.WF) (w : World) : (it.cancel w).1.WF := by
  cases hr : it.rows with
  | none => rw [Iter.cancel_of_rows_none hr]; exact h
  | some r =>
    rw [Iter.cancel_of_rows hr]
    refine ⟨fun he => by have := h.err_rows he; simp_all, fun _ _ => h.rows_out r hr, ?_⟩
    intro r' hr'
    simp at hr'
    subst hr'
    exact Rows.cancel_WF (h.rows_wf r hr) w

theorem step_WF {it : Iter} (h : it.WF) (w : World) (c : Call) : (step it w c).1.WF := by
  cases c with
  | next => exact Iter.next_WF h w
  | get a => exact h
  | close => exact Iter.close_WF it w
  | cancel => exact Iter.cancel_WF h w

theorem run_WF {it : Iter} (h : it.WF) (w : World) (cs : List Call) : (run it w cs).1.WF :=
  run_inv (P := fun it _ => it.WF) (fun _ w c h => step_WF h w c) h cs

/-- C18 / C14: every iterator reached from `Query.Iter` by any call sequence is well-formed (`Iter.WF`):
    one carrying an error has no rows, and rows exist only for a statement with outputs. -/
theorem reachable_WF (s : Script) (w : World) (cs : List Call) :
    (run (iterOpen s w).1 (iterOpen s w).2 cs).1.WF :=
  run_WF (iterOpen_WF s w) _ cs

theorem run_of_rows_none {it : Iter} (h : it.rows = none) (w : World) (cs : List Call) :
    (run it w cs).1.rows = none ∧ (run it w cs).1.err = it.err ∧ (run it w cs).2.1 = w := by
  refine run_inv (P := fun it' w' => it'.rows = none ∧ it'.err = it.err ∧ w' = w) ?_ ⟨h, rfl, rfl⟩ cs
  rintro it' w' c ⟨h1, h2, h3⟩
  cases c with
  | next => simp [Iter.next_of_rows_none h1, h1, h2, h3]
  | get a => simp [h1, h2, h3]
  | close => simp [Iter.close_of_rows_none h1, h1, h2, h3]
  | cancel => simp [Iter.cancel_of_rows_none h1, h1, h2, h3]

theorem run_rows_none_of_close (it : Iter) (w : World) (cs : List Call) (h : Call.close ∈ cs) :
    (run it w cs).1.rows = none := by
  induction cs generalizing it w with
  | nil => cases h
  | cons c cs ih =>
    rw [run_cons]
    rcases List.mem_cons.1 h with rfl | h
    · exact (run_of_rows_none (Iter.close_rows it w) _ cs).1
    · exact ih _ _ h

def Iter.ended (it : Iter) : Bool :=
  it.err.isSome || match it.rows with
    | none => true
    | some r => r.closed

theorem Iter.ended_of_err {it : Iter} {e : Err} (h : it.err = some e) : it.ended = true := by
  simp [Iter.ended, h]

theorem Iter.ended_of_rows_none {it : Iter} (h : it.rows = none) : it.ended = true := by
  simp [Iter.ended, h]

theorem Iter.ended_of_rows {it : Iter} {r : Rows} (he : it.err = none) (hr : it.rows = some r) :
    it.ended = r.closed := by
  simp [Iter.ended, he, hr]

theorem Iter.ended_of_closed {it : Iter} {r : Rows} (hr : it.rows = some r) (hc : r.closed = true) :
    it.ended = true := by
  simp [Iter.ended, hr, hc]

theorem Iter.of_not_ended {it : Iter} (h : it.ended = false) :
    ∃ r, it.err = none ∧ it.rows = some r ∧ r.closed = false := by
  rcases Option.eq_none_or_eq_some it.err with he | ⟨e, he⟩
  · rcases Option.eq_none_or_eq_some it.rows with hr | ⟨r, hr⟩
    · rw [Iter.ended_of_rows_none hr] at h; cases h
    · exact ⟨r, he, hr, Iter.ended_of_rows he hr ▸ h⟩
  · rw [Iter.ended_of_err he] at h; cases h

theorem Iter.close_ended (it : Iter) (w : World) : (it.close w).1.ended = true :=
  Iter.ended_of_rows_none (Iter.close_rows it w)

theorem Iter.cancel_ended (it : Iter) (w : World) : (it.cancel w).1.ended = true ∨ (it.cancel w).1 = it := by
  cases hr : it.rows with
  | none => right; rw [Iter.cancel_of_rows_none hr]
  | some r => left; rw [Iter.cancel_of_rows hr]; exact Iter.ended_of_closed rfl (Rows.cancel_closed r w)

theorem run_ended_of_close (it : Iter) (w : World) (cs : List Call) (h : Call.close ∈ cs) :
    (run it w cs).1.ended = true :=
  Iter.ended_of_rows_none (run_rows_none_of_close it w cs h)

theorem Iter.ended_of_next_false (it : Iter) (w : World) (h : (it.next w).2.2 = false) :
    (it.next w).1.ended = true := by
  rcases Option.eq_none_or_eq_some it.err with he | ⟨e, he⟩
  · rcases Option.eq_none_or_eq_some it.rows with hr | ⟨r, hr⟩
    · rw [Iter.next_of_rows_none hr]; exact Iter.ended_of_rows_none hr
    · rw [Iter.next_of_rows he hr] at h ⊢
      exact Iter.ended_of_closed rfl (Rows.next_false_closed r w h)
  · rw [Iter.next_of_err he]; exact Iter.ended_of_err he

theorem Iter.next_of_ended {it : Iter} (h : it.ended = true) (w : World) :
    it.next w = ({ it with started := true }, w, false) := by
  rcases Iter.next_cases it w with hn | ⟨r, he, hr, hn⟩
  · exact hn
  · rw [hn, Rows.next_of_closed (Iter.ended_of_rows he hr ▸ h)]
    simp [← hr]

theorem Iter.get_of_ended {it : Iter} (he : it.ended = true) (hs : it.started = true) (a : GetArgs) :
    ∃ e, it.get a = .err e := by
  rcases Iter.get_cases it a with ⟨e, _, hg⟩ | ⟨_, hs', _⟩ | ⟨_, _, _, hg⟩ | ⟨r, herr, _, hr, hg⟩
  · exact ⟨e, hg⟩
  · rw [hs] at hs'; cases hs'
  · exact ⟨_, hg⟩
  · have hc : r.closed = true := Iter.ended_of_rows herr hr ▸ he
    rw [hg]
    cases a
    · rcases Rows.scan_cases r with ⟨e, _, h⟩ | ⟨_, _, h⟩ | ⟨_, ho, _⟩ | ⟨_, _, ho, _⟩
      · rw [h]; exact ⟨_, rfl⟩
      · rw [h]; exact ⟨_, rfl⟩
      · rw [hc] at ho; cases ho
      · rw [hc] at ho; cases ho
    all_goals exact ⟨_, rfl⟩

theorem step_ended {it : Iter} (h : it.ended = true) (w : World) (c : Call) :
    (step it w c).1.ended = true := by
  cases c with
  | next => rw [step_next, Iter.next_of_ended h]; exact h
  | get a => exact h
  | close => exact Iter.close_ended it w
  | cancel =>
    rcases Iter.cancel_ended it w with h' | h'
    · exact h'
    · rw [step_cancel, h']; exact h

theorem run_ended {it : Iter} (h : it.ended = true) (w : World) (cs : List Call) :
    (run it w cs).1.ended = true ∧ ∀ b, Out.bool b ∈ (run it w cs).2.2 → b = false := by
  induction cs generalizing it w with
  | nil => exact ⟨h, by simp⟩
  | cons c cs ih =>
    rw [run_cons]
    refine ⟨(ih (step_ended h w c) _).1, fun b hb => ?_⟩
    rcases List.mem_cons.1 hb with hb | hb
    · cases c <;> simp [Iter.next_of_ended h] at hb
      exact hb
    · exact (ih (step_ended h w c) _).2 b hb

def Iter.pending (it : Iter) : Option Err :=
  it.err.or (it.rows.bind Rows.err)

theorem Iter.close_of_pending {it : Iter} {e : Err} (h : it.pending = some e) (w : World) :
    (it.close w).2.2 = some e := by
  cases hr : it.rows with
  | none => simpa [Iter.close_of_rows_none hr, Iter.pending, hr] using h
  | some r =>
    rw [Iter.close_of_rows hr]
    cases he : it.err with
    | some e' => simpa [Iter.pending, he] using h
    | none =>
      have hl : r.lasterr = some e := by simpa [Iter.pending, he, hr, Rows.err] using h
      cases hc : r.closed
      · simp [Rows.close_of_open hc, hl]
      · simp [Rows.close_of_closed hc, hl]

theorem Iter.ended_of_pending {it : Iter} (hwf : it.WF) {e : Err} (h : it.pending = some e) : it.ended = true := by
  cases hr : it.rows with
  | none => exact Iter.ended_of_rows_none hr
  | some r =>
    have hl : r.lasterr = some e := by simpa [Iter.pending, hwf.err_none hr, hr, Rows.err] using h
    rw [Iter.ended_of_rows (hwf.err_none hr) hr]
    exact (hwf.rows_wf r hr).lasterr_closed (by simp [hl])

theorem step_of_ended {it : Iter} (hwf : it.WF) (he : it.ended = true) (w : World) (c : Call) :
    (step it w c).2.1 = w ∧ (step it w c).1.pending = it.pending := by
  have hcl : ∀ r, it.rows = some r → r.closed = true := fun r hr =>
    Iter.ended_of_rows (hwf.err_none hr) hr ▸ he
  cases c with
  | next => rw [step_next, Iter.next_of_ended he]; exact ⟨rfl, rfl⟩
  | get a => exact ⟨rfl, rfl⟩
  | close =>
    cases hr : it.rows with
    | none => rw [step_close, Iter.close_of_rows_none hr]; exact ⟨rfl, by simp [Iter.pending, hr]⟩
    | some r =>
      rw [step_close, Iter.close_of_rows hr, Rows.close_of_closed (hcl r hr)]
      exact ⟨rfl, by simp [Iter.pending, hr, Rows.err]⟩
  | cancel =>
    cases hr : it.rows with
    | none => rw [step_cancel, Iter.cancel_of_rows_none hr]; exact ⟨rfl, rfl⟩
    | some r =>
      rw [step_cancel, Iter.cancel_of_rows hr, Rows.cancel_of_closed (hcl r hr)]
      exact ⟨rfl, by simp [Iter.pending, hr]⟩

theorem run_pending {it : Iter} (hwf : it.WF) {e : Err} (h : it.pending = some e) (w : World) (cs : List Call) :
    (run it w cs).1.pending = some e :=
  (run_inv (P := fun it _ => it.WF ∧ it.pending = some e)
    (fun _ w c h => ⟨step_WF h.1 w c, (step_of_ended h.1 (Iter.ended_of_pending h.1 h.2) w c).2.trans h.2⟩) ⟨hwf, h⟩ cs).2

/-! One `Next` on an open result set, by the driver's next fetch.  At the end of the rows `Rows.close` stores the close
    error of the rows, so it is `pending` like a fetch error; `next_eof` says what the `Close` that follows returns
    instead, which covers `closeErr = none` too. -/

theorem Iter.next_eof {it : Iter} {r : Rows} (he : it.err = none) (hr : it.rows = some r) (ho : r.closed = false)
    (hl : r.lasterr = none) (hf : r.fetch = []) (w w2 : World) :
    (it.next w).2.2 = false ∧ ((it.next w).1.close w2).2.2 = r.closeErr := by
  have hn := Iter.next_of_rows he hr w
  rw [Rows.next_nil ho hf] at hn
  refine ⟨by rw [hn], ?_⟩
  rw [hn, Iter.close_of_rows rfl, Rows.close_of_closed (Rows.close_closed _ _)]
  simp [he, Rows.close_of_open, ho, hl]

theorem Iter.next_row {it : Iter} {r : Rows} {row : Row} {rest : List (Except Err Row)} (he : it.err = none)
    (hr : it.rows = some r) (ho : r.closed = false) (hf : r.fetch = .ok row :: rest) (w : World) :
    it.next w = ({ it with started := true, rows := some { r with fetch := rest, cur := some row } },
      w.emit .next, true) := by
  rw [Iter.next_of_rows he hr, Rows.next_ok ho hf]

theorem Iter.get_after_row {it : Iter} {r : Rows} {row : Row} {rest : List (Except Err Row)} (he : it.err = none)
    (hr : it.rows = some r) (ho : r.closed = false) (hl : r.lasterr = none) (hf : r.fetch = .ok row :: rest)
    (w : World) :
    (it.next w).1.get .valid = (if row.scanOK then .row row.id else .err (.wrapped .scan)) ∧
    (it.next w).1.get .invalid = .err (.wrapped (.sqlair "scan-args")) := by
  rw [Iter.next_row he hr ho hf]
  cases hk : row.scanOK <;> simp [Iter.get, he, Rows.scan, hl, ho, hk]

theorem Iter.next_fetch_error {it : Iter} {r : Rows} {e : Err} {rest : List (Except Err Row)}
    (he : it.err = none) (hr : it.rows = some r) (ho : r.closed = false)
    (hf : r.fetch = .error e :: rest) (w : World) :
    (it.next w).2.2 = false ∧ (it.next w).1.pending = some e := by
  rw [Iter.next_of_rows he hr, Rows.next_error ho hf]
  simp [Rows.close_of_open, ho, Iter.pending, he, Rows.err]

theorem Iter.cancel_open {it : Iter} {r : Rows}
    (he : it.err = none) (hr : it.rows = some r) (ho : r.closed = false) (hl : r.lasterr = none) (w : World) :
    (it.cancel w).1.pending = some .ctx := by
  rw [Iter.cancel_of_rows hr]
  simp [Rows.cancel_of_open ho, hl, Rows.close_of_open, ho, Iter.pending, he, Rows.err]

end Sqlair.Rt
