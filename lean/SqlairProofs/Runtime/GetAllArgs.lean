/-
  `Query.GetAll` with its argument checks (`queryGetAllArgs`, SqlairModel/GetAllArgs.lean): the result as a function of
  the script and the arguments (`getAllArgsSpec`), and the three things the call can be (`queryGetAllArgs_cases`):
  refused, a row loop (`queryGetAll`), or, with an argument of a bad element kind, a `Next` after which the kind is
  looked at, which leaves the world that `Get` without destinations leaves.
-/
import SqlairModel.GetAllArgs
import SqlairProofs.Runtime.Get
import SqlairProofs.Runtime.GetAll

namespace Sqlair.Rt

def Script.firstRow (s : Script) : Bool :=
  s.opensRows && match s.fetch with | .ok _ :: _ => true | _ => false

theorem iterOpen_next (s : Script) (w : World) :
    ((iterOpen s w).1.next (iterOpen s w).2).2.2 = s.firstRow := by
  have hrem := iterOpen_remaining s w
  unfold Script.firstRow
  rcases Iter.next_remaining (iterOpen s w).1 (iterOpen s w).2 with ⟨hb, hl, _⟩ | ⟨row, rest, hr, hb, _⟩
  · rw [hb]
    rw [hrem] at hl
    cases hs : s.opensRows
    · rfl
    · rcases hf : s.fetch with _ | ⟨_ | _, _⟩ <;> simp_all [leadRows]
  · rw [hb, hrem] at *
    cases hs : s.opensRows <;> rw [hs] at hr
    · cases hr
    · simp only [if_true] at hr; rw [hr]; rfl

/-- the result of `GetAll` with an argument of a bad element kind: the kind is looked at when the first row
    arrives; without a first row the call ends as `Run` (`Get` without destinations) does -/
def badElemSpec (s : Script) : GetAllResult :=
  if s.firstRow then { err := some (.sqlair "getall-elem") } else { err := (getSpec s {}).err }

def getAllArgsSpec (s : Script) (args : List SliceArg) (dv : Bool) : GetAllResult :=
  if !s.hasOutputs && decide (args.length > 0) then { err := some (.sqlair "outputs-not-referenced") } else
  if args.any SliceArg.rejectedUpFront then { err := some (.sqlair "getall-args") } else
  if args.contains .badElem then badElemSpec s else getAllSpec s args.length dv

theorem getAllArgsSpec_cases (s : Script) (args : List SliceArg) (dv : Bool) :
    (∃ x, getAllArgsSpec s args dv = { err := some (.sqlair x) }) ∨
    getAllArgsSpec s args dv = badElemSpec s ∨
    getAllArgsSpec s args dv = getAllSpec s args.length dv := by
  unfold getAllArgsSpec
  split
  · exact .inl ⟨_, rfl⟩
  · split
    · exact .inl ⟨_, rfl⟩
    · split
      · exact .inr (.inl rfl)
      · exact .inr (.inr rfl)

theorem queryGetAllArgs_badElem {s : Script} {args : List SliceArg}
    (h1 : (!s.hasOutputs && decide (args.length > 0)) = false) (h2 : args.any SliceArg.rejectedUpFront = false)
    (h3 : args.contains .badElem = true) (dv : Bool) (w : World) :
    queryGetAllArgs s args dv w =
      (if s.firstRow then { err := some (.sqlair "getall-elem") } else { err := (queryGet s {} w).1.err },
       (queryGet s {} w).2) := by
  rw [← iterOpen_next s w]
  unfold queryGetAllArgs queryGet
  simp only [h1, h2, h3, Bool.false_eq_true, if_false, if_true]
  cases ((iterOpen s w).1.next (iterOpen s w).2).2.2 <;> simp
  · cases ((iterOpen s w).1.next (iterOpen s w).2).1.close ((iterOpen s w).1.next (iterOpen s w).2).2.1 |>.2.2
    · cases s.hasOutputs <;> rfl
    · rfl
  · cases ((iterOpen s w).1.next (iterOpen s w).2).1.get .invalid <;> rfl

theorem queryGetAllArgs_cases (s : Script) (args : List SliceArg) (dv : Bool) (w : World) :
    (∃ x, queryGetAllArgs s args dv w = ({ err := some (.sqlair x) }, w) ∧
      getAllArgsSpec s args dv = { err := some (.sqlair x) }) ∨
    ((queryGetAllArgs s args dv w).1 = badElemSpec s ∧
      (queryGetAllArgs s args dv w).2 = (queryGet s {} w).2 ∧ getAllArgsSpec s args dv = badElemSpec s) ∨
    (queryGetAllArgs s args dv w = queryGetAll s args.length dv w ∧
      getAllArgsSpec s args dv = getAllSpec s args.length dv) := by
  unfold getAllArgsSpec
  by_cases h1 : (!s.hasOutputs && decide (args.length > 0)) = true
  · rw [if_pos h1]; exact .inl ⟨_, by unfold queryGetAllArgs; rw [if_pos h1], rfl⟩
  rw [if_neg h1]
  by_cases h2 : args.any SliceArg.rejectedUpFront = true
  · rw [if_pos h2]; exact .inl ⟨_, by unfold queryGetAllArgs; rw [if_neg h1, if_pos h2], rfl⟩
  rw [if_neg h2]
  by_cases h3 : args.contains .badElem = true
  · rw [if_pos h3, queryGetAllArgs_badElem (eq_false_of_ne_true h1) (eq_false_of_ne_true h2) h3, queryGet_result]
    exact .inr (.inl ⟨rfl, rfl, rfl⟩)
  · rw [if_neg h3]
    exact .inr (.inr ⟨by unfold queryGetAllArgs; rw [if_neg h1, if_neg h2, if_neg h3], rfl⟩)

theorem queryGetAllArgs_result (s : Script) (args : List SliceArg) (dv : Bool) (w : World) :
    (queryGetAllArgs s args dv w).1 = getAllArgsSpec s args dv := by
  rcases queryGetAllArgs_cases s args dv w with ⟨x, h, h'⟩ | ⟨h, _, h'⟩ | ⟨h, h'⟩ <;> rw [h, h']
  exact queryGetAll_result s _ dv w

theorem queryGetAllArgs_ok_arg {s : Script} (ho : s.hasOutputs = true) (dv : Bool) (w : World) :
    queryGetAllArgs s [.ok] dv w = queryGetAll s 1 dv w := by
  simp [queryGetAllArgs, ho, SliceArg.rejectedUpFront]

theorem getAllArgsSpec_ok_arg {s : Script} (ho : s.hasOutputs = true) (dv : Bool) :
    getAllArgsSpec s [.ok] dv = getAllSpec s 1 dv := by
  simp [getAllArgsSpec, ho, SliceArg.rejectedUpFront]

theorem badElemSpec_appended (s : Script) : (badElemSpec s).appended = [] := by
  unfold badElemSpec; split <;> rfl

theorem badElemSpec_err_of_outputs {s : Script} (ho : s.hasOutputs = true) : (badElemSpec s).err ≠ none := by
  unfold badElemSpec
  by_cases hfr : s.firstRow = true
  · simp [hfr]
  · -- a `Get` that succeeds on a statement with outputs has met a first row
    rw [if_neg hfr]
    intro h
    obtain ⟨row, rest, hf, _⟩ := (getSpec_ok h).2 ho
    have hoe : s.openErr = none := by
      cases hoe : s.openErr with
      | none => rfl
      | some e => rw [getSpec_of_openErr hoe] at h; cases h
    exact hfr (by simp [Script.firstRow, Script.opensRows_iff.2 ⟨ho, hoe⟩, hf])

theorem badElemSpec_of_openErr {s : Script} {e : Err} (h : s.openErr = some e) : badElemSpec s = { err := some e } := by
  have hf : s.firstRow = false := by simp [Script.firstRow, Script.not_opensRows_of_openErr h]
  simp [badElemSpec, hf, getSpec_of_openErr h]

theorem getAllArgsSpec_empty {s : Script} (ho : s.hasOutputs = true) (hoe : s.openErr = none)
    (hf : s.fetch = []) {args : List SliceArg} (ha : args.any SliceArg.rejectedUpFront = false) (dv : Bool) :
    (getAllArgsSpec s args dv).err = some (s.closeErr.getD .noRows) := by
  have hfr : s.firstRow = false := by simp [Script.firstRow, hf]
  unfold getAllArgsSpec
  rw [if_neg (by simp [ho]), if_neg (by simp [ha])]
  split
  · simp [badElemSpec, hfr, getSpec, ho, hoe, hf]
  · cases hce : s.closeErr <;> simp [getAllSpec, ho, hoe, hf, hce, loopRes]

theorem getAllArgsSpec_all_or_nothing (s : Script) (args : List SliceArg) (dv : Bool)
    (h : (getAllArgsSpec s args dv).err ≠ none) : (getAllArgsSpec s args dv).appended = [] := by
  rcases getAllArgsSpec_cases s args dv with ⟨x, hx⟩ | hx | hx <;> rw [hx] at h ⊢
  · exact badElemSpec_appended s
  · exact getAllSpec_all_or_nothing s _ dv h

theorem getAllArgsSpec_success {s : Script} {args : List SliceArg} {dv : Bool}
    (h : (getAllArgsSpec s args dv).err = none) (ho : s.hasOutputs = true) :
    (∀ x ∈ s.fetch, ∃ row, x = Except.ok row ∧ row.scanOK = true) ∧
    (getAllArgsSpec s args dv).appended = (okRows s.fetch).map (·.id) := by
  rcases getAllArgsSpec_cases s args dv with ⟨x, hx⟩ | hx | hx <;> rw [hx] at h ⊢
  · cases h
  · exact absurd h (badElemSpec_err_of_outputs ho)
  · obtain ⟨_, g2, _, _, _, g6⟩ := getAllSpec_success h ho
    exact ⟨g2, g6⟩

theorem getAllArgsSpec_of_openErr {s : Script} {e : Err} (h : s.openErr = some e) (args : List SliceArg) (dv : Bool) :
    (getAllArgsSpec s args dv).err = some e ∨ ∃ x, (getAllArgsSpec s args dv).err = some (.sqlair x) := by
  rcases getAllArgsSpec_cases s args dv with ⟨x, hx⟩ | hx | hx <;> rw [hx]
  · exact .inr ⟨x, rfl⟩
  · rw [badElemSpec_of_openErr h]; exact .inl rfl
  · rw [getAllSpec_of_openErr h]
    cases (!s.hasOutputs && decide (args.length > 0))
    · exact .inl rfl
    · exact .inr ⟨_, rfl⟩

end Sqlair.Rt
