/-
  Runtime: a sequence of `TX.Commit` / `TX.Rollback` calls on one transaction (`runFinish`).  The first reaches the
  driver; every later one returns `Err.txDone` and changes nothing (`runFinish_fresh`; C12: `tx_finish_once`,
  `tx_finish_perm` in Props/Runtime).
-/
import SqlairModel.Runtime

namespace Sqlair.Rt

/-- a finish call: `true` = Commit / `false` = Rollback, and what the driver would answer -/
abbrev FinCall := Bool × Option Err

def finEv (commit : Bool) : Ev := if commit then .commit else .rollback

/-- the events of `Commit` and `Rollback`.  The two other classes of driver events are `Ev.isOpen` (Runtime/Open,
    those of `Query.Iter`) and `Ev.isRow` (Runtime/Reach, those of the iteration); `stmtClose` is in both of these,
    `begin` in none of the three. -/
def Ev.isFin : Ev → Bool
  | .commit | .rollback => true
  | _ => false

/-- Concurrent calls are a sequence in some order, each call one atomic step: in sqlair.go the
    compare-and-swap on `tx.done` (`setDone`) decides, and the loser never reaches the driver. -/
def runFinish (tx : TX) (w : World) : List FinCall → TX × World × List (Option Err)
  | [] => (tx, w, [])
  | (c, fe) :: rest =>
    let (tx, w, e) := tx.finish c fe w
    let (tx, w, es) := runFinish tx w rest
    (tx, w, e :: es)

theorem runFinish_cons (tx : TX) (w : World) (c : FinCall) (rest : List FinCall) :
    runFinish tx w (c :: rest) =
      ((runFinish (tx.finish c.1 c.2 w).1 (tx.finish c.1 c.2 w).2.1 rest).1,
       (runFinish (tx.finish c.1 c.2 w).1 (tx.finish c.1 c.2 w).2.1 rest).2.1,
       (tx.finish c.1 c.2 w).2.2 :: (runFinish (tx.finish c.1 c.2 w).1 (tx.finish c.1 c.2 w).2.1 rest).2.2) := rfl

theorem TX.finish_done {tx : TX} (h : tx.done = true) (c : Bool) (fe : Option Err) (w : World) :
    tx.finish c fe w = (tx, w, some .txDone) := by
  simp [TX.finish, h]

theorem TX.finish_fresh {tx : TX} (h : tx.done = false) (c : Bool) (fe : Option Err) (w : World) :
    tx.finish c fe w = ({ done := true }, { log := w.log ++ [finEv c], inUse := w.inUse - 1 }, fe) := by
  simp [TX.finish, h, World.emit, finEv]

theorem runFinish_done {tx : TX} (h : tx.done = true) (w : World) (l : List FinCall) :
    runFinish tx w l = (tx, w, l.map fun _ => some .txDone) := by
  induction l with
  | nil => rfl
  | cons c rest ih => rw [runFinish_cons, TX.finish_done h]; simp [ih]

theorem runFinish_fresh {tx : TX} (h : tx.done = false) (w : World) (c : FinCall) (rest : List FinCall) :
    runFinish tx w (c :: rest) =
      ({ done := true }, { log := w.log ++ [finEv c.1], inUse := w.inUse - 1 },
       c.2 :: rest.map fun _ => some .txDone) := by
  rw [runFinish_cons, TX.finish_fresh h, runFinish_done rfl]

theorem finEv_isFin (c : Bool) : (finEv c).isFin = true := by cases c <;> rfl

end Sqlair.Rt
