/-
  `Query.GetAll` (`queryGetAll`).  The row loop never runs out of fuel and computes a simple recursive function of the
  fetch list (`loopRes`, `getAllLoop_spec`); hence the result as a function of the script alone (`getAllSpec`,
  `queryGetAll_result`).  For the world the call leaves (`queryGetAll_world`), the row loop is a call sequence on the
  iterator (`getAllLoop_as_run`), so the closed form of Runtime/Reach applies (`run_world_of_ended`).
-/
import SqlairProofs.Runtime.Reach

namespace Sqlair.Rt

theorem getAllLoop_done {it : Iter} {w : World} (h : (it.next w).2.2 = false) (f : Nat) (acc : List Nat) (dv : Bool) :
    getAllLoop (f + 1) it w acc dv = ((it.next w).1, (it.next w).2.1, acc, none) := by
  simp [getAllLoop, h]

theorem getAllLoop_row {it : Iter} {w : World} {dv : Bool} {id : Nat} (h : (it.next w).2.2 = true)
    (hg : (it.next w).1.get (if dv then .valid else .invalid) = .row id) (f : Nat) (acc : List Nat) :
    getAllLoop (f + 1) it w acc dv = getAllLoop f (it.next w).1 (it.next w).2.1 (acc ++ [id]) dv := by
  simp [getAllLoop, h, hg]

theorem getAllLoop_err {it : Iter} {w : World} {dv : Bool} {e : Err} (h : (it.next w).2.2 = true)
    (hg : (it.next w).1.get (if dv then .valid else .invalid) = .err e) (f : Nat) (acc : List Nat) :
    getAllLoop (f + 1) it w acc dv =
      (((it.next w).1.close (it.next w).2.1).1, ((it.next w).1.close (it.next w).2.1).2.1, acc, some e) := by
  simp [getAllLoop, h, hg]

theorem getAllLoop_outcome {it : Iter} {w : World} {dv : Bool} {x : Option Nat} (h : (it.next w).2.2 = true)
    (hg : (it.next w).1.get (if dv then .valid else .invalid) = .outcome x) (f : Nat) (acc : List Nat) :
    getAllLoop (f + 1) it w acc dv = ((it.next w).1, (it.next w).2.1, acc, some (.sqlair "unreachable")) := by
  simp [getAllLoop, h, hg]

theorem getAllLoop_ended {it : Iter} (h : it.ended = true) (w : World) (f : Nat) (acc : List Nat) (dv : Bool) :
    getAllLoop (f + 1) it w acc dv = ({ it with started := true }, w, acc, none) := by
  rw [getAllLoop_done (by rw [Iter.next_of_ended h]), Iter.next_of_ended h]

/-- the rows `GetAll` appends and the error it reports (the loop's, else that of the `Close` after it), given the
    fetch results left -/
def loopRes (ce : Option Err) (dv : Bool) : List (Except Err Row) → List Nat → List Nat × Option Err
  | [], acc => (acc, ce)
  | .error e :: _, acc => (acc, some e)
  | .ok row :: rest, acc =>
    if dv then
      if row.scanOK then loopRes ce dv rest (acc ++ [row.id]) else (acc, some (.wrapped .scan))
    else (acc, some (.wrapped (.sqlair "scan-args")))

/-- The bound on the fuel: one `Next` per remaining fetch result plus the one that meets the end.  The fuel is the
    model's alone (in Go the loop is `for iter.Next()`); under this bound its out-of-fuel error is never reported.
    The three conjuncts: the rows appended; the loop's error, else what a `Close` after the loop returns; the exits
    taken (`gaLoop_exit`). -/
theorem getAllLoop_spec (l : List (Except Err Row)) :
    ∀ (f : Nat) (it : Iter) (r : Rows) (w : World) (acc : List Nat) (dv : Bool),
      it.err = none → it.rows = some r → r.closed = false → r.lasterr = none → r.fetch = l →
      l.length + 1 ≤ f →
      (getAllLoop f it w acc dv).2.2.1 = (loopRes r.closeErr dv l acc).1 ∧
      (getAllLoop f it w acc dv).2.2.2.or
          ((getAllLoop f it w acc dv).1.close (getAllLoop f it w acc dv).2.1).2.2
        = (loopRes r.closeErr dv l acc).2 ∧
      ((getAllLoop f it w acc dv).2.2.2 = none ∨
        ∃ e, (getAllLoop f it w acc dv).2.2.2 = some (.wrapped e) ∧ (getAllLoop f it w acc dv).1.rows = none) := by
  induction l with
  | nil =>
    intro f it r w acc dv he hr ho hl hf hlen
    obtain _ | f := f
    · exact absurd hlen (Nat.not_succ_le_zero _)
    obtain ⟨hb, hcl⟩ := Iter.next_eof he hr ho hl hf w (it.next w).2.1
    rw [getAllLoop_done hb]
    exact ⟨rfl, by simpa [loopRes] using hcl, .inl rfl⟩
  | cons x rest ih =>
    intro f it r w acc dv he hr ho hl hf hlen
    obtain _ | f := f
    · exact absurd hlen (Nat.not_succ_le_zero _)
    cases x with
    | error e =>
      obtain ⟨hb, hp⟩ := Iter.next_fetch_error he hr ho hf w
      rw [getAllLoop_done hb]
      exact ⟨rfl, by simpa [loopRes] using Iter.close_of_pending hp _, .inl rfl⟩
    | ok row =>
      have hn := Iter.next_row he hr ho hf w
      have hb : (it.next w).2.2 = true := by rw [hn]
      have he' : (it.next w).1.err = none := by rw [hn]; exact he
      have hr' : (it.next w).1.rows = some { r with fetch := rest, cur := some row } := by rw [hn]
      obtain ⟨hg, hgi⟩ := Iter.get_after_row he hr ho hl hf w
      cases dv with
      | false =>
        rw [getAllLoop_err (dv := false) hb hgi]
        simp [loopRes]
      | true =>
        cases hk : row.scanOK <;> simp only [hk, if_true, if_false, Bool.false_eq_true] at hg
        · rw [getAllLoop_err (dv := true) hb hg]
          simp [loopRes, hk]
        · rw [getAllLoop_row (dv := true) hb hg]
          simpa [loopRes, hk] using ih f _ _ (it.next w).2.1 (acc ++ [row.id]) true he' hr' ho hl rfl
            (Nat.le_of_succ_le_succ hlen)

theorem loopRes_acc_prefix (ce : Option Err) (dv : Bool) (l : List (Except Err Row)) (acc : List Nat) :
    ∃ t, (loopRes ce dv l acc).1 = acc ++ t := by
  induction l generalizing acc with
  | nil => exact ⟨[], by simp [loopRes]⟩
  | cons x rest ih =>
    cases x with
    | error e => exact ⟨[], by simp [loopRes]⟩
    | ok row =>
      simp only [loopRes]
      split
      · split
        · obtain ⟨t, ht⟩ := ih (acc ++ [row.id]); exact ⟨row.id :: t, by simp [ht]⟩
        · exact ⟨[], by simp⟩
      · exact ⟨[], by simp⟩

theorem loopRes_none {ce : Option Err} {dv : Bool} {l : List (Except Err Row)} {acc : List Nat}
    (h : (loopRes ce dv l acc).2 = none) :
    ce = none ∧ (∀ x ∈ l, ∃ row, x = .ok row ∧ row.scanOK = true) ∧ (l ≠ [] → dv = true) ∧
      (loopRes ce dv l acc).1 = acc ++ (okRows l).map (·.id) := by
  induction l generalizing acc with
  | nil => simpa [loopRes, okRows] using h
  | cons x rest ih =>
    cases x with
    | error e => simp [loopRes] at h
    | ok row =>
      cases dv with
      | false => simp [loopRes] at h
      | true =>
        cases hk : row.scanOK with
        | false => simp [loopRes, hk] at h
        | true =>
          simp only [loopRes, hk, if_true] at h ⊢
          obtain ⟨h1, h2, _, h4⟩ := ih h
          refine ⟨h1, ?_, by simp, by simp [h4, okRows]⟩
          intro x hx
          rcases List.mem_cons.1 hx with rfl | hx
          · exact ⟨row, rfl, hk⟩
          · exact h2 x hx

theorem loopRes_ok_append {ce : Option Err} {dv : Bool} {oks : List Row} (l : List (Except Err Row))
    (acc : List Nat) (hs : ∀ r ∈ oks, r.scanOK = true) (hdv : oks ≠ [] → dv = true) :
    loopRes ce dv (oks.map .ok ++ l) acc = loopRes ce dv l (acc ++ oks.map (·.id)) := by
  induction oks generalizing acc with
  | nil => simp
  | cons row oks ih =>
    obtain rfl : dv = true := hdv (by simp)
    simp [loopRes, hs row (by simp), ih (acc ++ [row.id]) (fun r hr => hs r (by simp [hr])) (fun _ => rfl)]

theorem loopRes_scan_error {ce : Option Err} {oks : List Row} {bad : Row}
    {rest : List (Except Err Row)} (acc : List Nat)
    (hs : ∀ r ∈ oks, r.scanOK = true) (hb : bad.scanOK = false) :
    (loopRes ce true (oks.map .ok ++ .ok bad :: rest) acc).2 = some (.wrapped .scan) := by
  rw [loopRes_ok_append _ _ hs (fun _ => rfl)]; simp [loopRes, hb]

theorem queryGetAll_reject {s : Script} {n : Nat} (h : (!s.hasOutputs && decide (n > 0)) = true)
    (dv : Bool) (w : World) :
    queryGetAll s n dv w = ({ err := some (.sqlair "outputs-not-referenced") }, w) := by
  simp only [queryGetAll, h, if_true]

section
variable (s : Script) (n : Nat) (dv : Bool) (w : World)

/-- the row loop of `queryGetAll` (the fuel `s.fetch.length + 2` is the one the model gives it) and the `Close` after it -/
abbrev gaLoop := getAllLoop (s.fetch.length + 2) (iterOpen s w).1 (iterOpen s w).2 [] dv
abbrev gaClose := (gaLoop s dv w).1.close (gaLoop s dv w).2.1

theorem queryGetAll_eq (h : (!s.hasOutputs && decide (n > 0)) = false) :
    queryGetAll s n dv w =
      match (gaLoop s dv w).2.2.2 with
      | some e => ({ err := some e }, (gaLoop s dv w).2.1)
      | none =>
        match (gaClose s dv w).2.2 with
        | some e => ({ err := some e }, (gaClose s dv w).2.1)
        | none =>
          if (gaLoop s dv w).2.2.1.isEmpty && s.hasOutputs then ({ err := some .noRows }, (gaClose s dv w).2.1)
          else ({ err := none, appended := (gaLoop s dv w).2.2.1 }, (gaClose s dv w).2.1) := by
  simp only [queryGetAll, h]
  rfl

theorem gaLoop_cases :
    s.opensRows = false ∧ gaLoop s dv w = ({ (iterOpen s w).1 with started := true }, (iterOpen s w).2, [], none) ∨
    s.opensRows = true ∧
      (gaLoop s dv w).2.2.1 = (loopRes s.closeErr dv s.fetch []).1 ∧
      (gaLoop s dv w).2.2.2.or (gaClose s dv w).2.2 = (loopRes s.closeErr dv s.fetch []).2 ∧
      ((gaLoop s dv w).2.2.2 = none ∨
        ∃ e, (gaLoop s dv w).2.2.2 = some (.wrapped e) ∧ (gaLoop s dv w).1.rows = none) := by
  cases hop : s.opensRows
  · exact .inl ⟨rfl, getAllLoop_ended (Iter.ended_of_rows_none (iterOpen_rows_none hop w)) _ _ _ _⟩
  · obtain ⟨he, hr⟩ := iterOpen_of_opensRows hop w
    exact .inr ⟨rfl, getAllLoop_spec s.fetch _ _ _ _ [] dv he hr rfl rfl rfl (Nat.le_succ _)⟩
end

def getAllSpec (s : Script) (n : Nat) (dv : Bool) : GetAllResult :=
  if !s.hasOutputs && decide (n > 0) then { err := some (.sqlair "outputs-not-referenced") } else
  match s.openErr with
  | some e => { err := some e }
  | none =>
    if s.hasOutputs then
      match (loopRes s.closeErr dv s.fetch []).2 with
      | some e => { err := some e }
      | none =>
        if (loopRes s.closeErr dv s.fetch []).1.isEmpty then { err := some .noRows }
        else { err := none, appended := (loopRes s.closeErr dv s.fetch []).1 }
    else { err := none }

theorem queryGetAll_result (s : Script) (n : Nat) (dv : Bool) (w : World) :
    (queryGetAll s n dv w).1 = getAllSpec s n dv := by
  unfold getAllSpec
  cases hrej : (!s.hasOutputs && decide (n > 0))
  case true => rw [queryGetAll_reject hrej]; rfl
  rw [queryGetAll_eq s n dv w hrej]
  simp only [Bool.false_eq_true, if_false]
  rcases gaLoop_cases s dv w with ⟨hop, hloop⟩ | ⟨hop, h1, h2, _⟩
  · -- no rows: `Close` reports the statement's error, if any
    have hc : (gaClose s dv w).2.2 = s.openErr := by
      unfold gaClose
      rw [hloop, Iter.close_of_rows_none (it := { (iterOpen s w).1 with started := true }) (iterOpen_rows_none hop w)]
      exact iterOpen_err s w
    rw [show (gaLoop s dv w).2.2.2 = none by rw [hloop], hc, show (gaLoop s dv w).2.2.1 = [] by rw [hloop]]
    cases hoe : s.openErr with
    | some e => rfl
    | none =>
      have hout : s.hasOutputs = false := by simpa [Script.opensRows_iff, hoe] using Bool.eq_false_iff.1 hop
      simp [hout]
  · -- fresh rows: the loop and the `Close` after it compute `loopRes`
    obtain ⟨hout, hoe⟩ := Script.opensRows_iff.1 hop
    simp only [hoe, hout, if_true, ← h1, ← h2, Bool.and_true]
    cases (gaLoop s dv w).2.2.2
    · cases (gaClose s dv w).2.2
      · simp only [Option.none_or]; split <;> rfl
      · rfl
    · rfl

theorem getAllSpec_of_opensRows {s : Script} (hs : s.opensRows = true) (n : Nat) (dv : Bool) :
    getAllSpec s n dv =
      match (loopRes s.closeErr dv s.fetch []).2 with
      | some e => { err := some e }
      | none =>
        if (loopRes s.closeErr dv s.fetch []).1.isEmpty then { err := some .noRows }
        else { err := none, appended := (loopRes s.closeErr dv s.fetch []).1 } := by
  obtain ⟨hout, hoe⟩ := Script.opensRows_iff.1 hs
  simp [getAllSpec, hout, hoe]

theorem getAllSpec_of_openErr {s : Script} {e : Err} (h : s.openErr = some e) (n : Nat) (dv : Bool) :
    getAllSpec s n dv =
      { err := some (if !s.hasOutputs && decide (n > 0) then .sqlair "outputs-not-referenced" else e) } := by
  unfold getAllSpec; rw [h]
  cases (!s.hasOutputs && decide (n > 0)) <;> rfl

/-- C15, all-or-nothing slices (`getAll_all_or_nothing`): only the branch without error appends. -/
theorem getAllSpec_all_or_nothing (s : Script) (n : Nat) (dv : Bool) :
    (getAllSpec s n dv).err ≠ none → (getAllSpec s n dv).appended = [] := by
  unfold getAllSpec
  grind

/-- C15 (`getAll_success_complete`). -/
theorem getAllSpec_success {s : Script} {n : Nat} {dv : Bool} (h : (getAllSpec s n dv).err = none)
    (ho : s.hasOutputs = true) :
    s.openErr = none ∧ (∀ x ∈ s.fetch, ∃ row, x = .ok row ∧ row.scanOK = true) ∧ s.fetch ≠ [] ∧
      s.closeErr = none ∧ dv = true ∧ (getAllSpec s n dv).appended = (okRows s.fetch).map (·.id) := by
  have hoe : s.openErr = none := by
    cases hoe : s.openErr with
    | none => rfl
    | some e => rw [getAllSpec_of_openErr hoe] at h; cases h
  rw [getAllSpec_of_opensRows (Script.opensRows_iff.2 ⟨ho, hoe⟩)] at h ⊢
  cases hl : (loopRes s.closeErr dv s.fetch []).2 with
  | some e => simp [hl] at h
  | none =>
    obtain ⟨h1, h2, h3, h4⟩ := loopRes_none hl
    simp only [hl] at h ⊢
    split at h
    · simp at h
    · rename_i hne
      have hne' : s.fetch ≠ [] := by
        rintro hnil
        simp [hnil, loopRes] at hne
      rw [if_neg hne]
      exact ⟨hoe, h2, hne', h1, h3 hne', by simpa using h4⟩

theorem getAllSpec_fetch_error {s : Script} (hs : s.opensRows = true) {oks : List Row} {e : Err}
    {rest : List (Except Err Row)} (hf : s.fetch = oks.map .ok ++ .error e :: rest)
    (hk : ∀ r ∈ oks, r.scanOK = true) {dv : Bool} (hv : oks ≠ [] → dv = true) (n : Nat) :
    getAllSpec s n dv = { err := some e, appended := [] } := by
  rw [getAllSpec_of_opensRows hs, hf, loopRes_ok_append _ [] hk hv]
  rfl

/-- C15 (`getAll_success_of_all_ok`, `getAll_close_error_reported`): every fetch delivers a row, and every row converts. -/
theorem getAllSpec_all_ok {s : Script} (hs : s.opensRows = true) {rows : List Row} (hf : s.fetch = rows.map .ok)
    (hk : ∀ r ∈ rows, r.scanOK = true) (n : Nat) :
    getAllSpec s n true =
      match s.closeErr with
      | some e => { err := some e }
      | none => if rows = [] then { err := some .noRows } else { err := none, appended := rows.map (·.id) } := by
  have hl := loopRes_ok_append (ce := s.closeErr) (dv := true) [] [] hk (fun _ => rfl)
  rw [List.append_nil] at hl
  rw [getAllSpec_of_opensRows hs, hf, hl]
  cases s.closeErr <;> cases rows <;> simp [loopRes]

/-! ### the world `GetAll` leaves -/

theorem getAllLoop_as_run (f : Nat) : ∀ (it : Iter) (w : World) (acc : List Nat) (dv : Bool),
    ∃ cs, (getAllLoop f it w acc dv).1 = (run it w cs).1 ∧ (getAllLoop f it w acc dv).2.1 = (run it w cs).2.1 := by
  induction f with
  | zero => exact fun it w acc dv => ⟨[], rfl, rfl⟩
  | succ f ih =>
    intro it w acc dv
    cases hb : (it.next w).2.2
    · rw [getAllLoop_done hb]; exact ⟨[.next], rfl, rfl⟩
    · cases hg : (it.next w).1.get (if dv then .valid else .invalid) with
      | row id =>
        rw [getAllLoop_row hb hg]
        obtain ⟨cs, h1, h2⟩ := ih (it.next w).1 (it.next w).2.1 (acc ++ [id]) dv
        exact ⟨.next :: cs, h1, h2⟩
      | err e => rw [getAllLoop_err hb hg]; exact ⟨[.next, .close], rfl, rfl⟩
      | outcome x => rw [getAllLoop_outcome hb hg]; exact ⟨[.next], rfl, rfl⟩

/-- Neither exit of `getAllLoop` that has no counterpart in Go, out of fuel and "unreachable", is taken: their errors
    are not `.wrapped`. -/
theorem gaLoop_exit (s : Script) (dv : Bool) (w : World) :
    (gaLoop s dv w).2.2.2 = none ∨
      ∃ e, (gaLoop s dv w).2.2.2 = some (.wrapped e) ∧ (gaLoop s dv w).1.rows = none := by
  rcases gaLoop_cases s dv w with ⟨_, h⟩ | ⟨_, _, _, h⟩
  · left; rw [h]
  · exact h

theorem queryGetAll_world_calls (s : Script) (n : Nat) (dv : Bool) (w : World) :
    (queryGetAll s n dv w).2 = w ∧ (!s.hasOutputs && decide (n > 0)) = true ∨
    (!s.hasOutputs && decide (n > 0)) = false ∧
      ((queryGetAll s n dv w).2 = (gaLoop s dv w).2.1 ∧ (gaLoop s dv w).1.rows = none ∨
       (queryGetAll s n dv w).2 = (gaClose s dv w).2.1) := by
  cases hrej : (!s.hasOutputs && decide (n > 0))
  · refine .inr ⟨rfl, ?_⟩
    have heq := queryGetAll_eq s n dv w hrej
    rcases gaLoop_exit s dv w with hl | ⟨e, hl, hr⟩ <;> rw [hl] at heq
    · right; rw [heq]; cases (gaClose s dv w).2.2
      · dsimp only; split <;> rfl
      · rfl
    · exact .inl ⟨by rw [heq], hr⟩
  · left; rw [queryGetAll_reject hrej]; exact ⟨rfl, rfl⟩

theorem queryGetAll_world (s : Script) (n : Nat) (dv : Bool) (w : World) :
    (queryGetAll s n dv w).2 = w ∧ s.hasOutputs = false ∧ n > 0 ∨
    ∃ k, (queryGetAll s n dv w).2 = s.worldAt w k false ∧ (s.opensRows = false → k = 0) := by
  obtain ⟨cs, h1, h2⟩ := getAllLoop_as_run (s.fetch.length + 2) (iterOpen s w).1 (iterOpen s w).2 [] dv
  rcases queryGetAll_world_calls s n dv w with ⟨h, hrej⟩ | ⟨_, ⟨h, hr⟩ | h⟩ <;> rw [h]
  · simp only [Bool.and_eq_true, Bool.not_eq_true', decide_eq_true_eq] at hrej
    exact .inl ⟨rfl, hrej⟩
  · rw [h2]; exact .inr (run_world_of_ended s w cs (by rw [← h1]; exact Iter.ended_of_rows_none hr))
  · right
    have : (gaClose s dv w).2.1 = (run (iterOpen s w).1 (iterOpen s w).2 (cs ++ [.close])).2.1 := by
      rw [run_append]; simp only [gaClose, h1, h2]; rfl
    rw [this]
    exact run_world_of_ended s w _ (run_ended_of_close _ _ _ (by simp))

theorem queryGetAll_ran (s : Script) (n : Nat) (dv : Bool) (w : World) (h : s.hasOutputs = true ∨ n = 0) :
    ∃ k, (queryGetAll s n dv w).2 = s.worldAt w k false := by
  rcases queryGetAll_world s n dv w with ⟨_, h1, h2⟩ | ⟨k, hk, _⟩
  · rcases h with h | h
    · rw [h] at h1; cases h1
    · omega
  · exact ⟨k, hk⟩

theorem queryGetAll_of_not_run {s : Script} {e : Err} (he : s.openErr = some e) (hev : s.openEvents = [])
    (n : Nat) (dv : Bool) (w : World) :
    queryGetAll s n dv w =
      ({ err := some (if !s.hasOutputs && decide (n > 0) then .sqlair "outputs-not-referenced" else e) }, w) := by
  refine Prod.ext ?_ ?_
  · rw [queryGetAll_result, getAllSpec_of_openErr he]
  rcases queryGetAll_world s n dv w with ⟨h, _⟩ | ⟨k, h, h0⟩
  · exact h
  · rw [h, h0 (Script.not_opensRows_of_openErr he), s.worldAt_unopened (Script.not_opensRows_of_openErr he), hev]
    simp

end Sqlair.Rt
