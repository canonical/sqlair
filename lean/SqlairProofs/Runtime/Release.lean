/-
  Runtime: the accounting of `database/sql`'s rows handles, as definitions. `World.closes` counts the `Rows.Close`
  calls the driver has seen; `nOpen` and `nHeld` say what an iterator still owes (a result set not closed yet, a
  connection it keeps in use); `Bal it w base k` is the balance between the two: `base` connections in use besides
  the iterator's, `k` result sets closed once the iterator has closed its own.
  The C13 theorems say what an operation leaves open or in use through the closed form of the world,
  `Script.worldAt` (Runtime/Reach: `Script.worldAt_released`, `Script.worldAt_closes`).
-/
import SqlairModel.Runtime

namespace Sqlair.Rt

def World.closes (w : World) : Nat := w.log.count .rowsClose

def Rows.nOpen (r : Rows) : Nat := if r.closed then 0 else 1
def Rows.nHeld (r : Rows) : Nat := if !r.closed && r.holdsConn then 1 else 0

def Iter.nOpen (it : Iter) : Nat := match it.rows with | some r => r.nOpen | none => 0
def Iter.nHeld (it : Iter) : Nat := match it.rows with | some r => r.nHeld | none => 0

structure Bal (it : Iter) (w : World) (base k : Nat) : Prop where
  inUse : w.inUse = base + it.nHeld
  closes : w.closes + it.nOpen = k

end Sqlair.Rt
