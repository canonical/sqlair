/-
  Sequences of client calls on an iterator (`Call`, `step`, `run`, with the invariant principle `run_inv`), and the
  equations, by cases, of the `sql.Rows` model and of the `Iterator` operations on which the runtime proofs rest.
-/
import SqlairModel.Runtime

namespace Sqlair.Rt

theorem ite_sublist {α : Type} {c : Prop} [Decidable c] {a b l : List α} (ha : a.Sublist l) (hb : b.Sublist l) :
    (if c then a else b).Sublist l := by
  split <;> assumption

theorem count_eq_zero_of_all {α : Type} [BEq α] [LawfulBEq α] {l : List α} {p : α → Bool} (h : l.all p = true)
    {e : α} (he : p e = false) : l.count e = 0 := by
  rw [List.count_eq_zero]
  intro hm
  rw [List.all_eq_true.1 h e hm] at he
  cases he

theorem getElem?_of_drop_cons {α : Type} {l : List α} {n : Nat} {x : α} {rest : List α} (h : l.drop n = x :: rest) :
    l[n]? = some x := by
  have := List.getElem?_drop (xs := l) (i := n) (j := 0); rw [h] at this; simpa using this.symm

/-- `cancel` is no method of `Iterator`: it stands for the query's context being cancelled between two calls. -/
inductive Call where
  | next | get (a : GetArgs) | close | cancel
deriving DecidableEq, Repr

inductive Out where
  | bool (b : Bool) | got (g : GetOut) | closed (e : Option Err) | none
deriving DecidableEq, Repr

/-- Part of the model although it stands here: SqlairModel/Runtime has `Rows.cancel` only, and `runCalls` of Spec/L4
    writes this body out (`preCancel_eq`, Runtime/L4Link). -/
def Iter.cancel (it : Iter) (w : World) : Iter × World :=
  match it.rows with
  | some r => let (r, w) := r.cancel w; ({ it with rows := some r }, w)
  | none => (it, w)

def step (it : Iter) (w : World) : Call → Iter × World × Out
  | .next => let (it, w, b) := it.next w; (it, w, .bool b)
  | .get a => (it, w, .got (it.get a))
  | .close => let (it, w, e) := it.close w; (it, w, .closed e)
  | .cancel => let (it, w) := it.cancel w; (it, w, .none)

def run (it : Iter) (w : World) : List Call → Iter × World × List Out
  | [] => (it, w, [])
  | c :: cs =>
    let (it, w, o) := step it w c
    let (it, w, os) := run it w cs
    (it, w, o :: os)

@[simp] theorem run_nil (it : Iter) (w : World) : run it w [] = (it, w, []) := rfl

theorem run_cons (it : Iter) (w : World) (c : Call) (cs : List Call) :
    run it w (c :: cs) =
      ((run (step it w c).1 (step it w c).2.1 cs).1,
       (run (step it w c).1 (step it w c).2.1 cs).2.1,
       (step it w c).2.2 :: (run (step it w c).1 (step it w c).2.1 cs).2.2) := rfl

theorem run_append (it : Iter) (w : World) (cs ds : List Call) :
    run it w (cs ++ ds) =
      ((run (run it w cs).1 (run it w cs).2.1 ds).1,
       (run (run it w cs).1 (run it w cs).2.1 ds).2.1,
       (run it w cs).2.2 ++ (run (run it w cs).1 (run it w cs).2.1 ds).2.2) := by
  induction cs generalizing it w with
  | nil => simp
  | cons c cs ih => simp [run_cons, ih]

@[simp] theorem step_next (it : Iter) (w : World) :
    step it w .next = ((it.next w).1, (it.next w).2.1, .bool (it.next w).2.2) := rfl
@[simp] theorem step_get (it : Iter) (w : World) (a : GetArgs) :
    step it w (.get a) = (it, w, .got (it.get a)) := rfl
@[simp] theorem step_close (it : Iter) (w : World) :
    step it w .close = ((it.close w).1, (it.close w).2.1, .closed (it.close w).2.2) := rfl
@[simp] theorem step_cancel (it : Iter) (w : World) :
    step it w .cancel = ((it.cancel w).1, (it.cancel w).2, .none) := rfl

theorem run_inv {P : Iter → World → Prop}
    (hstep : ∀ it w c, P it w → P (step it w c).1 (step it w c).2.1)
    {it : Iter} {w : World} (h : P it w) (cs : List Call) : P (run it w cs).1 (run it w cs).2.1 := by
  induction cs generalizing it w with
  | nil => exact h
  | cons c cs ih => rw [run_cons]; exact ih (hstep it w c h)

theorem World.ext' {w w' : World} (h1 : w.log = w'.log) (h2 : w.inUse = w'.inUse) : w = w' := by
  cases w; cases w'; simp_all

@[simp] theorem World.emit_log (w : World) (e : Ev) : (w.emit e).log = w.log ++ [e] := rfl
@[simp] theorem World.emit_inUse (w : World) (e : Ev) : (w.emit e).inUse = w.inUse := rfl

theorem World.emit_if (w : World) (b : Bool) (e : Ev) :
    (if b then w.emit e else w) = { log := w.log ++ if b then [e] else [], inUse := w.inUse } := by
  cases b <;> simp [World.emit]

theorem Rows.close_of_closed {r : Rows} (h : r.closed = true) (w : World) :
    r.close w = (r, w, none) := by
  simp [Rows.close, h]

theorem Rows.close_of_open {r : Rows} (h : r.closed = false) (w : World) :
    r.close w =
      ({ r with closed := true,
                lasterr := r.lasterr.or r.closeErr,
                cur := none },
       (let w1 := w.emit .rowsClose
        let w2 := if r.closeStmt then w1.emit .stmtClose else w1
        if r.holdsConn then { w2 with inUse := w2.inUse - 1 } else w2),
       r.closeErr) := by
  cases hl : r.lasterr <;> simp [Rows.close, h, hl]

@[simp] theorem Rows.close_closed (r : Rows) (w : World) : (r.close w).1.closed = true := by
  unfold Rows.close; split <;> simp_all

@[simp] theorem Rows.close_cur (r : Rows) (w : World) (h : r.closed = true → r.cur = none) :
    (r.close w).1.cur = none := by
  unfold Rows.close; split <;> simp_all

theorem Rows.next_of_closed {r : Rows} (h : r.closed = true) (w : World) :
    r.next w = (r, w, false) := by
  simp [Rows.next, h]

theorem Rows.next_false_closed (r : Rows) (w : World) (h : (r.next w).2.2 = false) :
    (r.next w).1.closed = true := by
  unfold Rows.next at *
  split
  · simp_all
  · split <;> simp_all

theorem Rows.next_nil {r : Rows} (ho : r.closed = false) (hf : r.fetch = []) (w : World) :
    r.next w = ((Rows.close { r with cur := none } (w.emit .next)).1,
      (Rows.close { r with cur := none } (w.emit .next)).2.1, false) := by
  simp [Rows.next, ho, hf]

theorem Rows.next_error {r : Rows} {e : Err} {rest : List (Except Err Row)}
    (ho : r.closed = false) (hf : r.fetch = .error e :: rest) (w : World) :
    r.next w = ((Rows.close { r with fetch := rest, lasterr := some e, cur := none } (w.emit .next)).1,
      (Rows.close { r with fetch := rest, lasterr := some e, cur := none } (w.emit .next)).2.1, false) := by
  simp [Rows.next, ho, hf]

theorem Rows.next_ok {r : Rows} {row : Row} {rest : List (Except Err Row)}
    (ho : r.closed = false) (hf : r.fetch = .ok row :: rest) (w : World) :
    r.next w = ({ r with fetch := rest, cur := some row }, w.emit .next, true) := by
  simp [Rows.next, ho, hf]

theorem Rows.scan_cases (r : Rows) :
    (∃ e, r.lasterr = some e ∧ r.scan = .error e) ∨
    (r.lasterr = none ∧ r.closed = true ∧ r.scan = .error .rowsClosed) ∨
    (r.lasterr = none ∧ r.closed = false ∧ r.cur = none ∧ r.scan = .error (.sqlair "scan-without-next")) ∨
    (∃ row, r.lasterr = none ∧ r.closed = false ∧ r.cur = some row ∧
      r.scan = if row.scanOK then .ok row else .error .scan) := by
  unfold Rows.scan
  cases hl : r.lasterr with
  | some e => exact .inl ⟨e, rfl, rfl⟩
  | none =>
    cases hc : r.closed with
    | true => exact .inr (.inl ⟨rfl, rfl, rfl⟩)
    | false =>
      cases hcur : r.cur with
      | none => exact .inr (.inr (.inl ⟨rfl, rfl, rfl, rfl⟩))
      | some row => exact .inr (.inr (.inr ⟨row, rfl, rfl, rfl, rfl⟩))

theorem Rows.cancel_of_closed {r : Rows} (h : r.closed = true) (w : World) :
    r.cancel w = (r, w) := by
  simp [Rows.cancel, h]

theorem Rows.cancel_of_open {r : Rows} (h : r.closed = false) (w : World) :
    r.cancel w = ((Rows.close { r with lasterr := r.lasterr.or (some .ctx) } w).1,
      (Rows.close { r with lasterr := r.lasterr.or (some .ctx) } w).2.1) := by
  cases hl : r.lasterr <;> simp [Rows.cancel, h, hl]

@[simp] theorem Rows.cancel_closed (r : Rows) (w : World) : (r.cancel w).1.closed = true := by
  unfold Rows.cancel; split <;> simp_all

theorem Iter.next_of_err {it : Iter} {e : Err} (h : it.err = some e) (w : World) :
    it.next w = ({ it with started := true }, w, false) := by
  simp [Iter.next, h]

theorem Iter.next_of_rows_none {it : Iter} (h : it.rows = none) (w : World) :
    it.next w = ({ it with started := true }, w, false) := by
  unfold Iter.next
  cases he : it.err <;> simp [h]

theorem Iter.next_of_rows {it : Iter} {r : Rows} (he : it.err = none) (h : it.rows = some r) (w : World) :
    it.next w = ({ it with started := true, rows := some (r.next w).1 }, (r.next w).2.1, (r.next w).2.2) := by
  simp [Iter.next, he, h]

theorem Iter.close_of_rows_none {it : Iter} (h : it.rows = none) (w : World) :
    it.close w = ({ it with started := true }, w, it.err) := by
  simp [Iter.close, h]

theorem Iter.close_of_rows {it : Iter} {r : Rows} (h : it.rows = some r) (w : World) :
    it.close w =
      (let err := it.err.or ((r.close w).1.lasterr.or (r.close w).2.2)
       ({ it with started := true, rows := none, err := err }, (r.close w).2.1, err)) := by
  cases he : it.err <;> cases hl : (r.close w).1.lasterr <;> simp [Iter.close, h, Rows.err, he, hl]

theorem Iter.cancel_of_rows_none {it : Iter} (h : it.rows = none) (w : World) :
    it.cancel w = (it, w) := by
  simp [Iter.cancel, h]

theorem Iter.cancel_of_rows {it : Iter} {r : Rows} (h : it.rows = some r) (w : World) :
    it.cancel w = ({ it with rows := some (r.cancel w).1 }, (r.cancel w).2) := by
  simp [Iter.cancel, h]

@[simp] theorem Iter.close_rows (it : Iter) (w : World) : (it.close w).1.rows = none := by
  cases hr : it.rows
  · simp [Iter.close_of_rows_none hr, hr]
  · simp [Iter.close_of_rows hr]

@[simp] theorem Iter.close_err (it : Iter) (w : World) : (it.close w).1.err = (it.close w).2.2 := by
  cases hr : it.rows
  · simp [Iter.close_of_rows_none hr]
  · simp [Iter.close_of_rows hr]

@[simp] theorem Iter.close_hasOutputs (it : Iter) (w : World) : (it.close w).1.hasOutputs = it.hasOutputs := by
  cases hr : it.rows
  · simp [Iter.close_of_rows_none hr]
  · simp [Iter.close_of_rows hr]

@[simp] theorem Iter.close_started (it : Iter) (w : World) : (it.close w).1.started = true := by
  cases hr : it.rows
  · simp [Iter.close_of_rows_none hr]
  · simp [Iter.close_of_rows hr]

theorem Iter.next_cases (it : Iter) (w : World) :
    it.next w = ({ it with started := true }, w, false) ∨
    ∃ r, it.err = none ∧ it.rows = some r ∧
      it.next w = ({ it with started := true, rows := some (r.next w).1 }, (r.next w).2.1, (r.next w).2.2) := by
  rcases Option.eq_none_or_eq_some it.err with he | ⟨e, he⟩
  · rcases Option.eq_none_or_eq_some it.rows with hr | ⟨r, hr⟩
    · exact .inl (Iter.next_of_rows_none hr w)
    · exact .inr ⟨r, he, hr, Iter.next_of_rows he hr w⟩
  · exact .inl (Iter.next_of_err he w)

@[simp] theorem Iter.next_err (it : Iter) (w : World) : (it.next w).1.err = it.err := by
  rcases Iter.next_cases it w with h | ⟨r, _, _, h⟩ <;> simp [h]

@[simp] theorem Iter.next_hasOutputs (it : Iter) (w : World) : (it.next w).1.hasOutputs = it.hasOutputs := by
  rcases Iter.next_cases it w with h | ⟨r, _, _, h⟩ <;> simp [h]

@[simp] theorem Iter.next_started (it : Iter) (w : World) : (it.next w).1.started = true := by
  rcases Iter.next_cases it w with h | ⟨r, _, _, h⟩ <;> simp [h]

@[simp] theorem Iter.next_result (it : Iter) (w : World) : (it.next w).1.result = it.result := by
  rcases Iter.next_cases it w with h | ⟨r, _, _, h⟩ <;> simp [h]

@[simp] theorem Iter.cancel_hasOutputs (it : Iter) (w : World) : (it.cancel w).1.hasOutputs = it.hasOutputs := by
  cases hr : it.rows
  · simp [Iter.cancel_of_rows_none hr]
  · simp [Iter.cancel_of_rows hr]

@[simp] theorem Iter.cancel_started (it : Iter) (w : World) : (it.cancel w).1.started = it.started := by
  cases hr : it.rows
  · simp [Iter.cancel_of_rows_none hr]
  · simp [Iter.cancel_of_rows hr]

theorem Iter.get_of_err {it : Iter} {e : Err} (h : it.err = some e) (a : GetArgs) : it.get a = .err e := by
  simp [Iter.get, h]

theorem Iter.get_of_not_started {it : Iter} (he : it.err = none) (hs : it.started = false) (a : GetArgs) :
    it.get a = match a with
      | .outcome => .outcome it.result
      | .nilOutcome => .err (.wrapped (.sqlair "nil-outcome"))
      | _ => .err (.wrapped (.sqlair "get-before-next")) := by
  cases a <;> simp [Iter.get, he, hs]

theorem Iter.get_dests_of_not_started {it : Iter} (hs : it.started = false) {a : GetArgs}
    (ha : a = .valid ∨ a = .invalid) : ∃ e, it.get a = .err e := by
  cases he : it.err with
  | some e => exact ⟨e, Iter.get_of_err he a⟩
  | none => rw [Iter.get_of_not_started he hs]; rcases ha with rfl | rfl <;> exact ⟨_, rfl⟩

theorem Iter.get_cases (it : Iter) (a : GetArgs) :
    (∃ e, it.err = some e ∧ it.get a = .err e) ∨
    (it.err = none ∧ it.started = false ∧
      it.get a = match a with
        | .outcome => .outcome it.result
        | .nilOutcome => .err (.wrapped (.sqlair "nil-outcome"))
        | _ => .err (.wrapped (.sqlair "get-before-next"))) ∨
    (it.err = none ∧ it.started = true ∧ it.rows = none ∧ it.get a = .err (.wrapped (.sqlair "iteration-ended"))) ∨
    (∃ r, it.err = none ∧ it.started = true ∧ it.rows = some r ∧
      it.get a = match a with
        | .valid => (match r.scan with | .ok row => .row row.id | .error e => .err (.wrapped e))
        | .nilOutcome => .err (.wrapped (.sqlair "nil-outcome"))
        | _ => .err (.wrapped (.sqlair "scan-args"))) := by
  unfold Iter.get
  cases he : it.err with
  | some e => exact .inl ⟨e, rfl, rfl⟩
  | none =>
    cases hs : it.started with
    | false => exact .inr (.inl ⟨rfl, rfl, rfl⟩)
    | true =>
      cases hr : it.rows with
      | none => exact .inr (.inr (.inl ⟨rfl, rfl, rfl, rfl⟩))
      | some r => exact .inr (.inr (.inr ⟨r, rfl, rfl, rfl, rfl⟩))

theorem Iter.get_outcome_inv {it : Iter} {a : GetArgs} {x : Option Nat} (h : it.get a = .outcome x) :
    a = .outcome := by
  rcases Iter.get_cases it a with ⟨_, _, hg⟩ | ⟨_, _, hg⟩ | ⟨_, _, _, hg⟩ | ⟨r, _, _, _, hg⟩ <;> rw [hg] at h
  · cases h
  · cases a <;> cases h <;> rfl
  · cases h
  · cases a
    · cases hs : r.scan <;> rw [hs] at h <;> cases h
    all_goals cases h

theorem Iter.get_err_cases {it : Iter} {a : GetArgs} {e : Err} (h : it.get a = .err e) :
    it.err = some e ∨ (∃ x, e = .wrapped (.sqlair x)) ∨
    ∃ r e', it.rows = some r ∧ r.scan = .error e' ∧ e = .wrapped e' := by
  rcases Iter.get_cases it a with ⟨e', he, hg⟩ | ⟨_, _, hg⟩ | ⟨_, _, _, hg⟩ | ⟨r, _, _, hr, hg⟩ <;> rw [hg] at h
  · exact .inl (by rw [he, GetOut.err.inj h])
  · cases a <;> cases h <;> exact .inr (.inl ⟨_, rfl⟩)
  · cases h; exact .inr (.inl ⟨_, rfl⟩)
  · cases a
    · cases hs : r.scan with
      | ok row => rw [hs] at h; cases h
      | error e' => rw [hs] at h; cases h; exact .inr (.inr ⟨r, e', hr, hs, rfl⟩)
    all_goals (cases h; exact .inr (.inl ⟨_, rfl⟩))

theorem Iter.close_err_of_err {it : Iter} {e : Err} (h : it.err = some e) (w : World) :
    (it.close w).2.2 = some e := by
  cases hr : it.rows
  · simp [Iter.close_of_rows_none hr, h]
  · simp [Iter.close_of_rows hr, h]

theorem Iter.close_result_open {it : Iter} {r : Rows} (he : it.err = none) (hr : it.rows = some r)
    (ho : r.closed = false) (w : World) : (it.close w).2.2 = r.lasterr.or r.closeErr := by
  cases hl : r.lasterr <;> simp [Iter.close_of_rows hr, he, Rows.close_of_open ho, hl]

end Sqlair.Rt
