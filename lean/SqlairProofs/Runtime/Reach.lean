/-
  Runtime: the reachable states of an iteration in closed form.  After any calls, the iterator
  `Query.Iter` opened from script `s` in world `w1` is either the open result set after `n` successful
  fetches, with iterator `s.iterAt n st` and world `s.worldAt w1 n true` written out, or an iteration that
  has ended in the world `s.worldAt w1 n false` (`Reach`, kept by every call: `reach_step`).  What the
  driver log and the connection count look like after an operation is read off `Script.worldAt` (C13:
  `Script.worldAt_released`).
-/
import SqlairProofs.Runtime.Order

namespace Sqlair.Rt

/-- what closing the result set adds to the driver log: `Rows.Close`, and, on a transaction without statement
    cache, the close of the statement prepared for this one query -/
def Script.closeEvents (s : Script) : List Ev := .rowsClose :: if s.onTx && !s.cached then [.stmtClose] else []

def Script.rowEvents (s : Script) (n : Nat) (op : Bool) : List Ev :=
  List.replicate n .next ++ if s.opensRows && !op then s.closeEvents else []

/-- the world `n` driver `Next` calls after `Query.Iter` was called in `w1`; `op`: the result set is still open (and
    keeps a connection in use, unless the query runs on a transaction) -/
def Script.worldAt (s : Script) (w1 : World) (n : Nat) (op : Bool) : World :=
  { log := w1.log ++ s.openEvents ++ s.rowEvents n op,
    inUse := w1.inUse + (if op && !s.onTx then 1 else 0) }

def Script.curAt (s : Script) : Nat → Option Row
  | 0 => none
  | n + 1 => match s.fetch[n]? with | some (.ok row) => some row | _ => none

def Script.rowsAt (s : Script) (n : Nat) : Rows :=
  { fetch := s.fetch.drop n, closeErr := s.closeErr, closeStmt := s.onTx && !s.cached, holdsConn := !s.onTx,
    cur := s.curAt n }

def Script.iterAt (s : Script) (n : Nat) (started : Bool) : Iter :=
  { hasOutputs := true, rows := some (s.rowsAt n), started := started }

/-- the number of rows the driver delivers before its first failing fetch (or the end) -/
abbrev Script.lead (s : Script) : Nat := (leadRows s.fetch).length

/-- `opened`: the result set is open after `n` successful fetches.  `ended`: the iteration is over after
    `n` driver `Next` calls, at most one beyond the leading rows, and if that one met a failing fetch its
    error is pending. -/
inductive Reach (s : Script) (w1 : World) : Iter → World → Prop
  | opened (n : Nat) (st : Bool) (hs : s.opensRows = true) (hn : n ≤ s.lead) :
      Reach s w1 (s.iterAt n st) (s.worldAt w1 n true)
  | ended (it : Iter) (n : Nat) (he : it.ended = true) (hwf : it.WF) (h0 : s.opensRows = false → n = 0)
      (hn : n ≤ s.lead + 1) (hp : ∀ e, n = s.lead + 1 → s.fetch[s.lead]? = some (.error e) → it.pending = some e) :
      Reach s w1 it (s.worldAt w1 n false)

/-! ### the events of `worldAt` -/

/-- the events of `Script.rowEvents` -/
def Ev.isRow : Ev → Bool
  | .next | .rowsClose | .stmtClose => true
  | _ => false

theorem Script.worldAt_log (s : Script) (w1 : World) (n : Nat) (op : Bool) :
    (s.worldAt w1 n op).log = w1.log ++ (s.openEvents ++ s.rowEvents n op) :=
  List.append_assoc ..

theorem Script.rowEvents_isRow (s : Script) (n : Nat) (op : Bool) : (s.rowEvents n op).all Ev.isRow = true := by
  unfold Script.rowEvents Script.closeEvents
  cases (s.opensRows && !op) <;> cases (s.onTx && !s.cached) <;> simp [Ev.isRow]

theorem Script.rowEvents_closes (s : Script) (n : Nat) (op : Bool) :
    (s.rowEvents n op).count .rowsClose = if s.opensRows && !op then 1 else 0 := by
  unfold Script.rowEvents Script.closeEvents
  cases (s.opensRows && !op) <;> cases (s.onTx && !s.cached) <;> simp [List.count_replicate]

theorem Script.rowEvents_nexts (s : Script) (n : Nat) (op : Bool) : (s.rowEvents n op).count .next = n := by
  unfold Script.rowEvents Script.closeEvents
  cases (s.opensRows && !op) <;> cases (s.onTx && !s.cached) <;> simp

theorem Script.worldAt_closes (s : Script) (w1 : World) (n : Nat) (op : Bool) :
    ∃ evs, (s.worldAt w1 n op).log = w1.log ++ evs ∧ evs.count .rowsClose = if s.opensRows && !op then 1 else 0 :=
  ⟨_, s.worldAt_log w1 n op, by rw [List.count_append, Script.openEvents_rowsClose, Script.rowEvents_closes, Nat.zero_add]⟩

theorem Script.worldAt_released (s : Script) (w1 : World) (n : Nat) :
    (s.worldAt w1 n false).inUse = w1.inUse ∧
    ∃ evs, (s.worldAt w1 n false).log = w1.log ++ evs ∧ evs.count .rowsClose = if s.opensRows then 1 else 0 := by
  obtain ⟨evs, h1, h2⟩ := s.worldAt_closes w1 n false
  exact ⟨rfl, evs, h1, by rw [h2, Bool.not_false, Bool.and_true]⟩

theorem Script.worldAt_unopened {s : Script} (h : s.opensRows = false) (w1 : World) :
    s.worldAt w1 0 false = { log := w1.log ++ s.openEvents, inUse := w1.inUse } := by
  simp [Script.worldAt, Script.rowEvents, h]

/-! ### every call keeps the closed form -/

theorem Script.iterAt_WF (s : Script) (n : Nat) (st : Bool) : (s.iterAt n st).WF :=
  ⟨fun h => absurd rfl h, fun _ _ => rfl, fun r h => by cases h; exact ⟨fun h => absurd rfl h, nofun⟩⟩

/-- Stated for any `fetch`, `closeErr`, `lasterr` and `cur`, so that it serves `Close`, a cancellation and the
    `Next` that closes (after `Script.worldAt_next`) alike. -/
theorem Script.worldAt_close (s : Script) (w1 : World) (n : Nat) (hs : s.opensRows = true)
    (f : List (Except Err Row)) (ce le : Option Err) (cu : Option Row) :
    (Rows.close ({ fetch := f, closeErr := ce, lasterr := le, cur := cu, closeStmt := (s.onTx && !s.cached), holdsConn := (!s.onTx) } : Rows)
      (s.worldAt w1 n true)).2.1 = s.worldAt w1 n false := by
  rw [Rows.close_of_open rfl]
  cases ht : s.onTx <;> cases hc : s.cached <;>
    simp [Script.worldAt, Script.rowEvents, hs, Script.closeEvents, World.emit, ht, hc]

theorem Script.worldAt_next (s : Script) (w1 : World) (n : Nat) :
    (s.worldAt w1 n true).emit .next = s.worldAt w1 (n + 1) true := by
  simp [Script.worldAt, Script.rowEvents, World.emit, List.replicate_succ']

theorem Script.rowsAt_ok {s : Script} {n : Nat} {row : Row} {rest : List (Except Err Row)}
    (h : s.fetch.drop n = .ok row :: rest) : { s.rowsAt n with fetch := rest, cur := some row } = s.rowsAt (n + 1) := by
  have h2 : s.fetch.drop (n + 1) = rest := by
    rw [← List.drop_drop, h]; rfl
  simp [Script.rowsAt, Script.curAt, getElem?_of_drop_cons h, h2]

theorem reach_step {s : Script} {w1 w : World} {it : Iter} (h : Reach s w1 it w) (c : Call) :
    Reach s w1 (step it w c).1 (step it w c).2.1 := by
  cases h with
  | ended it n he hwf h0 hn hp =>
    obtain ⟨hw, hpend⟩ := step_of_ended hwf he (s.worldAt w1 n false) c
    rw [hw]
    exact .ended _ n (step_ended he _ c) (step_WF hwf _ c) h0 hn fun e h1 h2 => hpend.trans (hp e h1 h2)
  | opened n st hs hn =>
    have hwf := s.iterAt_WF n st
    -- a call that ends the iteration after `n'` driver `Next` calls
    have fin : ∀ c n', (step (s.iterAt n st) (s.worldAt w1 n true) c).1.ended = true →
        (step (s.iterAt n st) (s.worldAt w1 n true) c).2.1 = s.worldAt w1 n' false → n' ≤ s.lead + 1 →
        (∀ e, n' = s.lead + 1 → s.fetch[s.lead]? = some (.error e) →
          (step (s.iterAt n st) (s.worldAt w1 n true) c).1.pending = some e) →
        Reach s w1 (step (s.iterAt n st) (s.worldAt w1 n true) c).1 (step (s.iterAt n st) (s.worldAt w1 n true) c).2.1 :=
      fun c n' h1 h2 h3 h4 => by
        rw [h2]; exact .ended _ n' h1 (step_WF hwf _ c) (fun h => by rw [hs] at h; cases h) h3 h4
    cases c with
    | get a => exact .opened n st hs hn
    | close =>
      refine fin .close n (Iter.close_ended (s.iterAt n st) (s.worldAt w1 n true)) ?_ (by omega) (fun e h => by omega)
      rw [step_close, Iter.close_of_rows (r := s.rowsAt n) rfl]
      exact s.worldAt_close w1 n hs _ _ _ _
    | cancel =>
      refine fin .cancel n (by
          rw [step_cancel, Iter.cancel_of_rows (r := s.rowsAt n) rfl]
          exact Iter.ended_of_closed rfl (Rows.cancel_closed _ _)) ?_ (by omega) (fun e h => by omega)
      rw [step_cancel, Iter.cancel_of_rows (r := s.rowsAt n) rfl, Rows.cancel_of_open rfl]
      exact s.worldAt_close w1 n hs _ _ _ _
    | next =>
      have hnx := Iter.next_of_rows (it := s.iterAt n st) (r := s.rowsAt n) rfl rfl (s.worldAt w1 n true)
      cases hf : s.fetch.drop n with
      | cons x rest =>
        have hx := getElem?_of_drop_cons hf
        cases x with
        | ok row =>
          rw [step_next, hnx, Rows.next_ok (row := row) (rest := rest) rfl hf, s.worldAt_next, Script.rowsAt_ok hf]
          exact .opened (n + 1) true hs (leadRows_succ_le hn hx)
        | error e =>
          rw [Rows.next_error rfl hf] at hnx
          refine fin .next (n + 1) (by rw [step_next]; exact Iter.ended_of_next_false _ _ (by rw [hnx]))
            (by rw [step_next, hnx, s.worldAt_next]; exact s.worldAt_close w1 (n + 1) hs _ _ _ _) (by omega)
            (fun e' h1 h2 => ?_)
          · -- the failing fetch is the one after the leading rows
            obtain rfl : n = s.lead := by omega
            rw [hx] at h2; cases h2
            exact (Iter.next_fetch_error (it := s.iterAt s.lead st) (r := s.rowsAt s.lead) rfl rfl rfl hf _).2
      | nil =>
        rw [Rows.next_nil rfl hf] at hnx
        refine fin .next (n + 1) (by rw [step_next]; exact Iter.ended_of_next_false _ _ (by rw [hnx]))
          (by rw [step_next, hnx, s.worldAt_next]; exact s.worldAt_close w1 (n + 1) hs _ _ _ _) (by omega)
          (fun e' h1 h2 => ?_)
        · obtain rfl : n = s.lead := by omega
          rw [List.getElem?_eq_none (List.drop_eq_nil_iff.1 hf)] at h2; cases h2

theorem iterOpen_reach (s : Script) (w1 : World) : Reach s w1 (iterOpen s w1).1 (iterOpen s w1).2 := by
  cases hs : s.opensRows
  · have h : iterOpen s w1 = ((iterOpen s w1).1, s.worldAt w1 0 false) := by
      rw [s.worldAt_unopened hs, iterOpen_eq]; simp [hs]
    rw [h]
    exact .ended _ 0 (Iter.ended_of_rows_none (iterOpen_rows_none hs w1)) (iterOpen_WF s w1) (fun _ => rfl) (by omega)
      (fun e h => by omega)
  · have h : iterOpen s w1 = (s.iterAt 0 false, s.worldAt w1 0 true) := by
      obtain ⟨hout, hoe⟩ := Script.opensRows_iff.1 hs
      have hro : s.runsOK = true := Script.runsOK_iff_openErr.2 hoe
      rw [iterOpen_eq, Script.openRows_of_opensRows hs]
      simp [Script.worldAt, Script.rowEvents, Script.iterAt, Script.rowsAt, Script.curAt, hs, hout, hoe, hro]
    rw [h]
    exact .opened 0 false hs (Nat.zero_le _)

theorem reach_run {s : Script} {w1 w : World} {it : Iter} (h : Reach s w1 it w) (cs : List Call) :
    Reach s w1 (run it w cs).1 (run it w cs).2.1 :=
  run_inv (P := Reach s w1) (fun _ _ c h => reach_step h c) h cs

theorem Reach.world {s : Script} {w1 w : World} {it : Iter} (h : Reach s w1 it w) :
    ∃ n, w = s.worldAt w1 n (!it.ended) ∧ (s.opensRows = false → n = 0 ∧ it.ended = true) := by
  cases h with
  | opened n st hs hn => exact ⟨n, rfl, fun h => by rw [hs] at h; cases h⟩
  | ended it n he hwf h0 hn hp => exact ⟨n, by rw [he]; rfl, fun h => ⟨h0 h, he⟩⟩

theorem run_world_of_ended (s : Script) (w : World) (cs : List Call)
    (he : (run (iterOpen s w).1 (iterOpen s w).2 cs).1.ended = true) :
    ∃ n, (run (iterOpen s w).1 (iterOpen s w).2 cs).2.1 = s.worldAt w n false ∧ (s.opensRows = false → n = 0) := by
  obtain ⟨n, hw, h0⟩ := (reach_run (iterOpen_reach s w) cs).world
  exact ⟨n, by rw [hw, he]; rfl, fun h => (h0 h).1⟩

/-- C14, a fetch failure is not swallowed.  The first alternative says by the world alone that the failing fetch
    was not reached (at most `s.lead` driver `Next` calls); otherwise every `Close` of the call sequence returns it. -/
theorem run_fetch_error_reported (s : Script) (w1 : World) (cs : List Call) {e : Err}
    (he : s.fetch[s.lead]? = some (.error e)) :
    (∃ n op, n ≤ s.lead ∧ (run (iterOpen s w1).1 (iterOpen s w1).2 cs).2.1 = s.worldAt w1 n op) ∨
    ∀ e', Out.closed e' ∈ (run (iterOpen s w1).1 (iterOpen s w1).2 cs).2.2 → e' = some e := by
  have hfin := run_closed_eq_final (iterOpen s w1).1 (iterOpen s w1).2 cs
  have hr := reach_run (iterOpen_reach s w1) cs
  generalize run (iterOpen s w1).1 (iterOpen s w1).2 cs = R at hfin hr
  obtain ⟨it, w, outs⟩ := R
  cases hr with
  | opened n st hs hn => exact .inl ⟨n, true, hn, rfl⟩
  | ended it n hend hwf h0 hn hp =>
    by_cases hle : n ≤ s.lead
    · exact .inl ⟨n, false, hle, rfl⟩
    · right
      intro e' he'
      rw [hfin e' he', Iter.close_of_pending (hp e (by omega) he)]

end Sqlair.Rt
