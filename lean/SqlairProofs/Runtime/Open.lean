/-
  `Query.Iter` (`iterOpen`) in closed form (`iterOpen_eq`): the iterator it returns and the world it leaves, each field
  a function of the script (`Script.openErr`, `Script.openRows`, `Script.openEvents`), and what these functions say
  about the errors and the driver events of running a statement.
-/
import SqlairProofs.Runtime.Basic

namespace Sqlair.Rt

def Script.openErr (s : Script) : Option Err :=
  if s.onTx && s.txDone && s.cached then some .txDone else
  if s.ctxDone then some .ctx else
  if s.onTx && s.txDone then some .txDone else
  match (if !s.cached then s.prepareErr else none) with
  | some e => some e
  | none => s.runErr

/-- `Query.Iter` returns an iterator without error.  The spelling the statements of Props/Runtime use; lemmas
    say `s.openErr = none`, and `s.opensRows = true` where a result set is opened. -/
def Script.runsOK (s : Script) : Bool := s.openErr.isNone

theorem Script.runsOK_iff_openErr {s : Script} : s.runsOK = true ↔ s.openErr = none := by
  simp [Script.runsOK]

def Script.opensRows (s : Script) : Bool := s.hasOutputs && s.runsOK

def Script.openRows (s : Script) : Option Rows :=
  if s.opensRows then
    some { fetch := s.fetch, closeErr := s.closeErr, closeStmt := s.onTx && !s.cached, holdsConn := !s.onTx }
  else none

def Script.openEvents (s : Script) : List Ev :=
  if s.onTx && s.txDone && s.cached then [] else
  if s.ctxDone then [] else
  if s.onTx && s.txDone then [] else
  (if !s.cached then [.prepare] else []) ++
  match (if !s.cached then s.prepareErr else none) with
  | some _ => []
  | none =>
    if s.hasOutputs then
      .query :: (if s.runErr.isSome && s.onTx && !s.cached then [.stmtClose] else [])
    else
      .exec :: (if s.onTx && !s.cached then [.stmtClose] else [])

/-! A done context (C20) or a finished transaction (C12) stops `Query.Iter` before the driver is reached;
    otherwise the statement is prepared (on a cache miss) and run. -/

theorem Script.openErr_of_ctxDone {s : Script} (h : s.ctxDone = true) :
    s.openErr = some (if s.onTx && s.txDone && s.cached then .txDone else .ctx) := by
  unfold Script.openErr; split <;> simp

theorem Script.openErr_of_txDone {s : Script} (h1 : s.onTx = true) (h2 : s.txDone = true) :
    s.openErr = some (if !s.cached && s.ctxDone then .ctx else .txDone) := by
  unfold Script.openErr; cases s.cached <;> cases s.ctxDone <;> simp [h1, h2]

theorem Script.openErr_of_live {s : Script} (hc : s.ctxDone = false) (ht : ¬ (s.onTx = true ∧ s.txDone = true)) :
    s.openErr = (if !s.cached then s.prepareErr else none).or s.runErr := by
  unfold Script.openErr
  cases hp : (if (!s.cached) = true then s.prepareErr else none) <;> simp [hc, ht]

theorem Script.openEvents_of_ctxDone {s : Script} (h : s.ctxDone = true) : s.openEvents = [] := by
  unfold Script.openEvents; simp [h]

theorem Script.openEvents_of_txDone {s : Script} (h1 : s.onTx = true) (h2 : s.txDone = true) :
    s.openEvents = [] := by
  unfold Script.openEvents; simp [h1, h2]

theorem Script.runsOK_iff (s : Script) :
    s.runsOK = true ↔ s.ctxDone = false ∧ ¬ (s.onTx = true ∧ s.txDone = true) ∧
      (s.cached = true ∨ s.prepareErr = none) ∧ s.runErr = none := by
  unfold Script.runsOK
  by_cases hc : s.ctxDone = true
  · simp [Script.openErr_of_ctxDone hc, hc]
  by_cases ht : s.onTx = true ∧ s.txDone = true
  · simp [Script.openErr_of_txDone ht.1 ht.2, ht]
  rw [Script.openErr_of_live (by simpa using hc) ht]
  cases s.cached <;> cases s.prepareErr <;> simp [hc, ht]

theorem Script.openErr_cases {s : Script} {e : Err} (h : s.openErr = some e) :
    (e = .txDone ∧ s.onTx = true ∧ s.txDone = true) ∨ (e = .ctx ∧ s.ctxDone = true) ∨
    s.prepareErr = some e ∨ s.runErr = some e := by
  unfold Script.openErr at h
  by_cases h1 : (s.onTx && s.txDone && s.cached) = true
  · rw [if_pos h1] at h
    simp only [Bool.and_eq_true] at h1
    exact .inl ⟨(Option.some.inj h).symm, h1.1.1, h1.1.2⟩
  · rw [if_neg h1] at h
    by_cases h2 : s.ctxDone = true
    · rw [if_pos h2] at h
      exact .inr (.inl ⟨(Option.some.inj h).symm, h2⟩)
    · rw [if_neg h2] at h
      by_cases h3 : (s.onTx && s.txDone) = true
      · rw [if_pos h3] at h
        simp only [Bool.and_eq_true] at h3
        exact .inl ⟨(Option.some.inj h).symm, h3⟩
      · rw [if_neg h3] at h
        cases hp : (if (!s.cached) = true then s.prepareErr else none) with
        | some e' =>
          rw [hp] at h
          cases hc : s.cached <;> simp [hc] at hp
          exact .inr (.inr (.inl (by rw [hp, ← Option.some.inj h])))
        | none => rw [hp] at h; exact .inr (.inr (.inr h))

theorem iterOpen_eq (s : Script) (w : World) :
    iterOpen s w =
      ({ hasOutputs := s.hasOutputs, rows := s.openRows, err := s.openErr, started := false,
         result := if !s.hasOutputs && s.runsOK then some s.result else none },
       { log := w.log ++ s.openEvents,
         inUse := w.inUse + (if s.opensRows && !s.onTx then 1 else 0) }) := by
  -- along the branches of `iterOpen`, which those of `openErr` and `openEvents` follow
  unfold iterOpen Script.openRows Script.opensRows Script.runsOK Script.openErr Script.openEvents
  by_cases h1 : (s.onTx && s.txDone && s.cached) = true
  · simp [h1]
  by_cases h2 : s.ctxDone = true
  · simp [h1, h2]
  by_cases h3 : (s.onTx && s.txDone) = true
  · simp [h2, h3]
  simp only [h2, h3, if_false, Bool.false_eq_true, World.emit_if]
  cases hp : (if (!s.cached) = true then s.prepareErr else none) with
  | some e => simp
  | none => cases ho : s.hasOutputs <;> cases hr : s.runErr <;> cases ht : s.onTx <;> simp [World.emit]

theorem iterOpen_err (s : Script) (w : World) : (iterOpen s w).1.err = s.openErr := by
  rw [iterOpen_eq]

theorem iterOpen_rows (s : Script) (w : World) : (iterOpen s w).1.rows = s.openRows := by
  rw [iterOpen_eq]

theorem iterOpen_started (s : Script) (w : World) : (iterOpen s w).1.started = false := by
  rw [iterOpen_eq]

theorem iterOpen_hasOutputs (s : Script) (w : World) : (iterOpen s w).1.hasOutputs = s.hasOutputs := by
  rw [iterOpen_eq]

theorem iterOpen_result (s : Script) (w : World) :
    (iterOpen s w).1.result = if !s.hasOutputs && s.runsOK then some s.result else none := by
  rw [iterOpen_eq]

theorem Script.openRows_of_opensRows {s : Script} (h : s.opensRows = true) :
    s.openRows = some { fetch := s.fetch, closeErr := s.closeErr, closeStmt := s.onTx && !s.cached, holdsConn := !s.onTx } :=
  if_pos h

theorem Script.openRows_of_not_opensRows {s : Script} (h : s.opensRows = false) : s.openRows = none :=
  if_neg (ne_true_of_eq_false h)

theorem Script.opensRows_iff {s : Script} : s.opensRows = true ↔ s.hasOutputs = true ∧ s.openErr = none := by
  rw [← Script.runsOK_iff_openErr]; simp [Script.opensRows]

theorem Script.not_opensRows_of_openErr {s : Script} {e : Err} (h : s.openErr = some e) :
    s.opensRows = false :=
  Bool.eq_false_iff.2 fun hs => by rw [(Script.opensRows_iff.1 hs).2] at h; cases h

theorem Script.not_opensRows_of_no_outputs {s : Script} (h : s.hasOutputs = false) : s.opensRows = false :=
  Bool.eq_false_iff.2 fun hs => by rw [(Script.opensRows_iff.1 hs).1] at h; cases h

theorem iterOpen_rows_none {s : Script} (h : s.opensRows = false) (w : World) : (iterOpen s w).1.rows = none := by
  rw [iterOpen_rows]; exact Script.openRows_of_not_opensRows h

theorem iterOpen_of_opensRows {s : Script} (h : s.opensRows = true) (w : World) :
    (iterOpen s w).1.err = none ∧
    (iterOpen s w).1.rows =
      some { fetch := s.fetch, closeErr := s.closeErr, closeStmt := s.onTx && !s.cached, holdsConn := !s.onTx } :=
  ⟨(iterOpen_err s w).trans (Script.opensRows_iff.1 h).2, (iterOpen_rows s w).trans (Script.openRows_of_opensRows h)⟩

theorem Script.opensRows_iff_query (s : Script) :
    s.opensRows = true ↔ Ev.query ∈ s.openEvents ∧ s.runErr = none := by
  rw [Script.opensRows_iff]
  by_cases hc : s.ctxDone = true
  · simp [Script.openErr_of_ctxDone hc, Script.openEvents_of_ctxDone hc]
  by_cases ht : s.onTx = true ∧ s.txDone = true
  · simp [Script.openErr_of_txDone ht.1 ht.2, Script.openEvents_of_txDone ht.1 ht.2]
  rw [Script.openErr_of_live (by simpa using hc) ht]
  unfold Script.openEvents
  simp only [hc, ht, Bool.and_eq_true, false_and, if_false]
  cases (if (!s.cached) = true then s.prepareErr else none) <;> cases s.hasOutputs <;> simp

/-- the events of `Script.openEvents` (`Script.openEvents_isOpen`) -/
def Ev.isOpen : Ev → Bool
  | .prepare | .exec | .query | .stmtClose => true
  | _ => false

theorem Script.openEvents_sublist (s : Script) :
    s.openEvents.Sublist [.prepare, if s.hasOutputs then .query else .exec, .stmtClose] := by
  unfold Script.openEvents
  refine ite_sublist (List.nil_sublist _) (ite_sublist (List.nil_sublist _)
    (ite_sublist (List.nil_sublist _) ?_))
  show List.Sublist _ ([Ev.prepare] ++ [_, Ev.stmtClose])
  apply List.Sublist.append
  · exact ite_sublist (.refl _) (List.nil_sublist _)
  · split
    · exact List.nil_sublist _
    · cases s.hasOutputs
      · exact .cons_cons _ (ite_sublist (.refl _) (List.nil_sublist _))
      · exact .cons_cons _ (ite_sublist (.refl _) (List.nil_sublist _))

theorem Script.openEvents_isOpen (s : Script) : s.openEvents.all Ev.isOpen = true := by
  rw [List.all_eq_true]
  intro e he
  have := (Script.openEvents_sublist s).subset he
  simp only [List.mem_cons, List.not_mem_nil, or_false] at this
  rcases this with rfl | rfl | rfl
  · rfl
  · cases s.hasOutputs <;> rfl
  · rfl

theorem Script.openEvents_rowsClose (s : Script) : s.openEvents.count .rowsClose = 0 :=
  count_eq_zero_of_all (Script.openEvents_isOpen s) rfl

theorem Script.openEvents_query_le (s : Script) :
    s.openEvents.count .query ≤ 1 ∧ (Ev.query ∈ s.openEvents → s.hasOutputs = true) := by
  have h := Script.openEvents_sublist s
  cases hh : s.hasOutputs <;> rw [hh] at h
  · exact ⟨Nat.le_trans (h.count_le .query) (by decide), fun hm => by have := h.subset hm; simp at this⟩
  · exact ⟨Nat.le_trans (h.count_le .query) (by decide), fun _ => rfl⟩

theorem l4s_openEvents_query (s : Script) :
    s.openEvents.count .query = if s.opensRows || (s.hasOutputs && s.runErr.isSome && Ev.query ∈ s.openEvents) then 1 else 0 := by
  obtain ⟨h1, h2⟩ := Script.openEvents_query_le s
  have h3 := Script.opensRows_iff_query s
  by_cases hm : Ev.query ∈ s.openEvents
  · have : s.openEvents.count .query = 1 := by have := List.count_pos_iff.2 hm; omega
    rw [this]
    cases hr : s.runErr <;> simp_all
  · have : s.opensRows = false := Bool.eq_false_iff.2 fun ho => hm (h3.1 ho).1
    rw [List.count_eq_zero.2 hm]
    simp [this, hm]

theorem iterOpen_world_of_no_events {s : Script} (h : s.openEvents = []) {e : Err} (he : s.openErr = some e)
    (w : World) : (iterOpen s w).2 = w := by
  rw [iterOpen_eq]
  simp [h, Script.not_opensRows_of_openErr he]

end Sqlair.Rt
