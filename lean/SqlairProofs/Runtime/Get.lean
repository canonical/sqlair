/-
  `Query.Get` (`queryGet`; `Query.Run` is `Get` without arguments: no `Outcome`, `dests = 0`).  Its result is a function
  of the script and the call alone (`getSpec`, `queryGet_result`), and the world it leaves is that of an iteration that
  has ended, `s.worldAt w n false` (`queryGet_world`).
-/
import SqlairProofs.Runtime.Reach

namespace Sqlair.Rt

def getSpec (s : Script) (c : GetCall) : GetResult :=
  if !s.hasOutputs && decide (c.dests > 0) then { err := some (.sqlair "outputs-not-referenced") } else
  match s.openErr with
  | some e => { err := some e }
  | none =>
    let oc : Option (Option Nat) :=
      if c.outcome then some (if s.hasOutputs then none else some s.result) else none
    if !s.hasOutputs then { err := none, outcome := oc } else
    match s.fetch with
    | [] => { err := some (s.closeErr.getD .noRows), outcome := oc }
    | .error e :: _ => { err := some e, outcome := oc }
    | .ok row :: _ =>
      if c.dests = 0 || !c.destsValid then { err := some (.wrapped (.sqlair "scan-args")), outcome := oc }
      else if row.scanOK then { err := s.closeErr, stored := some row.id, outcome := oc }
      else { err := some (.wrapped .scan), outcome := oc }

theorem getSpec_cases (s : Script) (c : GetCall) :
    (s.hasOutputs = false ∧ c.dests > 0 ∧ getSpec s c = { err := some (.sqlair "outputs-not-referenced") }) ∨
    ¬ (s.hasOutputs = false ∧ c.dests > 0) ∧
    ((∃ e, s.openErr = some e ∧ getSpec s c = { err := some e }) ∨
     (s.openErr = none ∧ s.hasOutputs = false ∧
       getSpec s c = { err := none, outcome := if c.outcome then some (some s.result) else none }) ∨
     (s.openErr = none ∧ s.hasOutputs = true ∧ ∃ oc, oc = (if c.outcome then some none else none) ∧
       ((s.fetch = [] ∧ getSpec s c = { err := some (s.closeErr.getD .noRows), outcome := oc }) ∨
        (∃ e rest, s.fetch = .error e :: rest ∧ getSpec s c = { err := some e, outcome := oc }) ∨
        (∃ row rest, s.fetch = .ok row :: rest ∧ getSpec s c =
          if c.dests = 0 || !c.destsValid then { err := some (.wrapped (.sqlair "scan-args")), outcome := oc }
          else if row.scanOK then { err := s.closeErr, stored := some row.id, outcome := oc }
          else { err := some (.wrapped .scan), outcome := oc })))) := by
  unfold getSpec
  by_cases hrej : s.hasOutputs = false ∧ c.dests > 0
  · exact .inl ⟨hrej.1, hrej.2, by simp [hrej.1, hrej.2]⟩
  · have hrej' : (!s.hasOutputs && decide (c.dests > 0)) = false := by
      cases h : s.hasOutputs <;> simp_all
    rw [if_neg (by simp [hrej'])]
    refine .inr ⟨hrej, ?_⟩
    cases hoe : s.openErr with
    | some e => exact .inl ⟨e, rfl, rfl⟩
    | none =>
      cases hout : s.hasOutputs with
      | false => exact .inr (.inl ⟨rfl, rfl, by cases c.outcome <;> rfl⟩)
      | true =>
        refine .inr (.inr ⟨rfl, rfl, _, rfl, ?_⟩)
        rcases hf : s.fetch with _ | ⟨e | row, rest⟩
        · exact .inl ⟨rfl, by cases c.outcome <;> rfl⟩
        · exact .inr (.inl ⟨e, rest, rfl, by cases c.outcome <;> rfl⟩)
        · exact .inr (.inr ⟨row, rest, rfl, by cases c.outcome <;> rfl⟩)

theorem getSpec_of_openErr {s : Script} {e : Err} (h : s.openErr = some e) (c : GetCall) :
    getSpec s c =
      { err := some (if !s.hasOutputs && decide (c.dests > 0) then .sqlair "outputs-not-referenced" else e) } := by
  unfold getSpec; rw [h]
  cases (!s.hasOutputs && decide (c.dests > 0)) <;> rfl

theorem getSpec_ok {s : Script} {c : GetCall} (h : (getSpec s c).err = none) :
    (getSpec s c).outcome = (if c.outcome then some (if s.hasOutputs then none else some s.result) else none) ∧
    (s.hasOutputs = true → ∃ row rest, s.fetch = .ok row :: rest ∧ (getSpec s c).stored = some row.id) := by
  rcases getSpec_cases s c with ⟨_, _, hg⟩ | ⟨_, ⟨e, _, hg⟩ | ⟨_, ho, hg⟩ | ⟨_, ho, oc, rfl, ⟨_, hg⟩ | ⟨e, rest, _, hg⟩ | ⟨row, rest, hf, hg⟩⟩⟩ <;>
    rw [hg] at h ⊢
  · cases h
  · cases h
  · exact ⟨by rw [ho]; rfl, fun h' => by rw [ho] at h'; cases h'⟩
  · cases h
  · cases h
  · by_cases hd : (c.dests = 0 || !c.destsValid) = true
    · rw [if_pos hd] at h; cases h
    · rw [if_neg hd] at h ⊢
      cases hk : row.scanOK <;> rw [hk] at h
      · cases h
      · exact ⟨by rw [ho]; rfl, fun _ => ⟨row, rest, hf, rfl⟩⟩

/-- Assumption of the `ErrNoRows` half of C15 (`getSpec_noRows_iff`): the driver injects no `sql.ErrNoRows` of its own,
    which `Get` would pass on unchanged.  Of the fetches only the first matters to `Get`. -/
structure Script.NoInjectedNoRows (s : Script) : Prop where
  prepare : s.prepareErr ≠ some .noRows
  run : s.runErr ≠ some .noRows
  close : s.closeErr ≠ some .noRows
  fetch : s.fetch.head? ≠ some (.error .noRows)

theorem Script.openErr_ne_noRows {s : Script} (h : s.NoInjectedNoRows) : s.openErr ≠ some .noRows := by
  intro he
  rcases Script.openErr_cases he with ⟨h', _⟩ | ⟨h', _⟩ | h' | h'
  · cases h'
  · cases h'
  · exact h.prepare h'
  · exact h.run h'

/-- C15 (`get_noRows_iff_exact`): all the ways the closed form returns `ErrNoRows`. -/
theorem getSpec_noRows_iff_exact (s : Script) (c : GetCall) :
    (getSpec s c).err = some .noRows ↔
      ¬ (s.hasOutputs = false ∧ c.dests > 0) ∧
      (s.openErr = some .noRows ∨
       (s.openErr = none ∧ s.hasOutputs = true ∧
        ((s.fetch = [] ∧ (s.closeErr = none ∨ s.closeErr = some .noRows)) ∨
         (∃ rest, s.fetch = .error .noRows :: rest) ∨
         (∃ row rest, s.fetch = .ok row :: rest ∧ c.dests ≠ 0 ∧ c.destsValid = true ∧
            row.scanOK = true ∧ s.closeErr = some .noRows)))) := by
  rcases getSpec_cases s c with ⟨h1, h2, hg⟩ | ⟨hrej, ⟨e, he, hg⟩ | ⟨he, ho, hg⟩ |
    ⟨he, ho, oc, _, ⟨hf, hg⟩ | ⟨e, rest, hf, hg⟩ | ⟨row, rest, hf, hg⟩⟩⟩ <;> rw [hg]
  · simp [h1, h2]
  · simp [hrej, he]
  · simp [he, ho]
  · cases hce : s.closeErr <;> simp [he, ho, hf]
  · simp [he, ho, hf]
  · cases hbad : (decide (c.dests = 0) || !c.destsValid)
    · have hgood := hbad
      simp only [Bool.or_eq_false_iff, decide_eq_false_iff_not, Bool.not_eq_false'] at hgood
      cases hk : row.scanOK <;> simp [he, ho, hf, hgood, hk]
    · simp only [Bool.or_eq_true, decide_eq_true_eq, Bool.not_eq_true'] at hbad
      rcases hbad with hd | hdv <;> simp [*]

/-- C15 (`get_noRows_iff_partial`): with `NoInjectedNoRows` only the genuine alternative of
    `getSpec_noRows_iff_exact` is left. -/
theorem getSpec_noRows_iff {s : Script} (hinj : s.NoInjectedNoRows) (c : GetCall) :
    (getSpec s c).err = some .noRows ↔
      s.hasOutputs = true ∧ s.openErr = none ∧ s.fetch = [] ∧ s.closeErr = none := by
  rw [getSpec_noRows_iff_exact]
  constructor
  · rintro ⟨_, h | ⟨he, ho, ⟨hf, hc | hc⟩ | ⟨rest, hf⟩ | ⟨row, rest, _, _, _, _, hc⟩⟩⟩
    · exact absurd h (Script.openErr_ne_noRows hinj)
    · exact ⟨ho, he, hf, hc⟩
    · exact absurd hc hinj.close
    · exact absurd (by rw [hf]; rfl) hinj.fetch
    · exact absurd hc hinj.close
  · rintro ⟨ho, he, hf, hc⟩
    exact ⟨fun h => absurd (ho.symm.trans h.1) (by decide), .inr ⟨he, ho, .inl ⟨hf, .inl hc⟩⟩⟩

theorem getSpec_noRows_stored {s : Script} {c : GetCall} (hinj : s.NoInjectedNoRows)
    (h : (getSpec s c).err = some .noRows) : (getSpec s c).stored = none := by
  obtain ⟨h1, h2, h3, h4⟩ := (getSpec_noRows_iff hinj c).1 h
  unfold getSpec
  simp [h1, h2, h3]

theorem getSpec_fetch_error {s : Script} {c : GetCall} {e : Err} {rest : List (Except Err Row)}
    (hs : s.opensRows = true) (hf : s.fetch = .error e :: rest) :
    getSpec s c = { err := some e, outcome := if c.outcome then some none else none } := by
  obtain ⟨ho, hoe⟩ := Script.opensRows_iff.1 hs
  cases hc : c.outcome <;> simp [getSpec, ho, hoe, hf, hc]

theorem queryGet_reject {s : Script} {c : GetCall} (h : (!s.hasOutputs && decide (c.dests > 0)) = true) (w : World) :
    queryGet s c w = ({ err := some (.sqlair "outputs-not-referenced") }, w) := by
  simp only [queryGet, h, if_true]

section
variable {s : Script} {c : GetCall} {w w' : World} {it : Iter}
  (ho : iterOpen s w = (it, w')) (hrej : (!s.hasOutputs && decide (c.dests > 0)) = false)
include ho hrej

theorem queryGet_of_err {e : Err} (he : it.err = some e) : (queryGet s c w).1 = { err := some e } := by
  have hb : (it.next w').2.2 = false := by rw [Iter.next_of_err he]
  have hcl : ((it.next w').1.close (it.next w').2.1).2.2 = some e :=
    Iter.close_err_of_err (by simpa using he) _
  unfold queryGet
  cases c.outcome <;> simp [hrej, ho, Iter.get_of_err he, hb, hcl]

theorem queryGet_of_next_false (he : it.err = none) (hs : it.started = false) (hb : (it.next w').2.2 = false) :
    (queryGet s c w).1 =
      { err := (((it.next w').1.close (it.next w').2.1).2.2).or (if s.hasOutputs then some .noRows else none),
        outcome := if c.outcome then some it.result else none } := by
  unfold queryGet
  simp only [hrej, ho, Iter.get_of_not_started he hs .outcome, hb, Bool.false_eq_true, if_false]
  cases c.outcome <;> cases ((it.next w').1.close (it.next w').2.1).2.2 <;> rfl

theorem queryGet_of_next_true (he : it.err = none) (hs : it.started = false) (hb : (it.next w').2.2 = true) :
    (queryGet s c w).1 =
      match (it.next w').1.get (if c.dests == 0 then .invalid else if c.destsValid then .valid else .invalid) with
      | .row id => { err := ((it.next w').1.close (it.next w').2.1).2.2, stored := some id,
                     outcome := if c.outcome then some it.result else none }
      | .err e => { err := some e, outcome := if c.outcome then some it.result else none }
      | .outcome _ => { err := ((it.next w').1.close (it.next w').2.1).2.2,
                        outcome := if c.outcome then some it.result else none } := by
  unfold queryGet
  simp only [hrej, ho, Iter.get_of_not_started he hs .outcome, hb, Bool.false_eq_true, if_false]
  generalize (it.next w').1.get _ = g
  cases c.outcome <;> cases g <;> rfl
end

theorem queryGet_result (s : Script) (c : GetCall) (w : World) : (queryGet s c w).1 = getSpec s c := by
  -- along the branches of `getSpec`: each fixes what the one `Next` answers and what the `Close` after it returns,
  -- and `queryGet_of_next_false` / `queryGet_of_next_true` give `queryGet` from these
  unfold getSpec
  cases hrej : (!s.hasOutputs && decide (c.dests > 0))
  case true => rw [queryGet_reject hrej]; rfl
  have he := iterOpen_err s w
  have hr := iterOpen_rows s w
  have hs := iterOpen_started s w
  have hres := iterOpen_result s w
  have ho : iterOpen s w = ((iterOpen s w).1, (iterOpen s w).2) := rfl
  generalize (iterOpen s w).1 = it, (iterOpen s w).2 = w' at he hr hs hres ho
  simp only [Bool.false_eq_true, if_false]
  cases hoe : s.openErr with
  | some e => exact queryGet_of_err ho hrej (he.trans hoe)
  | none =>
    rw [hoe] at he
    have hro : s.runsOK = true := Script.runsOK_iff_openErr.2 hoe
    cases hout : s.hasOutputs with
    | false =>
      rw [Script.openRows_of_not_opensRows (Script.not_opensRows_of_no_outputs hout)] at hr
      rw [queryGet_of_next_false ho hrej he hs (by rw [Iter.next_of_rows_none hr]),
        Iter.close_of_rows_none (by rw [Iter.next_of_rows_none hr]; exact hr)]
      simp [he, hres, hout, hro]
    | true =>
      rw [Script.openRows_of_opensRows (Script.opensRows_iff.2 ⟨hout, hoe⟩)] at hr
      simp only [Bool.not_true, Bool.false_eq_true, if_false]
      cases hf : s.fetch with
      | nil =>
        obtain ⟨hb, hcl⟩ := Iter.next_eof he hr rfl rfl hf w' (it.next w').2.1
        rw [queryGet_of_next_false ho hrej he hs hb, hcl]
        cases s.closeErr <;> simp [hres, hout]
      | cons x rest =>
        cases x with
        | error e =>
          obtain ⟨hb, hp⟩ := Iter.next_fetch_error he hr rfl hf w'
          rw [queryGet_of_next_false ho hrej he hs hb, Iter.close_of_pending hp]
          simp [hres, hout]
        | ok row =>
          have hn := Iter.next_row he hr rfl hf w'
          have he' : (it.next w').1.err = none := by rw [hn]; exact he
          rw [queryGet_of_next_true ho hrej he hs (by rw [hn]),
            Iter.close_result_open he' (by rw [hn]) rfl]
          obtain ⟨hgv, hgi⟩ := Iter.get_after_row he hr rfl rfl hf w'
          by_cases hd : c.dests = 0
          · simp [hd, hgi, hres, hout]
          · cases hv : c.destsValid
            · simp [hd, hgi, hres, hout]
            · cases hk : row.scanOK <;> simp [hd, hk, hgv, hres, hout]

theorem queryGet_world_calls (s : Script) (c : GetCall) (w : World) :
    (queryGet s c w).2 = w ∧ (!s.hasOutputs && decide (c.dests > 0)) = true ∨
    (!s.hasOutputs && decide (c.dests > 0)) = false ∧
    ((queryGet s c w).2 = ((iterOpen s w).1.close (iterOpen s w).2).2.1 ∨
     (queryGet s c w).2 = (((iterOpen s w).1.next (iterOpen s w).2).1.close ((iterOpen s w).1.next (iterOpen s w).2).2.1).2.1) := by
  cases hrej : (!s.hasOutputs && decide (c.dests > 0))
  case true => exact .inl ⟨by rw [queryGet_reject hrej], rfl⟩
  refine .inr ⟨rfl, ?_⟩
  unfold queryGet
  simp only [hrej, Bool.false_eq_true, if_false]
  generalize iterOpen s w = o
  obtain ⟨it, w'⟩ := o
  -- whatever the `Outcome` argument yields, an error is followed by `Close`, anything else by `Next`, … and `Close`
  generalize (if c.outcome = true then _ else _ : Option Err × Option (Option Nat)) = p
  obtain ⟨_ | e, oc⟩ := p
  · right
    cases (it.next w').2.2
    · rfl
    · cases (it.next w').1.get (if (c.dests == 0) = true then .invalid else if c.destsValid = true then .valid else .invalid) <;>
        rfl
  · exact .inl rfl

theorem queryGet_world (s : Script) (c : GetCall) (w : World) :
    (queryGet s c w).2 = w ∧ s.hasOutputs = false ∧ c.dests > 0 ∨
    ∃ n, (queryGet s c w).2 = s.worldAt w n false ∧ (s.opensRows = false → n = 0) := by
  rcases queryGet_world_calls s c w with ⟨h, hrej⟩ | ⟨_, h | h⟩
  · simp only [Bool.and_eq_true, Bool.not_eq_true', decide_eq_true_eq] at hrej
    exact .inl ⟨h, hrej⟩
  · rw [h]; exact .inr (run_world_of_ended s w [.close] (run_ended_of_close _ _ _ (by simp)))
  · rw [h]; exact .inr (run_world_of_ended s w [.next, .close] (run_ended_of_close _ _ _ (by simp)))

theorem queryGet_ran (s : Script) (c : GetCall) (w : World) (h : s.hasOutputs = true ∨ c.dests = 0) :
    ∃ n, (queryGet s c w).2 = s.worldAt w n false := by
  rcases queryGet_world s c w with ⟨_, h1, h2⟩ | ⟨n, hn, _⟩
  · rcases h with h | h
    · rw [h] at h1; cases h1
    · omega
  · exact ⟨n, hn⟩

theorem queryGet_of_not_run {s : Script} {e : Err} (he : s.openErr = some e) (hev : s.openEvents = [])
    (c : GetCall) (w : World) :
    queryGet s c w =
      ({ err := some (if !s.hasOutputs && decide (c.dests > 0) then .sqlair "outputs-not-referenced" else e) }, w) := by
  refine Prod.ext ?_ ?_
  · rw [queryGet_result, getSpec_of_openErr he]
  rcases queryGet_world s c w with ⟨h, _⟩ | ⟨n, h, h0⟩
  · exact h
  · rw [h, h0 (Script.not_opensRows_of_openErr he), s.worldAt_unopened (Script.not_opensRows_of_openErr he), hev]
    simp

end Sqlair.Rt
