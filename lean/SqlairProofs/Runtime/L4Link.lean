/-
  Link between the proof-side definitions (`run`, `runFinish`) and the executable drivers of
  Spec/L4 (`runCalls`, `runFinishers`) that the differential tests exercise.
-/
import SqlairModel.Spec.L4
import SqlairProofs.Runtime.Basic
import SqlairProofs.Runtime.Tx

namespace Sqlair.Rt

/-- The argument list a `Get`-like call name of the harness stands for (`calls` of a `Case`).  Every name but the three
    tested, as the harness's `getinvalid` and `getnone`, is a `Get` with arguments `ScanArgs` rejects. -/
def argsOf (call : String) : GetArgs :=
  if call == "get" then .valid else if call == "getoutcome" then .outcome
  else if call == "getniloutcome" then .nilOutcome else .invalid

/-- how `runCalls` prints the result of a `Get` -/
def renderGet : GetOut → String
  | .row id => s!"row:{id}"
  | .outcome none => "outcome:nil"
  | .outcome (some n) => s!"outcome:{n}"
  | .err e => e.render

def callOf (call : String) : Call :=
  if call = "next" then .next
  else if call = "close" then .close
  else .get (if call == "get" then .valid else if call == "getoutcome" then .outcome
    else if call == "getniloutcome" then .nilOutcome else .invalid)

theorem callOf_get {call : String} (h1 : call ≠ "next") (h2 : call ≠ "close") : callOf call = .get (argsOf call) := by
  simp [callOf, argsOf, h1, h2]

theorem l4s_callOf_ne_cancel (x : String) : callOf x ≠ .cancel := by
  unfold callOf
  by_cases h1 : x = "next"
  · rw [if_pos h1]; nofun
  · rw [if_neg h1]
    by_cases h2 : x = "close"
    · rw [if_pos h2]; nofun
    · rw [if_neg h2]; nofun

def expandCalls (cancelAt : Option Nat) : Nat → List String → List Call
  | _, [] => []
  | i, c :: rest =>
    (if cancelAt == some i then [Call.cancel] else []) ++ callOf c :: expandCalls cancelAt (i + 1) rest

def Out.render? : Out → Option String
  | .bool b => some (toString b)
  | .closed e => some (renderOpt e)
  | .got g => some (renderGet g)
  | .none => Option.none

/-- The cancellation step of `runCalls`; `callStep` is its call step.  Both repeat its body word for word:
    `runCalls_cons` compares them with it by `rfl`. -/
def preCancel (cancelAt : Option Nat) (i : Nat) (it : Iter) (w : World) : Iter × World :=
  if cancelAt == some i then
    match it.rows with
    | some r => let (r, w) := r.cancel w; ({ it with rows := some r }, w)
    | none => (it, w)
  else (it, w)

def callStep (call : String) (it : Iter) (w : World) : Iter × World × String :=
  match call with
  | "next" => let (it, w, b) := it.next w; (it, w, toString b)
  | "close" => let (it, w, e) := it.close w; (it, w, renderOpt e)
  | _ =>
    let a : GetArgs := if call == "get" then .valid else if call == "getoutcome" then .outcome
      else if call == "getniloutcome" then .nilOutcome else .invalid
    match it.get a with
    | .row id => (it, w, s!"row:{id}")
    | .outcome none => (it, w, "outcome:nil")
    | .outcome (some n) => (it, w, s!"outcome:{n}")
    | .err e => (it, w, e.render)

theorem runCalls_cons (calls : List String) (cancelAt : Option Nat) (i : Nat) (it : Iter) (w : World)
    (call : String) (rest : List String) :
    runCalls calls cancelAt i it w (call :: rest) =
      (let p := preCancel cancelAt i it w
       let q := callStep call p.1 p.2
       let r := runCalls calls cancelAt (i + 1) q.1 q.2.1 rest
       (r.1, r.2.1, q.2.2 :: r.2.2)) := by
  rw [runCalls]; rfl

theorem preCancel_eq (cancelAt : Option Nat) (i : Nat) (it : Iter) (w : World) :
    preCancel cancelAt i it w = if cancelAt == some i then it.cancel w else (it, w) := rfl

theorem callStep_next (it : Iter) (w : World) :
    callStep "next" it w = ((it.next w).1, (it.next w).2.1, toString (it.next w).2.2) := rfl

theorem callStep_close (it : Iter) (w : World) :
    callStep "close" it w = ((it.close w).1, (it.close w).2.1, renderOpt (it.close w).2.2) := rfl

theorem callStep_get {call : String} (h1 : call ≠ "next") (h2 : call ≠ "close") (it : Iter) (w : World) :
    callStep call it w = (it, w, renderGet (it.get (argsOf call))) := by
  unfold callStep
  split
  · exact absurd rfl h1
  · exact absurd rfl h2
  · show (match it.get (argsOf call) with
      | .row id => (it, w, s!"row:{id}")
      | .outcome none => (it, w, "outcome:nil")
      | .outcome (some n) => (it, w, s!"outcome:{n}")
      | .err e => (it, w, e.render)) = _
    cases hg : it.get (argsOf call) with
    | row id => rfl
    | err e => rfl
    | outcome r => cases r <;> rfl

theorem callStep_eq (call : String) (it : Iter) (w : World) :
    (callStep call it w).1 = (step it w (callOf call)).1 ∧
    (callStep call it w).2.1 = (step it w (callOf call)).2.1 ∧
    some (callStep call it w).2.2 = (step it w (callOf call)).2.2.render? := by
  by_cases h1 : call = "next"
  · subst h1; exact ⟨rfl, rfl, rfl⟩
  · by_cases h2 : call = "close"
    · subst h2; exact ⟨rfl, rfl, rfl⟩
    · rw [callStep_get h1 h2, callOf_get h1 h2]; exact ⟨rfl, rfl, rfl⟩

theorem callOf_mem_expandCalls (ca : Option Nat) (i : Nat) {x : String} {calls : List String} (h : x ∈ calls) :
    callOf x ∈ expandCalls ca i calls := by
  induction calls generalizing i with
  | nil => cases h
  | cons y rest ih =>
    simp only [expandCalls, List.mem_append, List.mem_cons]
    rcases List.mem_cons.1 h with rfl | h
    · exact .inr (.inl rfl)
    · exact .inr (.inr (ih _ h))

theorem runCalls_eq_run (calls : List String) (cancelAt : Option Nat) (i : Nat) (it : Iter) (w : World)
    (rest : List String) :
    runCalls calls cancelAt i it w rest =
      ((run it w (expandCalls cancelAt i rest)).1, (run it w (expandCalls cancelAt i rest)).2.1,
       (run it w (expandCalls cancelAt i rest)).2.2.filterMap Out.render?) := by
  induction rest generalizing i it w with
  | nil => simp [runCalls, expandCalls]
  | cons call rest ih =>
    rw [runCalls_cons]
    simp only [ih, preCancel_eq]
    by_cases hc : (cancelAt == some i) = true
    · obtain ⟨h1, h2, h3⟩ := callStep_eq call (it.cancel w).1 (it.cancel w).2
      simp only [hc, if_true, expandCalls, List.singleton_append, run_cons, step_cancel, h1, h2]
      rw [List.filterMap_cons, List.filterMap_cons, ← h3]
      simp [Out.render?]
    · obtain ⟨h1, h2, h3⟩ := callStep_eq call it w
      simp only [hc, Bool.false_eq_true, if_false, expandCalls, List.nil_append, run_cons, h1, h2]
      rw [List.filterMap_cons, ← h3]

/-- The predicates of Spec/L4 (`holdsC14`, `closeResults`) look at the pairs `c.calls.zip o.returns`.  Each pair of a
    call with its result from `runCalls` is the rendering of an answer in the `run` it performs, so what holds of the
    answers of every `run` holds of the results the harness compares.  `f`: the renaming `predict` applies (`fewCols`). -/
theorem runCalls_zip_mem (f : String → String) (ca : Option Nat) (cs : List String) :
    ∀ (l : List String) (i : Nat) (it : Iter) (w : World),
      ∀ p ∈ l.zip (runCalls cs ca i it w (l.map f)).2.2,
        ∃ it' w', (step it' w' (callOf (f p.1))).2.2 ∈ (run it w (expandCalls ca i (l.map f))).2.2 ∧
          (step it' w' (callOf (f p.1))).2.2.render? = some p.2 := by
  intro l
  induction l with
  | nil => intro i it w p hp; simp at hp
  | cons call rest ih =>
    intro i it w p hp
    rw [List.map_cons, runCalls_cons] at hp
    simp only [List.zip_cons_cons, List.mem_cons] at hp
    simp only [List.map_cons, expandCalls, run_append, run_cons]
    -- the state in which the call is made is that of `run` after the optional cancellation
    have hpc : preCancel ca i it w =
        ((run it w (if ca == some i then [Call.cancel] else [])).1, (run it w (if ca == some i then [Call.cancel] else [])).2.1) := by
      rw [preCancel_eq]; split <;> rfl
    rw [hpc] at hp
    generalize (run it w (if ca == some i then [Call.cancel] else [])) = R at hp ⊢
    obtain ⟨h1, h2, h3⟩ := callStep_eq (f call) R.1 R.2.1
    rcases hp with rfl | hp
    · exact ⟨R.1, R.2.1, List.mem_append_right _ (List.mem_cons_self ..), h3.symm⟩
    · obtain ⟨it', w', he, hpe⟩ := ih _ _ _ p hp
      rw [h1, h2] at he
      exact ⟨it', w', List.mem_append_right _ (List.mem_cons_of_mem _ he), hpe⟩

theorem runFinishers_eq_runFinish (fs : List String) (tx : TX) (w : World) :
    runFinishers fs tx w =
      ((runFinish tx w (fs.map fun f => (f == "commit", none))).1,
       (runFinish tx w (fs.map fun f => (f == "commit", none))).2.1,
       (runFinish tx w (fs.map fun f => (f == "commit", none))).2.2.map renderOpt) := by
  have key : ∀ (fs : List String) (tx : TX) (w : World) (acc : List String),
      fs.foldl (fun (acc : TX × World × List String) f =>
        let (tx, w, e) := acc.1.finish (f == "commit") none acc.2.1
        (tx, w, acc.2.2 ++ [renderOpt e])) (tx, w, acc) =
      ((runFinish tx w (fs.map fun f => (f == "commit", none))).1,
       (runFinish tx w (fs.map fun f => (f == "commit", none))).2.1,
       acc ++ (runFinish tx w (fs.map fun f => (f == "commit", none))).2.2.map renderOpt) := by
    intro fs
    induction fs with
    | nil => intro tx w acc; simp [runFinish]
    | cons f fs ih =>
      intro tx w acc
      simp only [List.foldl_cons, List.map_cons, runFinish_cons]
      rw [ih]
      simp
  unfold runFinishers
  rw [key]
  simp

end Sqlair.Rt
