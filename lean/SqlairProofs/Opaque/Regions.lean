/-
  Property C02, metamorphic form, byte level: the bytes of the blanked input, what the
  blanking keeps (the length, the newlines, hence line/column positions), and what the
  description of the regions along the lexer's path (`lexLoop_spec`) gives for the interiors:
  the interior of a region lies inside its own step.
-/
import SqlairProofs.Opaque.Defs

namespace Sqlair

def opqInside (inp : Bytes) (rs : List Region) (i : Nat) : Prop :=
  ∃ r, r ∈ rs ∧ (r.interior inp).1 ≤ i ∧ i < (r.interior inp).2

def opqByte (inp : Bytes) (rs : List Region) (i : Nat) : UInt8 :=
  if inp.getD i 0 != 10 && rs.any (fun r => let (lo, hi) := r.interior inp; lo ≤ i && i < hi) then 120
  else inp.getD i 0

section
variable (inp : Bytes) (rs : List Region) (i : Nat)

theorem opq_blank_eq :
    blankRegions inp rs = ((List.range inp.size).map (opqByte inp rs)).toArray := by
  unfold blankRegions
  have hf : (fun (acc : Array UInt8) i =>
      if inp.getD i 0 != 10 && rs.any (fun r => let (lo, hi) := r.interior inp; lo ≤ i && i < hi) then acc.push 120
      else acc.push (inp.getD i 0)) = fun acc i => acc.push (opqByte inp rs i) := by
    funext acc i
    unfold opqByte
    split <;> rfl
  rw [hf, List.foldl_push_eq_append]
  simp

theorem opq_blank_size : (blankRegions inp rs).size = inp.size := by
  rw [opq_blank_eq]; simp

theorem opq_blank_getD (hi : i < inp.size) :
    (blankRegions inp rs).getD i 0 = opqByte inp rs i := by
  rw [opq_blank_eq, Array.getD_eq_getD_getElem?]
  simp [hi]

theorem opq_any_iff :
    rs.any (fun r => let (lo, hi) := r.interior inp; lo ≤ i && i < hi) = true ↔ opqInside inp rs i := by
  unfold opqInside
  rw [List.any_eq_true]
  constructor
  · rintro ⟨r, hr, h⟩
    refine ⟨r, hr, ?_⟩
    simpa using h
  · rintro ⟨r, hr, h⟩
    refine ⟨r, hr, ?_⟩
    simpa using h

instance opqInsideDec (inp : Bytes) (rs : List Region) (i : Nat) : Decidable (opqInside inp rs i) :=
  decidable_of_iff _ (opq_any_iff inp rs i)

theorem opq_bAt_blank (hi : i < inp.size) :
    bAt (blankRegions inp rs) i = if bAt inp i ≠ 10 ∧ opqInside inp rs i then 120 else bAt inp i := by
  unfold bAt
  rw [opq_blank_getD inp rs i hi]
  unfold opqByte
  have hc : (inp.getD i 0 != 10 &&
      rs.any (fun r => let (lo, hi) := r.interior inp; lo ≤ i && i < hi)) = true ↔
      ((inp.getD i 0).toNat ≠ 10 ∧ opqInside inp rs i) := by
    rw [Bool.and_eq_true, opq_any_iff, bne_iff_ne, Ne, ← UInt8.toNat_inj]; rfl
  rw [apply_ite UInt8.toNat]
  exact ite_congr (propext hc) (fun _ => rfl) (fun _ => rfl)

theorem opq_bAt_cases :
    bAt (blankRegions inp rs) i = bAt inp i ∨
    (bAt (blankRegions inp rs) i = 120 ∧ bAt inp i ≠ 10 ∧ opqInside inp rs i) := by
  by_cases hi : i < inp.size
  · rw [opq_bAt_blank inp rs i hi]
    by_cases hc : bAt inp i ≠ 10 ∧ opqInside inp rs i
    · rw [if_pos hc]; exact Or.inr ⟨rfl, hc.1, hc.2⟩
    · rw [if_neg hc]; exact Or.inl rfl
  · rw [bAt_ge _ i (by rw [opq_blank_size]; omega), bAt_ge _ i (by omega)]
    exact Or.inl rfl

theorem opq_bAt_out (h : ¬ opqInside inp rs i) :
    bAt (blankRegions inp rs) i = bAt inp i :=
  (opq_bAt_cases inp rs i).resolve_right (fun hc => h hc.2.2)

theorem opq_bAt_nl_iff :
    bAt (blankRegions inp rs) i = 10 ↔ bAt inp i = 10 := by
  rcases opq_bAt_cases inp rs i with h | ⟨h, h10, _⟩
  · rw [h]
  · rw [h]; constructor
    · intro hc; cases hc
    · intro hc; exact absurd hc h10

theorem opq_bAt_in (hi : i < inp.size)
    (h : opqInside inp rs i) : bAt (blankRegions inp rs) i = 120 ∨ bAt (blankRegions inp rs) i = 10 := by
  by_cases h10 : bAt inp i = 10
  · exact Or.inr ((opq_bAt_nl_iff inp rs i).mpr h10)
  · exact Or.inl (by rw [opq_bAt_blank inp rs i hi, if_pos ⟨h10, h⟩])

end

/-- `blankRegions` on lists, with the interiors computed once: what the kernel evaluates in
    the test vectors -/
def opqBlankList (iv : List (Nat × Nat)) : List UInt8 → Nat → List UInt8
  | [], _ => []
  | x :: xs, i =>
    (if x != 10 && iv.any (fun (lo, hi) => lo ≤ i && i < hi) then 120 else x) :: opqBlankList iv xs (i + 1)

theorem opqBlankList_eq (inp : Bytes) (rs : List Region) : ∀ (l : List UInt8) (i : Nat),
    (∀ k, k < l.length → inp.getD (i + k) 0 = l.getD k 0) →
    (List.range' i l.length).map (opqByte inp rs) = opqBlankList (rs.map (·.interior inp)) l i := by
  intro l
  induction l with
  | nil => intros; rfl
  | cons x xs ih =>
    intro i h
    have h0 : inp.getD i 0 = x := h 0 (Nat.succ_pos _)
    rw [List.length_cons, List.range'_succ, List.map_cons, opqBlankList,
      ih (i + 1) (fun k hk => by
        rw [Nat.add_right_comm, Nat.add_assoc]; exact h (k + 1) (Nat.succ_lt_succ hk))]
    unfold opqByte
    rw [h0, List.any_map]
    rfl

theorem opq_blank_toList (inp : Bytes) (rs : List Region) :
    (blankRegions inp rs).toList = opqBlankList (rs.map (·.interior inp)) inp.toList 0 := by
  rw [opq_blank_eq, List.range_eq_range', ← Array.length_toList,
    opqBlankList_eq inp rs inp.toList 0 (fun k hk => by
      rw [Nat.zero_add, Array.getD_eq_getD_getElem?, ← Array.getElem?_toList,
        List.getD_eq_getElem?_getD])]

section
variable (inp : Bytes) {r : Region}

theorem opq_interior_lit (hk : r.kind = .lit) :
    r.interior inp = (r.a + 1, r.b - 1) := by
  unfold Region.interior; rw [hk]

theorem opq_interior_block (hk : r.kind = .comment)
    (h45 : bAt inp r.a ≠ 45) :
    r.interior inp = (r.a + 2,
      if r.a + 4 ≤ r.b ∧ bAt inp (r.b - 2) = 42 ∧ bAt inp (r.b - 1) = 47 then r.b - 2 else r.b) := by
  unfold Region.interior; rw [hk]
  dsimp only
  have hc : (decide (r.a + 4 ≤ r.b) && inp.getD (r.b - 2) 0 == 42 && inp.getD (r.b - 1) 0 == 47) = true ↔
      (r.a + 4 ≤ r.b ∧ bAt inp (r.b - 2) = 42 ∧ bAt inp (r.b - 1) = 47) := by
    rw [Bool.and_eq_true, Bool.and_eq_true, decide_eq_true_iff, getD_beq_iff, getD_beq_iff, and_assoc]
    rfl
  rw [if_neg (fun hc => h45 ((getD_beq_iff inp r.a 45).mp hc)), apply_ite (Prod.mk (r.a + 2))]
  exact ite_congr (propext hc) (fun _ => rfl) (fun _ => rfl)

theorem opq_interior_comment (hk : r.kind = .comment) :
    (r.interior inp).1 = r.a + 2 ∧ ((r.interior inp).2 = r.b ∨ (r.interior inp).2 = r.b - 2) := by
  unfold Region.interior; rw [hk]
  dsimp only
  split
  · exact ⟨rfl, Or.inl rfl⟩
  · split
    · exact ⟨rfl, Or.inr rfl⟩
    · exact ⟨rfl, Or.inl rfl⟩

end

theorem opq_interior_bounds (inp : Bytes) (r : Region) :
    r.a + 1 ≤ (r.interior inp).1 ∧ (r.interior inp).2 ≤ r.b := by
  cases hk : r.kind with
  | lit => rw [opq_interior_lit inp hk]; exact ⟨Nat.le_refl _, Nat.sub_le _ _⟩
  | comment =>
    obtain ⟨h1, h2 | h2⟩ := opq_interior_comment inp hk
    · rw [h1, h2]; exact ⟨Nat.le_succ _, Nat.le_refl _⟩
    · rw [h1, h2]; exact ⟨Nat.le_succ _, Nat.sub_le _ _⟩

/-- `lexLoop_spec` for a whole run of the lexer, with `DecOK` packed in. -/
structure OpqRegs (E : Env) (regions : List Region) : Prop where
  dec : DecOK E
  mem : ∀ r, r ∈ regions ↔ LexCode E r.a ∧ r.a < E.len ∧ lexNext E r.a = some r.b ∧ OpqKind E r
  total : ∀ x, LexCode E x → x < E.len → ∃ e, lexNext E x = some e

section
variable {E : Env} {regions : List Region}

theorem opq_regs (h : DecOK E) (hr : lexRegions E = .ok regions) : OpqRegs E regions := by
  obtain ⟨h1, h2⟩ := lexLoop_spec h _ _ _ _ hr (Nat.lt_succ_of_le (Nat.sub_le _ _))
  exact ⟨h, fun r => (h1 r).trans ⟨fun hm => hm.elim (fun hm => nomatch hm) id, Or.inr⟩, h2⟩

theorem OpqRegs.inside_step (G : OpqRegs E regions) {p e i : Nat} (hp : LexCode E p) (hlt : p < E.len)
    (he : lexNext E p = some e) (hi : p ≤ i) (hie : i < e) {r : Region} (hr : r ∈ regions)
    (hlo : (r.interior E.inp).1 ≤ i) (hhi : i < (r.interior E.inp).2) :
    r.a = p ∧ r.b = e ∧ OpqKind E r := by
  obtain ⟨hca, hla, hna, hka⟩ := (G.mem r).mp hr
  have hb := opq_interior_bounds E.inp r
  have h1 := Reach.not_in_step G.dec hp hlt he hca
  have h2 := Reach.not_in_step G.dec hca hla hna hp
  have ha : r.a = p := by omega
  refine ⟨ha, ?_, hka⟩
  rw [ha, he] at hna
  exact (Option.some.inj hna).symm

theorem OpqRegs.inside_iff (G : OpqRegs E regions) {r0 : Region} (hr0 : r0 ∈ regions) {i : Nat}
    (hi : r0.a ≤ i) (hie : i < r0.b) :
    opqInside E.inp regions i ↔ (r0.interior E.inp).1 ≤ i ∧ i < (r0.interior E.inp).2 := by
  obtain ⟨hca, hla, hna, hka⟩ := (G.mem r0).mp hr0
  constructor
  · rintro ⟨r, hr, hlo, hhi⟩
    obtain ⟨ha, hb, hk⟩ := G.inside_step hca hla hna hi hie hr hlo hhi
    have : r = r0 := Region.ext_of ha hb (OpqKind.unique ha hk hka)
    subst this
    exact ⟨hlo, hhi⟩
  · rintro ⟨hlo, hhi⟩
    exact ⟨r0, hr0, hlo, hhi⟩

theorem OpqRegs.code_outside (G : OpqRegs E regions) {x : Nat} (hx : LexCode E x) :
    ¬ opqInside E.inp regions x := by
  rintro ⟨r, hr, hlo, hhi⟩
  obtain ⟨hca, hla, hna, _⟩ := (G.mem r).mp hr
  have hb := opq_interior_bounds E.inp r
  have := Reach.not_in_step G.dec hca hla hna hx
  omega

theorem OpqRegs.succ_outside (G : OpqRegs E regions) {p : Nat} (hc : LexCode E p)
    (hq : ¬ (rn E p = 34 ∨ rn E p = 39)) : ¬ opqInside E.inp regions (p + 1) := by
  rintro ⟨r, hr, hlo, hhi⟩
  obtain ⟨hca, hla, hna, hka⟩ := (G.mem r).mp hr
  have hb := opq_interior_bounds E.inp r
  have h2 := Reach.not_in_step G.dec hca hla hna hc
  have ha : r.a = p := by omega
  rcases hka with ⟨_, h⟩ | ⟨hk, _, _⟩
  · rw [ha] at h; exact hq h
  · rw [(opq_interior_comment _ hk).1] at hlo; omega

theorem OpqRegs.plain_outside (R : OpqRegs E regions) {p i : Nat} (hp : LexCode E p) (hlt : p < E.len)
    (hpl : PlainAt E p) (hi : p ≤ i) (hie : i < p + sz E p) : ¬ opqInside E.inp regions i := by
  rintro ⟨r, hr, hlo, hhi⟩
  have he := lexNext_plain R.dec hlt hpl
  obtain ⟨ha, _, hk⟩ := R.inside_step hp hlt he hi hie hr hlo hhi
  rw [← ha] at hpl
  rcases hk with ⟨_, h2 | h2⟩ | ⟨_, _, h2 | h2⟩
  · exact hpl.dquote h2
  · exact hpl.squote h2
  · exact hpl.line h2
  · exact hpl.block h2

end

end Sqlair
