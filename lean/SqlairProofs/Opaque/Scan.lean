/-
  Opacity of literals and comments, scanner level: on a state at a code offset of the lexer, the
  primitives through which the parser reads its input behave the same on `E` and on
  `opqEnv E inp'` (the instance `opq_sim` of the interface `Sim`).

  The two skippers that run through a literal or a comment (`skipStringLiteral`,
  `skipComment`) are handled through the bridge to the lexer in `Parser/LexScan.lean`
  (`skipStringLiteral_quote`, `skipComment_lexNext`): both runs stop where their lexer stops, the
  lexers agree (`OpqEnv.next`), and a consistent scanner state is determined by its offset
  (`opq_sc_eq`).
-/
import SqlairProofs.Opaque.Defs

namespace Sqlair

section
variable {E : Env} {inp' : Bytes} {s : Sc}

theorem Sc.ext_of {s t : Sc} (h1 : s.pos = t.pos) (h2 : s.nextPos = t.nextPos) (h3 : s.char = t.char)
    (h4 : s.lineNum = t.lineNum) (h5 : s.lineStart = t.lineStart) : s = t := by
  cases s; cases t; simp only [] at h1 h2 h3 h4 h5; subst h1 h2 h3 h4 h5; rfl

theorem opq_extract_one (inp inp2 : Bytes) (a b : Nat) (hs : inp.size = inp2.size)
    (hb : inp.getD a 0 = inp2.getD a 0) (h : (inp.extract a b).size = 1) :
    inp2.extract a b = inp.extract a b := by
  apply Array.ext
  · simp only [Array.size_extract, hs]
  · intro i h1 h2
    simp only [Array.size_extract] at h h1 h2
    obtain rfl : i = 0 := by omega
    have ha : a < inp.size := by omega
    have ha2 : a < inp2.size := by omega
    simpa [Array.getD, ha, ha2] using hb.symm

variable (R : OpqEnv E inp')
include R

theorem opq_good (l : LC E s) : Good (opqEnv E inp') s where
  pos_le := by rw [opq_len R]; exact l.good.pos_le
  next := fun hp => by
    rw [opq_len R] at hp
    show s.nextPos = s.pos + (E.dec inp' s.pos).2 ∧ s.char = (E.dec inp' s.pos).1
    rw [R.dec s.pos l.code hp]
    exact l.good.next hp
  next_eof := fun hp => by
    rw [opq_len R] at hp
    exact l.good.next_eof hp
  line := by
    show _ = lineColOf inp' s.pos
    rw [R.lineCol]; exact l.good.line
  lineStart_le := l.good.lineStart_le

theorem opq_sc_eq {s1 s1' : Sc} (g : Good E s1) (g' : Good (opqEnv E inp') s1')
    (hpos : s1'.pos = s1.pos) (hc : LexCode E s1.pos) (hz : EofZ E s1)
    (hz' : EofZ (opqEnv E inp') s1') : s1' = s1 := by
  have hline := g'.line
  rw [opq_inp, R.lineCol, hpos, ← g.line] at hline
  obtain ⟨hl1, hl2⟩ := Prod.mk.inj hline
  have hl3 : s1'.lineStart = s1.lineStart := by
    have := g.lineStart_le
    have := g'.lineStart_le
    omega
  by_cases hp : s1.pos < E.len
  · obtain ⟨hn, hch⟩ := g.next hp
    obtain ⟨hn', hch'⟩ := g'.next (by rw [opq_len R, hpos]; exact hp)
    rw [opq_dec, opq_inp, hpos,
      R.dec s1.pos hc hp] at hn' hch'
    exact Sc.ext_of hpos (by rw [hn, hn']) (by rw [hch, hch']) hl1 hl3
  · have hpe : s1.pos = E.len := Nat.le_antisymm g.pos_le (Nat.not_lt.mp hp)
    have hpe' : s1'.pos = (opqEnv E inp').len := by rw [opq_len R, hpos]; exact hpe
    exact Sc.ext_of hpos (by rw [g.next_eof hpe, g'.next_eof hpe', hpos])
      (by rw [hz (Nat.le_of_eq hpe.symm), hz' (Nat.le_of_eq hpe'.symm)]) hl1 hl3

theorem opq_advanceChar (l : LC E s)
    (hpl : s.pos < E.len → PlainAt E s.pos) : advanceChar (opqEnv E inp') s = advanceChar E s :=
  opq_sc_eq R (advanceChar_good R.decE l.good) (advanceChar_good R.decOK (opq_good R l))
    (by rw [advanceChar_pos, advanceChar_pos]) (advanceChar_lc R.decE l hpl).code
    (advanceChar_eofZ s) (advanceChar_eofZ s)

theorem opq_advanceChar_name (l : LC E s)
    (hn : isNameChar E s.char = true) : advanceChar (opqEnv E inp') s = advanceChar E s :=
  opq_advanceChar R l fun hp => .of_ne (l.good.char_eq hp ▸ nameChar_plain R.cls hn)

theorem opq_advanceChar_code {s s1 : Sc} (l : LC E s)
    (heq : skipStringLiteral E s = (s1, .no)) (hf : ¬ (skipComment E s).2 = true) :
    advanceChar (opqEnv E inp') s = advanceChar E s :=
  opq_advanceChar R l (plainAt_of_noComment R.decE l.good heq hf)

theorem opq_bAt {p : Nat} (hc : LexCode E p) : bAt inp' p = bAt E.inp p :=
  bAt_eq_toNat_iff.mpr (R.byte p hc)

theorem opq_foldEqAt : ∀ (kw : List Nat), (∀ k, k ∈ kw → 65 ≤ k ∧ k ≤ 90) →
    ∀ (p : Nat), p + kw.length ≤ E.len → LexCode E p → foldEqAt inp' p kw = foldEqAt E.inp p kw := by
  intro kw
  induction kw with
  | nil => intros; rfl
  | cons k ks ih =>
    intro hkw p hle hl
    simp only [List.length_cons] at hle
    rw [Bool.eq_iff_iff, foldEqAt_cons_iff, foldEqAt_cons_iff, opq_bAt R hl]
    refine and_congr_right fun hf => ?_
    -- the first letter matches, so the next offset is a code offset too
    have hl1 := foldEqAt_lc R.decE R.asciiE [k] (fun k' hk' => by
      rw [List.mem_singleton] at hk'; subst hk'; exact hkw _ List.mem_cons_self) p
      (by simp only [List.length_cons, List.length_nil]; omega) (foldEqAt_cons_iff.mpr ⟨hf, rfl⟩) hl
    rw [ih (fun k' hk' => hkw k' (List.mem_cons_of_mem _ hk')) (p+1) (by omega) hl1]

theorem opq_skipString (kw : List Nat) (hkw : ∀ k, k ∈ kw → 65 ≤ k ∧ k ≤ 90)
    (l : LC E s) : skipString (opqEnv E inp') kw s = skipString E kw s := by
  unfold skipString
  rw [opq_len R, opq_inp, opq_dec]
  by_cases hcond : s.pos + kw.length ≤ E.len ∧ foldEqAt E.inp s.pos kw = true
  · have hf := opq_foldEqAt R kw hkw s.pos hcond.1 l.code
    rw [if_pos hcond, if_pos ⟨hcond.1, by rw [hf]; exact hcond.2⟩]
    simp only []
    by_cases hp : s.pos + kw.length < E.len
    · simp only [if_pos hp, R.dec _ (foldEqAt_lc R.decE R.asciiE kw hkw s.pos hcond.1 hcond.2 l.code) hp]
    · simp only [if_neg hp]
  · have hn : ¬ (s.pos + kw.length ≤ E.len ∧ foldEqAt inp' s.pos kw = true) := by
      intro hx
      exact hcond ⟨hx.1, by rw [← opq_foldEqAt R kw hkw s.pos hx.1 l.code]; exact hx.2⟩
    rw [if_neg hcond, if_neg hn]

theorem opq_skipComment (l : LC E s) :
    skipComment (opqEnv E inp') s = skipComment E s := by
  have g' := opq_good R l
  have hflag : (skipComment (opqEnv E inp') s).2 = (skipComment E s).2 := by
    rw [Bool.eq_iff_iff, skipComment_flag R.decE l.good, skipComment_flag R.decOK g',
      opq_len R]
    exact and_congr_right fun hp => or_congr (R.lineOpen _ l.code hp) (R.blockOpen _ l.code hp)
  refine Prod.ext ?_ hflag
  cases hb : (skipComment E s).2 with
  | true =>
    have hb' : (skipComment (opqEnv E inp') s).2 = true := by rw [hflag, hb]
    obtain ⟨hp, hn⟩ := skipComment_lexNext R.decE l.good hb
    obtain ⟨_, hn'⟩ := skipComment_lexNext R.decOK g' hb'
    rw [R.next _ l.code hp, hn] at hn'
    exact opq_sc_eq R (skipComment_bok R.decE l.good).good (skipComment_bok R.decOK g').good
      (Option.some.inj hn').symm (skipComment_lc R.decE l).code
      ((skipComment_ok R.decE l.good).eofZ hb) ((skipComment_ok R.decOK g').eofZ hb')
  | false =>
    have hb' : (skipComment (opqEnv E inp') s).2 = false := by rw [hflag, hb]
    rw [(skipComment_bok R.decE l.good).rest hb, (skipComment_bok R.decOK g').rest hb']

theorem opq_skipStringLiteral (l : LC E s) :
    skipStringLiteral (opqEnv E inp') s = skipStringLiteral E s := by
  have g' := opq_good R l
  by_cases hq : s.pos < E.len ∧ (s.char = 34 ∨ s.char = 39)
  · -- both runs return what `strLitLoop` finds, which ends where the lexers (that agree) end
    have hq' : s.pos < (opqEnv E inp').len := opq_len R ▸ hq.1
    obtain ⟨r, hres, hpos, hz⟩ := skipStringLiteral_quote R.decE l.good hq.1 hq.2
    obtain ⟨r', hres', hpos', hz'⟩ := skipStringLiteral_quote R.decOK g' hq' hq.2
    have lres := skipStringLiteral_lc R.decE l
    have gres' := (skipStringLiteral_xok R.decOK g').good
    rw [← lexNext_quote R.decE l.good hq.1 hq.2] at hpos
    rw [← lexNext_quote R.decOK g' hq' hq.2, R.next _ l.code hq.1, ← hpos] at hpos'
    rw [hres] at lres ⊢
    rw [hres'] at gres' ⊢
    cases r with
    | none => cases r' with
      | none => rfl
      | some s1' => cases hpos'
    | some s1 => cases r' with
      | none => cases hpos'
      | some s1' =>
        exact congrArg (fun t => (t, Res.ok ())) (opq_sc_eq R (s1 := s1) (s1' := s1') lres.good gres'
          (Option.some.inj hpos') lres.code (hz _ rfl) (hz' _ rfl))
  · rw [skipStringLiteral_of_not hq, skipStringLiteral_of_not (fun hx => hq ⟨opq_len R ▸ hx.1, hx.2⟩)]

theorem opq_extract_star {a : Nat} (hc : LexCode E a) (b : Nat) :
    OpqStar (E.inp.extract a b) (inp'.extract a b) :=
  ⟨fun h => (opq_extract_one _ _ a b R.size.symm (R.byte a hc).symm (by rw [h]; rfl)).trans h,
   fun h => (opq_extract_one _ _ a b R.size (R.byte a hc) (by rw [h]; rfl)).trans h⟩

/-- The invariant half of every field is `lc_sim`; this file adds the equations `opq_*`. -/
theorem opq_sim : Sim E (opqEnv E inp') 0 (LC E) OpqStar :=
  have L := lc_sim R.decE R.asciiE R.cls
  { dec := R.decE
    len := opq_len R
    letter := rfl
    digit := rfl
    good := LC.good
    adv_code := fun l hq hf =>
      ⟨(L.adv_code l hq hf).1, (opq_advanceChar_code R l hq hf).trans (Sc.sh_zero _).symm⟩
    adv_name := fun l hn => ⟨(L.adv_name l hn).1, (opq_advanceChar_name R l hn).trans (Sc.sh_zero _).symm⟩
    skipString := fun {_ kw} hkw l =>
      have hup : ∀ k, k ∈ kw → 65 ≤ k ∧ k ≤ 90 := hkw.elim (· ▸ kwAS_upper) (· ▸ kwVALUES_upper)
      ⟨(L.skipString hkw l).1, (opq_skipString R kw hup l).trans (shB_zero _).symm⟩
    skipComment := fun l => ⟨(L.skipComment l).1, (opq_skipComment R l).trans (shB_zero _).symm⟩
    skipStringLiteral := fun l =>
      ⟨(L.skipStringLiteral l).1, (opq_skipStringLiteral R l).trans (shR_zero _).symm⟩
    extract := fun l => opq_extract_star R l.code
    refl := fun _ => Iff.rfl
    star := id }

end
end Sqlair
