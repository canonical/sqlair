/-
  Opacity of literals and comments, main loop: `parse` on `E` and on `opqEnv E inp'` yields
  nodes of the same kinds and spans, or errors at the same position (`opq_parse`); the same in
  terms of `modelObs` and `holdsC02opaque` (`opq_holds`).
-/
import SqlairProofs.Opaque.Scan
import SqlairProofs.Sim.Exprs

namespace Sqlair

/-- the `N` of `sim_parse` -/
def OpqPS (st st' : PS) : Prop :=
  st'.prevExprEnd = st.prevExprEnd ∧ OpqList OpqSeg st.exprs st'.exprs

inductive OpqParse : Except PErr (List Seg) → Except PErr (List Seg) → Prop where
  | ok {l l' : List Seg} : OpqList OpqSeg l l' → OpqParse (.ok l) (.ok l')
  | err {e e' : PErr} : OpqErr e e' → OpqParse (.error e) (.error e')

section
variable {E : Env} {inp' : Bytes}

theorem Seg.Rel.opqSeg {RB : Bytes → Bytes → Prop} {a b : Seg} (h : Seg.Rel 0 RB a b) : OpqSeg a b :=
  ⟨h.kind.symm, h.a.symm, h.b.symm⟩

theorem PErr.Rel.opqErr {RB : Bytes → Bytes → Prop} {e e' : PErr} (h : PErr.Rel 0 RB e e') :
    OpqErr e e' := ⟨h.1.symm, h.2.1.symm⟩

theorem opq_add {st st' : PS} (h : OpqPS st st')
    (hcur : st'.currentExprStart = st.currentExprStart) {e e' : Option Seg}
    (he : Option.Rel OpqSeg e e') :
    OpqList OpqSeg (st.add e).exprs (st'.add e').exprs := by
  rw [PS.add_exprs, PS.add_exprs, ← h.1, hcur]
  have hb : OpqList OpqSeg
      (st.exprs ++ if st'.prevExprEnd ≠ st.currentExprStart
        then [{ kind := .bypass, a := st'.prevExprEnd, b := st.currentExprStart }] else [])
      (st'.exprs ++ if st'.prevExprEnd ≠ st.currentExprStart
        then [{ kind := .bypass, a := st'.prevExprEnd, b := st.currentExprStart }] else []) := by
    split
    · exact h.2.snoc ⟨rfl, rfl, rfl⟩
    · rw [List.append_nil, List.append_nil]; exact h.2
  cases he with
  | some hab => exact hb.snoc hab
  | none => rw [Option.toList, List.append_nil, List.append_nil]; exact hb

theorem opq_add_sc (st : PS) (e : Option Seg) : (st.add e).sc = st.sc := rfl

variable (R : OpqEnv E inp')
include R

theorem opq_initSc : initSc (opqEnv E inp') = initSc E :=
  opq_sc_eq R initSc_good.1 initSc_good.1 (by rw [initSc_good.2, initSc_good.2])
    (by rw [initSc_good.2]; exact LexCode.zero) (advanceChar_eofZ _) (advanceChar_eofZ _)

theorem opq_parse : OpqParse (parse E) (parse (opqEnv E inp')) := by
  have h := sim_parse (opq_sim R) R.cls.classSep (N := OpqPS) (M := OpqList OpqSeg) (fun _ _ _ _ h => h)
    (fun h hsc hcur hxy =>
      ⟨congrArg Sc.pos hsc, opq_add h hcur (.some hxy.opqSeg)⟩)
    (fun h hcur => opq_add h hcur .none)
    (by rw [opq_initSc R]; exact ⟨rfl, .nil⟩) initSc_lc
    (by rw [opq_initSc R]; exact sim_advanceToNextExpression (opq_sim R) initSc_lc (.inl rfl))
  generalize parse E = x at h ⊢
  generalize parse (opqEnv E inp') = y at h ⊢
  cases h with
  | ok h => exact .ok h
  | error h => exact .err h.opqErr

end

theorem opq_shape_eq {inp inp2 : Bytes} (hs : inp2.size = inp.size) {l l' : List Seg}
    (hl : OpqList OpqSeg l l') :
    (l.map (Seg.toOSeg inp)).map (fun s => (s.kind, s.raw.size)) =
      (l'.map (Seg.toOSeg inp2)).map (fun s => (s.kind, s.raw.size)) := by
  induction hl with
  | nil => rfl
  | @cons a b l l' hab _ ih =>
    simp only [List.map_cons, ih]
    congr 1
    obtain ⟨hk, ha, hb⟩ := hab
    unfold Seg.toOSeg
    simp only [Array.size_extract, hk, ha, hb, hs]

theorem opq_holds {E : Env} {inp' : Bytes} (R : OpqEnv E inp') :
    holdsC02opaque (modelObs E) (modelObs (opqEnv E inp')) = true := by
  have h := opq_parse R
  generalize hx : parse E = x at h
  generalize hy : parse (opqEnv E inp') = y at h
  cases h with
  | ok hl =>
    rw [modelObs_ok hx, modelObs_ok hy]
    simp only [holdsC02opaque, ParseObs.shape]
    rw [opq_shape_eq R.size hl]
    exact beq_self_eq_true _
  | err he =>
    rw [modelObs_error hx, modelObs_error hy, opq_inp, R.hasNl]
    simp only [holdsC02opaque, ParseObs.shape]
    rw [he.1, he.2]
    exact beq_self_eq_true _

end Sqlair
