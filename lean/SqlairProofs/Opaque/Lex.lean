/-
  Opacity of literals and comments, lexer level: on two inputs related by `OpqEnv` the
  reference lexer finds the same regions.  (Not used by the relational pass over the parser;
  it shows that blanking the interiors of the regions does not change the regions.)
-/
import SqlairProofs.Opaque.Defs

namespace Sqlair

section
variable {E : Env} {inp' : Bytes}

variable (R : OpqEnv E inp')
include R

theorem opq_stepRegions {p : Nat} (hc : LexCode E p) (hp : p < E.len) (e : Nat) :
    stepRegions (opqEnv E inp') p e = stepRegions E p e := by
  unfold stepRegions
  rw [show rn (opqEnv E inp') p = rn E p from congrArg Prod.fst (R.dec p hc hp)]
  exact ite_congr rfl (fun _ => rfl) fun _ =>
    ite_congr (propext (or_congr (R.lineOpen p hc hp) (R.blockOpen p hc hp))) (fun _ => rfl) fun _ => rfl

theorem opq_lexLoop : ∀ (f p : Nat) (acc : List Region), LexCode E p →
    lexLoop (opqEnv E inp') f p acc = lexLoop E f p acc
  | 0, _, _, _ => rfl
  | f+1, p, acc, hc => by
    rw [lexLoop_next R.decOK, lexLoop_next R.decE, opq_len R]
    refine ite_congr rfl (fun _ => rfl) fun hp => ?_
    have hp := Nat.not_le.mp hp
    rw [R.next p hc hp]
    cases hl : lexNext E p with
    | none => rfl
    | some e =>
      dsimp only
      rw [opq_stepRegions R hc hp]
      exact opq_lexLoop f e _ (hc.next hp hl)

theorem opq_lexRegions : lexRegions (opqEnv E inp') = lexRegions E := by
  unfold lexRegions
  rw [opq_len R]
  exact opq_lexLoop R _ 0 [] LexCode.zero

end
end Sqlair
