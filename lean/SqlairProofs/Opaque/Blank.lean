/-
  Property C02, metamorphic form, byte level: the input with blanked literal and comment
  interiors satisfies the interface `OpqEnv` of the relational pass (`opq_blank_env`).
-/
import SqlairProofs.Opaque.Regions

namespace Sqlair

section
variable {E : Env} (hd : OpqDec E)
include hd

theorem opq_open_of_bytes {a b p : Nat} (ha : a < 128) (hb : b < 128)
    (h1 : p + 1 < E.len) (hb1 : bAt E.inp p = a) (hb2 : bAt E.inp (p + 1) = b) :
    rn E p = a ∧ p + sz E p < E.len ∧ rn E (p + sz E p) = b := by
  obtain ⟨hr1, hs1⟩ := hd.ascii_at (p := p) (by omega) (by omega)
  obtain ⟨hr2, _⟩ := hd.ascii_at h1 (by omega)
  rw [hs1]
  exact ⟨hr1.trans hb1, h1, hr2.trans hb2⟩

end

section
variable {F : Env} (hd : OpqDec F)
include hd

/-! The bytes of a blanked interior: 120 is the `x` that `blankRegions` writes over every byte
    of an interior, 10 the newline, which it keeps.  Either is a rune of one byte, and a stretch
    of them holds neither a closing quote (`c`) nor a `*`, so `litEnd` and `blockCommentEnd` step
    over it. -/

theorem opq_blank_rune {p : Nat} (hp : p < F.len)
    (hb : bAt F.inp p = 120 ∨ bAt F.inp p = 10) : (rn F p = 120 ∨ rn F p = 10) ∧ sz F p = 1 := by
  obtain ⟨h1, h2⟩ := hd.ascii_at hp (by omega)
  rw [h1]; exact ⟨hb, h2⟩

theorem opq_LE_blank {c : Nat} (hc : c ≠ 120) (hc10 : c ≠ 10) {s t : Nat}
    (hst : s ≤ t) (ht : t ≤ F.len)
    (hall : ∀ i, s ≤ i → i < t → bAt F.inp i = 120 ∨ bAt F.inp i = 10) : LE F c s = LE F c t := by
  induction hst with
  | refl => rfl
  | @step t hst ih =>
    obtain ⟨hr, hs⟩ := opq_blank_rune hd (p := t) ht (hall t hst (Nat.lt_succ_self t))
    rw [ih (Nat.le_of_lt ht) (fun i hi hit => hall i hi (Nat.lt_succ_of_lt hit)),
      LE_skip hd.decOK ht (by omega), hs]

theorem opq_BCE_blank {s t : Nat} (hst : s ≤ t) (ht : t ≤ F.len)
    (hall : ∀ i, s ≤ i → i < t → bAt F.inp i = 120 ∨ bAt F.inp i = 10) : BCE F s = BCE F t := by
  induction hst with
  | refl => rfl
  | @step t hst ih =>
    obtain ⟨hr, hs⟩ := opq_blank_rune hd (p := t) ht (hall t hst (Nat.lt_succ_self t))
    rw [ih (Nat.le_of_lt ht) (fun i hi hit => hall i hi (Nat.lt_succ_of_lt hit)),
      BCE_skip hd.decOK ht (fun h => by omega), hs]

end

section
variable {E : Env} {regions : List Region}

variable (hd : OpqDec E) (G : OpqRegs E regions)
include hd G

/-- The byte in front of every interior is an ASCII byte of the opener.  So a walk to the right
    from an offset outside the interiors, over bytes ≥ 128, never enters an interior
    (`opq_outside_succ`): up to the first ASCII byte nothing is blanked (`opq_window_search`),
    and the decoder, which looks no further, decodes alike (`opq_dec_eq`). -/
theorem opq_lo_ascii {r : Region} (hr : r ∈ regions) :
    1 ≤ (r.interior E.inp).1 ∧ bAt E.inp ((r.interior E.inp).1 - 1) < 128 := by
  obtain ⟨_, hla, _, hk⟩ := (G.mem r).mp hr
  rcases hk with ⟨hk, hq⟩ | ⟨hk, _, hl | hb⟩
  · rw [opq_interior_lit _ hk]
    simp only []
    obtain ⟨_, hb⟩ := hd.smallDec _ hla (by omega)
    rw [Nat.add_sub_cancel, hb]
    omega
  · rw [(opq_interior_comment _ hk).1]
    obtain ⟨_, _, _, _, h5⟩ := hd.smallDec.open_bytes hl
    rw [show r.a + 2 - 1 = r.a + 1 from rfl, h5]
    exact ⟨Nat.le_add_left _ _, by decide⟩
  · rw [(opq_interior_comment _ hk).1]
    obtain ⟨_, _, _, _, h5⟩ := hd.smallDec.open_bytes hb
    rw [show r.a + 2 - 1 = r.a + 1 from rfl, h5]
    exact ⟨Nat.le_add_left _ _, by decide⟩

theorem opq_outside_succ {i : Nat}
    (hout : ¬ opqInside E.inp regions i) (hb : 128 ≤ bAt E.inp i) :
    ¬ opqInside E.inp regions (i + 1) := by
  rintro ⟨r, hr, hlo, hhi⟩
  obtain ⟨h1, h2⟩ := opq_lo_ascii hd G hr
  by_cases hle : (r.interior E.inp).1 ≤ i
  · exact hout ⟨r, hr, hle, by omega⟩
  · have : (r.interior E.inp).1 - 1 = i := by omega
    rw [this] at h2
    omega

theorem opq_window_search : ∀ (n p : Nat),
    E.inp.size ≤ p + n → ¬ opqInside E.inp regions p →
    ∃ q, p ≤ q ∧ (E.inp.size ≤ q ∨ bAt E.inp q < 128) ∧
      ∀ i, p ≤ i → i ≤ q → bAt E.inp i = bAt (blankRegions E.inp regions) i := by
  intro n
  induction n with
  | zero =>
    intro p hn hout
    exact ⟨p, Nat.le_refl _, Or.inl hn,
      fun i hi hiq => Nat.le_antisymm hiq hi ▸ (opq_bAt_out _ _ _ hout).symm⟩
  | succ n ih =>
    intro p hn hout
    by_cases hb : bAt E.inp p < 128
    · exact ⟨p, Nat.le_refl _, Or.inr hb,
        fun i hi hiq => Nat.le_antisymm hiq hi ▸ (opq_bAt_out _ _ _ hout).symm⟩
    · obtain ⟨q, hq, hend, hall⟩ :=
        ih (p + 1) (by omega) (opq_outside_succ hd G hout (Nat.not_lt.mp hb))
      refine ⟨q, Nat.le_of_succ_le hq, hend, fun i hi hiq => ?_⟩
      rcases Nat.eq_or_lt_of_le hi with rfl | hlt
      · exact (opq_bAt_out _ _ _ hout).symm
      · exact hall i hlt hiq

theorem opq_dec_eq {p : Nat} (hc : LexCode E p) :
    E.dec (blankRegions E.inp regions) p = E.dec E.inp p := by
  obtain ⟨q, hq, hend, hall⟩ := opq_window_search hd G E.inp.size p (by omega) (G.code_outside hc)
  exact (hd.window E.inp (blankRegions E.inp regions) p q (opq_blank_size _ _).symm hq hall hend).symm

theorem opq_block_step {p : Nat} (hc : LexCode E p)
    (hb : BlockOpen E p) :
    ∃ e hi, lexNext E p = some e ∧ e ≤ E.len ∧ p + 2 ≤ hi ∧
      (∀ i, p ≤ i → i < e → (opqInside E.inp regions i ↔ p + 2 ≤ i ∧ i < hi)) ∧
      ((hi = e ∧ e = E.len) ∨ (hi + 2 = e ∧ bAt E.inp hi = 42 ∧ bAt E.inp (hi + 1) = 47)) := by
  have hnq : ¬ (rn E p = 34 ∨ rn E p = 39) := by have := hb.1; omega
  obtain ⟨hs1, hb1, hp1, hs2, hb2⟩ := hd.smallDec.open_bytes hb
  have hlt : p < E.len := Nat.lt_of_succ_lt hp1
  have he := lexNext_block G.dec hlt hb
  rw [hs1, hs2] at he
  have hbd := BCE_bounds G.dec (p := p + 1 + 1) hp1
  have hsh := BCE_shape hd.decOK hd.smallDec (p + 1 + 1)
  have hr0 : (⟨.comment, p, BCE E (p + 1 + 1)⟩ : Region) ∈ regions :=
    (G.mem _).mpr ⟨hc, hlt, he, Or.inr ⟨rfl, hnq, Or.inr hb⟩⟩
  have h45 : bAt E.inp p ≠ 45 := by rw [hb1]; decide
  generalize BCE E (p + 1 + 1) = e at he hbd hsh hr0
  by_cases hcond : p + 4 ≤ e ∧ bAt E.inp (e - 2) = 42 ∧ bAt E.inp (e - 1) = 47
  · have h2 : e - 2 + 2 = e := Nat.sub_add_cancel (Nat.le_trans (Nat.le_add_left 2 (p + 2)) hcond.1)
    have h1 : e - 2 + 1 = e - 1 := congrArg (· - 1) h2
    refine ⟨e, e - 2, he, hbd.2, Nat.le_sub_of_add_le hcond.1, fun i hi hie => ?_,
      Or.inr ⟨h2, hcond.2.1, h1 ▸ hcond.2.2⟩⟩
    rw [G.inside_iff hr0 hi hie, opq_interior_block E.inp (r := ⟨.comment, p, e⟩) rfl h45, if_pos hcond]
  · have hlen : e = E.len := by
      rcases hsh with h | ⟨q, rfl, h1, h2, h3⟩
      · exact h
      · exact absurd ⟨Nat.add_le_add_right h1 2, h2, h3⟩ hcond
    refine ⟨e, e, he, hbd.2, hbd.1, fun i hi hie => ?_, Or.inl ⟨rfl, hlen⟩⟩
    rw [G.inside_iff hr0 hi hie, opq_interior_block E.inp (r := ⟨.comment, p, e⟩) rfl h45, if_neg hcond]

end

abbrev opqBl (E : Env) (rs : List Region) : Env := opqEnv E (blankRegions E.inp rs)

section
variable {E : Env} {regions : List Region}

theorem opq_bl_len : (opqBl E regions).len = E.len := opq_blank_size _ _

theorem opq_bl_byte_of_ne {i : Nat} (h : bAt (blankRegions E.inp regions) i ≠ 120) :
    bAt E.inp i = bAt (blankRegions E.inp regions) i := by
  rcases opq_bAt_cases E.inp regions i with h1 | ⟨h1, _⟩
  · exact h1.symm
  · exact absurd h1 h

variable (hd : OpqDec E) (G : OpqRegs E regions)
include hd G

theorem opq_bl_rn {p : Nat} (hc : LexCode E p) :
    rn (opqBl E regions) p = rn E p := congrArg Prod.fst (opq_dec_eq hd G hc)

theorem opq_bl_sz {p : Nat} (hc : LexCode E p) :
    sz (opqBl E regions) p = sz E p := congrArg Prod.snd (opq_dec_eq hd G hc)

/-- `a`, `b`: the two ASCII runes of a comment opener (neither is `x`, `a` is no quote); its two
    bytes are in no interior. -/
theorem opq_bl_open {a b p : Nat} (hc : LexCode E p) (ha : a < 128 := by decide)
    (hb : b < 128 := by decide) (ha' : a ≠ 120 ∧ a ≠ 34 ∧ a ≠ 39 := by decide)
    (hb' : b ≠ 120 := by decide) :
    (rn (opqBl E regions) p = a ∧ p + sz (opqBl E regions) p < (opqBl E regions).len ∧
      rn (opqBl E regions) (p + sz (opqBl E regions) p) = b) ↔
    (rn E p = a ∧ p + sz E p < E.len ∧ rn E (p + sz E p) = b) := by
  have hd' : OpqDec (opqBl E regions) := hd.env _
  constructor
  · intro h
    obtain ⟨_, hb1, hp1, _, hb2⟩ := hd'.smallDec.open_bytes h ha hb
    rw [opq_bl_len] at hp1
    have hb1 : bAt (blankRegions E.inp regions) p = a := hb1
    have hb2 : bAt (blankRegions E.inp regions) (p + 1) = b := hb2
    exact opq_open_of_bytes hd ha hb hp1
      ((opq_bl_byte_of_ne (E := E) (regions := regions) (i := p) (hb1.symm ▸ ha'.1)).trans hb1)
      ((opq_bl_byte_of_ne (E := E) (regions := regions) (i := p + 1) (hb2.symm ▸ hb')).trans hb2)
  · intro h
    obtain ⟨_, hb1, hp1, _, hb2⟩ := hd.smallDec.open_bytes h ha hb
    have hnq : ¬ (rn E p = 34 ∨ rn E p = 39) := h.1.symm ▸ fun hx => hx.elim ha'.2.1 ha'.2.2
    exact opq_open_of_bytes hd' ha hb (by rw [opq_bl_len]; exact hp1)
      ((opq_bAt_out E.inp regions p (G.code_outside hc)).trans hb1)
      ((opq_bAt_out E.inp regions (p + 1) (G.succ_outside hc hnq)).trans hb2)

theorem opq_bl_next_lit {p : Nat} (hc : LexCode E p)
    (hlt : p < E.len) (hq : rn E p = 34 ∨ rn E p = 39) :
    lexNext (opqBl E regions) p = lexNext E p := by
  have hcq : rn E p ≠ 120 ∧ rn E p ≠ 10 ∧ rn E p < 128 := by omega
  have hd' : OpqDec (opqBl E regions) := hd.env _
  -- on the input: the literal ends with its quote at `q`, and its interior is `[p + 1, q)`
  obtain ⟨e, he⟩ := G.total p hc hlt
  obtain ⟨hs1, _⟩ := hd.smallDec _ hlt hcq.2.2
  have hle := he
  rw [lexNext_lit G.dec hlt hq, hs1] at hle
  obtain ⟨q, rfl, hpq, hbq, hnd⟩ := LE_shape G.dec hd.smallDec hcq.2.2 hle
  have hql : q < E.len := (LE_bounds G.dec hle).2
  have hr0 : (⟨.lit, p, q + 1⟩ : Region) ∈ regions := (G.mem _).mpr ⟨hc, hlt, he, Or.inl ⟨rfl, hq⟩⟩
  have hin : ∀ i, p ≤ i → i ≤ q → (opqInside E.inp regions i ↔ p + 1 ≤ i ∧ i < q) :=
    fun i hi hie => by
      rw [G.inside_iff hr0 hi (Nat.lt_succ_of_le hie), opq_interior_lit _ rfl]; exact Iff.rfl
  -- on the blanked input: the closing quote is kept, and is still not doubled
  have hrn := opq_bl_rn hd G hc
  have hlen : (opqBl E regions).len = E.len := opq_bl_len
  have hql' : q < (opqBl E regions).len := hlen.symm ▸ hql
  have hbyte : bAt (opqBl E regions).inp q = rn E p :=
    (opq_bAt_out E.inp regions q
      (fun h => Nat.lt_irrefl q ((hin q (Nat.le_of_succ_le hpq) (Nat.le_refl q)).mp h).2)).trans hbq
  obtain ⟨hr1, hs1'⟩ := hd'.ascii_at hql' (hbyte ▸ hcq.2.2)
  have hcl : ¬ (q + sz (opqBl E regions) q < (opqBl E regions).len ∧
      rn (opqBl E regions) (q + sz (opqBl E regions) q) = rn E p) := by
    rw [hs1', hlen, opq_bl_rn hd G (hc.next hlt he)]; exact hnd
  rw [he, lexNext_lit hd'.decOK (hlen.symm ▸ hlt) (hrn.symm ▸ hq), hrn, opq_bl_sz hd G hc, hs1,
    opq_LE_blank hd' hcq.1 hcq.2.1 hpq (Nat.le_of_lt hql')
      (fun i hi hiq => opq_bAt_in E.inp regions i (Nat.lt_trans hiq hql)
        ((hin i (Nat.le_of_succ_le hi) (Nat.le_of_lt hiq)).mpr ⟨hi, hiq⟩)),
    LE_close hql' (hr1.trans hbyte) hcl, hs1']

theorem opq_bl_next_line {p : Nat} (hc : LexCode E p)
    (hl : LineOpen E p) : lexNext (opqBl E regions) p = lexNext E p := by
  have hd' : OpqDec (opqBl E regions) := hd.env _
  have hl' := (opq_bl_open hd G hc).mpr hl
  obtain ⟨hs1, _, hp1, hs2, _⟩ := hd.smallDec.open_bytes hl
  obtain ⟨hs1', _, hp1', hs2', _⟩ := hd'.smallDec.open_bytes hl'
  rw [lexNext_line G.dec (by omega) hl,
    lexNext_line hd'.decOK (by omega) hl', hs1, hs2, hs1', hs2',
    LCE_congr G.dec hd'.decOK opq_bl_len (opq_bAt_nl_iff E.inp regions) (by omega)]

theorem opq_bl_next_block {p : Nat} (hc : LexCode E p)
    (hb : BlockOpen E p) : lexNext (opqBl E regions) p = lexNext E p := by
  have hd' : OpqDec (opqBl E regions) := hd.env _
  obtain ⟨e, hi, he, hele, h2hi, hin, hcase⟩ := opq_block_step hd G hc hb
  have hb' := (opq_bl_open hd G hc).mpr hb
  obtain ⟨hs1, _, hp1, hs2, _⟩ := hd'.smallDec.open_bytes hb'
  have hlen : (opqBl E regions).len = E.len := opq_bl_len
  have hie : hi ≤ e := by omega
  have hil : hi ≤ (opqBl E regions).len := hlen.symm ▸ Nat.le_trans hie hele
  -- the interior is blank, the closing `*/` (if any) is kept
  rw [he, lexNext_block hd'.decOK (Nat.lt_of_succ_lt hp1) hb', hs1, hs2,
    opq_BCE_blank hd' h2hi hil (fun i h1 h2 =>
      opq_bAt_in E.inp regions i (Nat.lt_of_lt_of_le h2 (Nat.le_trans hie hele))
        ((hin i (Nat.le_trans (Nat.le_add_right p 2) h1) (Nat.lt_of_lt_of_le h2 hie)).mpr ⟨h1, h2⟩))]
  rcases hcase with ⟨h1, h2⟩ | ⟨rfl, h2, h3⟩
  · rw [BCE_eof (hlen ▸ h2 ▸ h1 ▸ Nat.le_refl hi), hlen, h2]
  · have hout : ∀ i, hi ≤ i → i < hi + 2 → bAt (opqBl E regions).inp i = bAt E.inp i := fun i h1 h2 =>
      opq_bAt_out E.inp regions i
        (fun h => Nat.not_lt.mpr h1 ((hin i (Nat.le_trans (Nat.le_trans (Nat.le_add_right p 2) h2hi) h1) h2).mp h).2)
    have hb1 := (hout hi (Nat.le_refl _) (Nat.lt_add_of_pos_right (by decide))).trans h2
    have hb2 := (hout (hi + 1) (Nat.le_succ _) (Nat.lt_succ_self _)).trans h3
    have hl1 : hi + 1 < (opqBl E regions).len := hlen.symm ▸ hele
    obtain ⟨hr1, hs1'⟩ := hd'.ascii_at (Nat.lt_of_succ_lt hl1) (hb1 ▸ (by decide : 42 < 128))
    obtain ⟨hr2, hs2'⟩ := hd'.ascii_at hl1 (hb2 ▸ (by decide : 47 < 128))
    rw [BCE_close (Nat.lt_of_succ_lt hl1) (hr1.trans hb1) (hs1'.symm ▸ hl1)
      (hs1'.symm ▸ hr2.trans hb2), hs1', hs2']

theorem opq_bl_next {p : Nat} (hc : LexCode E p)
    (hlt : p < E.len) : lexNext (opqBl E regions) p = lexNext E p := by
  have hd' : OpqDec (opqBl E regions) := hd.env (blankRegions E.inp regions)
  by_cases hq : rn E p = 34 ∨ rn E p = 39
  · exact opq_bl_next_lit hd G hc hlt hq
  by_cases hl : LineOpen E p
  · exact opq_bl_next_line hd G hc hl
  by_cases hb : BlockOpen E p
  · exact opq_bl_next_block hd G hc hb
  · have hl' : ¬ LineOpen (opqBl E regions) p := fun h => hl ((opq_bl_open hd G hc).mp h)
    have hb' : ¬ BlockOpen (opqBl E regions) p := fun h => hb ((opq_bl_open hd G hc).mp h)
    have hr := opq_bl_rn hd G hc
    rw [lexNext_plain G.dec hlt ⟨by omega, by omega, hl, hb⟩,
      lexNext_plain hd'.decOK (by rw [opq_bl_len]; exact hlt) ⟨by omega, by omega, hl', hb'⟩,
      opq_bl_sz hd G hc]

end

theorem opq_blank_env (E : Env) (hd : OpqDec E) (hc : ClassAscii E) (regions : List Region)
    (hr : lexRegions E = .ok regions) : OpqEnv E (blankRegions E.inp regions) := by
  have G := opq_regs hd.decOK hr
  have hnl := opq_bAt_nl_iff E.inp regions
  have hsize := opq_blank_size E.inp regions
  exact {
    decE := hd.decOK
    asciiE := hd.asciiDec
    cls := hc
    size := hsize
    decOK := hd.ok _
    lineCol := lineColOf_congr hsize hnl
    hasNl := hasNewline_congr hsize hnl
    byte := fun p hp => bAt_eq_toNat_iff.mp (opq_bAt_out E.inp regions p (G.code_outside hp))
    dec := fun p hp _ => opq_dec_eq hd G hp
    lineOpen := fun p hp _ => opq_bl_open hd G hp
    blockOpen := fun p hp _ => opq_bl_open hd G hp
    next := fun p hp hlt => opq_bl_next hd G hp hlt }

end Sqlair
