/-
  Property C02, metamorphic form ("what a literal or comment contains does not matter"):
  definitions.

  Two runs of the parser are compared: one on `E`, one on `opqEnv E inp'` (the same decoder
  and classifier, another input of the same length).  At every code offset of the reference
  lexer (`LexCode`, `LC`, as in the proof of C02 itself) the two runs are in the same scanner
  state; they differ only while a skipper is inside a literal or a comment, and in the byte
  strings carried by the results (related by `OpqStar`).

  `OpqEnv E inp'` (same length and newlines, agreement with `E.inp` at every code offset in what
  the scanner and the lexer see there) is the interface between the two halves of the proof.  The
  byte-level half (`Opaque/Regions.lean`, `Opaque/Blank.lean`) shows that the input with blanked
  literal and comment interiors satisfies it, under the assumptions `OpqDec` about the decoder.
  The relational half (`opq_sim`, then the walk of `Sim/*.lean`) uses nothing else about the second
  input.
-/
import SqlairProofs.Parser.LexScan
import SqlairProofs.Sim.Defs

namespace Sqlair

@[reducible] def opqEnv (E : Env) (inp' : Bytes) : Env := { E with inp := inp' }

/-- The abstract decoder `E.dec` is applied to two different inputs, so the assumptions are about
    the decoder on every input: a UTF-8 style decoder, for which a rune below 128 is always one
    ASCII byte (`small`: no over-long encodings) and which never looks past the first ASCII byte
    or the end of the input (`window`). -/
structure OpqDec (E : Env) : Prop where
  ok : ∀ inp, DecOK (opqEnv E inp)
  ascii : ∀ inp, AsciiDec (opqEnv E inp)
  small : ∀ (inp : Bytes) (p : Nat), p < inp.size → (E.dec inp p).1 < 128 →
    E.dec inp p = (bAt inp p, 1)
  window : ∀ (inp inp' : Bytes) (p q : Nat), inp.size = inp'.size → p ≤ q →
    (∀ i, p ≤ i → i ≤ q → bAt inp i = bAt inp' i) → (inp.size ≤ q ∨ bAt inp q < 128) →
    E.dec inp p = E.dec inp' p

/-- C02: the Go-faithful UTF-8 decoder `decodeRune` satisfies `OpqDec`, the decoder assumptions of the
    metamorphic form of C02, with any classifier -/
theorem decodeRune_OpqDec (inp : Bytes) (letter digit : Nat → Bool) :
    OpqDec { inp := inp, dec := decodeRune, letter := letter, digit := digit } where
  ok := fun inp' => decodeRune_DecOK inp' letter digit
  ascii := fun inp' => decodeRune_AsciiDec inp' letter digit
  small := decodeRune_small
  window := decodeRune_window

section
variable {E : Env}

theorem OpqDec.decOK (hd : OpqDec E) : DecOK E := hd.ok E.inp

theorem OpqDec.asciiDec (hd : OpqDec E) : AsciiDec E := hd.ascii E.inp

theorem OpqDec.env (hd : OpqDec E) (inp' : Bytes) : OpqDec (opqEnv E inp') :=
  ⟨hd.ok, hd.ascii, hd.small, hd.window⟩

theorem OpqDec.smallDec (hd : OpqDec E) : SmallDec E := fun p hp hr => by
  have h := hd.small E.inp p hp hr
  have h1 : rn E p = bAt E.inp p := congrArg Prod.fst h
  have h2 : sz E p = 1 := congrArg Prod.snd h
  exact ⟨h2, h1.symm⟩

theorem OpqDec.ascii_at (hd : OpqDec E) {p : Nat} (hp : p < E.len) (hb : bAt E.inp p < 128) :
    rn E p = bAt E.inp p ∧ sz E p = 1 := by
  have h := hd.asciiDec.ascii p hp hb
  exact ⟨congrArg Prod.fst h, congrArg Prod.snd h⟩

end

structure OpqEnv (E : Env) (inp' : Bytes) : Prop where
  decE : DecOK E
  asciiE : AsciiDec E
  cls : ClassAscii E
  size : inp'.size = E.inp.size
  decOK : DecOK (opqEnv E inp')
  lineCol : ∀ off, lineColOf inp' off = lineColOf E.inp off
  hasNl : hasNewline inp' = hasNewline E.inp
  byte : ∀ p, LexCode E p → inp'.getD p 0 = E.inp.getD p 0
  dec : ∀ p, LexCode E p → p < E.len → E.dec inp' p = E.dec E.inp p
  lineOpen : ∀ p, LexCode E p → p < E.len → (LineOpen (opqEnv E inp') p ↔ LineOpen E p)
  blockOpen : ∀ p, LexCode E p → p < E.len → (BlockOpen (opqEnv E inp') p ↔ BlockOpen E p)
  next : ∀ p, LexCode E p → p < E.len → lexNext (opqEnv E inp') p = lexNext E p

section
variable {E : Env} {inp' : Bytes}

theorem opq_len (R : OpqEnv E inp') : (opqEnv E inp').len = E.len := R.size

@[simp] theorem opq_isInitialNameChar (c : Nat) :
    isInitialNameChar (opqEnv E inp') c = isInitialNameChar E c := rfl
theorem opq_inp : (opqEnv E inp').inp = inp' := rfl
theorem opq_dec : (opqEnv E inp').dec = E.dec := rfl

end

/-! What the two runs' answers share, in the terms of the property: positions and kinds, not texts.
    `OpqRes`, `OpqR` say it of the answer of a single parse function; the walk itself is stated with
    `SimR` (`Sim/Defs.lean`), which at `d = 0` says the same and relates the texts. -/

def OpqErr (e e' : PErr) : Prop := e.line = e'.line ∧ e.col = e'.col

inductive OpqRes {α : Type} (Rα : α → α → Prop) : Res α → Res α → Prop where
  | ok {a b : α} : Rα a b → OpqRes Rα (.ok a) (.ok b)
  | no : OpqRes Rα .no .no
  | err {e e' : PErr} : OpqErr e e' → OpqRes Rα (.err e) (.err e')

def OpqR {α : Type} (Rα : α → α → Prop) (x y : Sc × Res α) : Prop := y.1 = x.1 ∧ OpqRes Rα x.2 y.2

/-- Of an extracted text the parser only asks whether it is the asterisk. -/
def OpqStar (a b : Bytes) : Prop := a = star ↔ b = star

def OpqSeg (a b : Seg) : Prop := a.kind = b.kind ∧ a.a = b.a ∧ a.b = b.b

section
variable {α : Type} {Rα : α → α → Prop}

theorem OpqR.of_eq {x y : Sc × Res α} (hr : ∀ a, Rα a a) (h : y = x) : OpqR Rα x y := by
  subst h
  refine ⟨rfl, ?_⟩
  cases y.2 with
  | ok a => exact .ok (hr a)
  | no => exact .no
  | err e => exact .err ⟨rfl, rfl⟩

theorem OpqR.mono {Rβ : α → α → Prop} {x y : Sc × Res α} (h : OpqR Rα x y)
    (hm : ∀ a b, Rα a b → Rβ a b) : OpqR Rβ x y := by
  obtain ⟨s1, r⟩ := x
  obtain ⟨s1', r'⟩ := y
  refine ⟨h.1, ?_⟩
  cases h.2 with
  | ok hab => exact .ok (hm _ _ hab)
  | no => exact .no
  | err he => exact .err he

end

end Sqlair
