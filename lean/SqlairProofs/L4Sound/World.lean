/-
  L4Sound, the model's prediction of a single-operation case: `predict` of Spec/L4 cut into its phases (transaction
  start and early finishers `l4s_pre`, the operation proper `l4s_mid`, late finishers `l4s_post`).  What the operation
  does to the world is an `l4s_Effect`: nothing, or the world `Script.worldAt` of Runtime/Reach, with the result set
  closed when the operation is complete; from that follow the events, connections in use and finisher results of the
  predicted observation without a transaction, with one ended before the operation, and with one ended after it.
  `runCalls` is a `run` (`runCalls_eq_run`) and each of its results an answer of that `run` (`runCalls_zip_mem`), so
  what SqlairProofs/Runtime proves of every `run` holds of the predicted results.
-/
import SqlairProofs.L4Sound.Defs
import SqlairProofs.Runtime.L4Link
import SqlairProofs.Runtime.GetAllArgs

namespace Sqlair.Rt

/-- the world in which a case starts: on a transaction `DB.Begin` has taken a connection -/
def l4s_w0 (c : Case) : World := if c.onTx then { log := [.begin], inUse := 1 } else {}

def Case.l4s_isEarly (c : Case) : Bool := c.onTx && (c.txEnd == "before-query" || c.txEnd == "between")

def Case.l4s_isLate (c : Case) : Bool := c.onTx && c.txEnd == "after"

/-- transaction start and the finishers of an early end.  The conditions are `c.l4s_isEarly` written out as in `predict`
    (Spec/L4), with which `l4s_predict_eq` compares by `rfl`. -/
def l4s_pre (c : Case) : TX × World × List String :=
  let r : TX × World × List String :=
    if c.onTx && (c.txEnd == "before-query" || c.txEnd == "between") && c.concurrent == 0
    then runFinishers c.finishers {} (l4s_w0 c) else ({}, l4s_w0 c, [])
  let q : TX × World :=
    if c.onTx && (c.txEnd == "before-query" || c.txEnd == "between") && decide (c.concurrent > 0)
    then ({ done := true }, { r.2.1 with inUse := r.2.1.inUse - 1 }) else (r.1, r.2.1)
  (q.1, q.2, r.2.2)

/-- `TX.Query` on a finished transaction returns a Query that carries `ErrTXDone` (sqlair.go); a Query made before
    the end (`txEnd = "between"`) carries no error -/
def l4s_queryErr (c : Case) : Option Err := if c.onTx && c.txEnd == "before-query" then some .txDone else none

theorem l4s_queryErr_cases (c : Case) : l4s_queryErr c = none ∨ l4s_queryErr c = some .txDone := by
  unfold l4s_queryErr; split <;> simp

/-- with fewer columns in the result set than the statement has outputs (`FewCols` of the harness) `ScanArgs`
    refuses every `get`: the model's iterator receives "getinvalid" in its place -/
def l4s_callMap (fewCols : Bool) (x : String) : String :=
  if fewCols then (if x == "get" then "getinvalid" else x) else x

theorem l4s_callMap_false : l4s_callMap false = id := by
  funext x; simp [l4s_callMap]

theorem l4s_callMap_next (b : Bool) (x : String) : l4s_callMap b x = "next" ↔ x = "next" := by
  unfold l4s_callMap
  cases b
  · simp
  · by_cases h : x = "get"
    · subst h; simp
    · simp [h]

theorem l4s_callMap_close (b : Bool) (x : String) : l4s_callMap b x = "close" ↔ x = "close" := by
  unfold l4s_callMap
  cases b
  · simp
  · by_cases h : x = "get"
    · subst h; simp
    · simp [h]

theorem l4s_argsOf_callMap (b : Bool) (x : String) :
    argsOf (l4s_callMap b x) = if b && x == "get" then .invalid else argsOf x := by
  unfold l4s_callMap
  cases b
  · simp
  · by_cases h : x = "get"
    · subst h; simp [argsOf]
    · simp [h]

/-- `c.calls.map (l4s_callMap c.fewCols)` (`l4s_calls_eq`), written as in `predict` (Spec/L4) so that `l4s_predict_eq`
    holds by `rfl` -/
def l4s_calls (c : Case) : List String :=
  if c.fewCols then c.calls.map (fun x => if x == "get" then "getinvalid" else x) else c.calls

theorem l4s_calls_eq (c : Case) : l4s_calls c = c.calls.map (l4s_callMap c.fewCols) := by
  unfold l4s_calls l4s_callMap
  cases c.fewCols <;> simp

/-- the `Get` call of a `get` case: `dests` names the destinations the harness passes (an `Outcome`, a typed-nil
    `Outcome`, none, a struct or map that fits, or something `ScanArgs` rejects) -/
def l4s_getCall (c : Case) : GetCall :=
  { outcome := c.dests.startsWith "outcome", nilOutcome := c.dests.startsWith "niloutcome",
    dests := if c.dests == "none" || c.dests == "outcome" then 0 else 1,
    destsValid := !(c.dests.endsWith "invalid") && !c.fewCols }

/-- the arguments of the `GetAll` call of a `getall` case, by the `dests` string of the harness (l4.go, `switch c.Dests`
    before `qr.GetAll`): "none" no argument, "nonptr" the slice by value, "nilptr" `(*[]Row)(nil)`, "ptrnonslice"
    `&rows, &Row{}`, "sliceint" `&[]int{}`, "sliceptrint" `&rows, &[]*int{}`; every other string ("valid…", "invalid") one
    pointer to a slice of structs, struct pointers or maps -/
def l4s_getAllArgs (c : Case) : List SliceArg :=
  if c.dests == "none" then [] else
  if c.dests == "nonptr" then [.notPointer] else
  if c.dests == "nilptr" then [.nilPointer] else
  if c.dests == "ptrnonslice" then [.ok, .notSlice] else
  if c.dests == "sliceint" then [.badElem] else
  if c.dests == "sliceptrint" then [.ok, .badElem] else [.ok]

theorem l4s_getAllArgs_valid {c : Case} (h : c.dests.startsWith "valid" = true) : l4s_getAllArgs c = [.ok] := by
  have hne : ∀ lit : String, lit.startsWith "valid" = false → c.dests ≠ lit := by
    intro lit hl heq; rw [heq, hl] at h; cases h
  unfold l4s_getAllArgs
  simp [hne "none" (by decide +kernel), hne "nonptr" (by decide +kernel), hne "nilptr" (by decide +kernel),
    hne "ptrnonslice" (by decide +kernel), hne "sliceint" (by decide +kernel), hne "sliceptrint" (by decide +kernel)]

theorem l4s_getAllArgs_accepted {c : Case}
    (h : c.dests.startsWith "valid" = true ∨ c.dests = "invalid" ∨ c.dests = "none" ∨ c.dests = "sliceint" ∨
      c.dests = "sliceptrint") :
    (l4s_getAllArgs c).any SliceArg.rejectedUpFront = false := by
  rcases h with h | h | h | h | h
  · rw [l4s_getAllArgs_valid h]; rfl
  all_goals (unfold l4s_getAllArgs; simp [h, SliceArg.rejectedUpFront])

/-- the operation on a Query that carries error `e`: the error is returned and nothing runs -/
def l4s_midErr (c : Case) (e : Err) (w1 : World) : Pred × World :=
  match c.op with
  | "iter" =>
    let it : Iter := { hasOutputs := c.hasOutputs, err := some e }
    let r := runCalls c.calls c.cancelAt 0 it w1 c.calls
    ({ returns := r.2.2 }, r.2.1)
  | _ => ({ returns := [e.render], outcome := if c.dests.startsWith "outcome" then "nil" else "" }, w1)

/-- `Run` is `Get` without destinations -/
def l4s_midRun (s : Script) (w1 : World) : Pred × World :=
  let r := queryGet s {} w1
  ({ returns := [renderOpt r.1.err] }, r.2)

/-- `outcome` as the harness records it (l4.go, `Obs.Outcome`): "" without an `Outcome` argument, "nil" when
    `Outcome.Result()` is nil, "r:n" for `n` rows affected -/
def l4s_midGet (c : Case) (s : Script) (w1 : World) : Pred × World :=
  let r := queryGet s (l4s_getCall c) w1
  ({ returns := [renderOpt r.1.err], stored := r.1.stored.getD 0,
     outcome := if (l4s_getCall c).outcome then (match r.1.outcome with | some (some n) => s!"r:{n}" | _ => "nil") else "" }, r.2)

def l4s_midGetAll (c : Case) (s : Script) (w1 : World) : Pred × World :=
  let r := queryGetAllArgs s (l4s_getAllArgs c) (c.dests.startsWith "valid" && !c.fewCols) w1
  ({ returns := [renderOpt r.1.err], appended := r.1.appended }, r.2)

/-- the calls of an `iter` case, made on the iterator `Query.Iter` returns -/
def l4s_iterRun (c : Case) (s : Script) (w1 : World) : Iter × World × List String :=
  runCalls (l4s_calls c) c.cancelAt 0 (iterOpen s w1).1 (iterOpen s w1).2 (l4s_calls c)

/-- ending the transaction closes a result set the caller left open (database/sql) -/
def l4s_midIter (c : Case) (s : Script) (w1 : World) : Pred × World :=
  let r := l4s_iterRun c s w1
  ({ returns := r.2.2 },
   match r.1.rows with
   | some rows => if c.onTx then (rows.close r.2.1).2.1 else r.2.1
   | none => r.2.1)

/-- the operation phase, started in world `w1` on a transaction that has ended or not (`txDone`) -/
def l4s_mid (c : Case) (txDone : Bool) (w1 : World) : Pred × World :=
  match l4s_queryErr c with
  | some e => l4s_midErr c e w1
  | none =>
    match c.op with
    | "run" => l4s_midRun (c.script txDone) w1
    | "get" => l4s_midGet c (c.script txDone) w1
    | "getall" => l4s_midGetAll c (c.script txDone) w1
    | _ => l4s_midIter c (c.script txDone) w1

/-- the finishers of a late end; `late` is `c.l4s_isLate` written out as in `predict`.  With `beginCancel` the
    cancelled context of `DB.Begin` has rolled the transaction back before the first finisher is called. -/
def l4s_post (c : Case) (tx1 : TX) (w2 : World) : TX × World × List String :=
  let late := c.onTx && c.txEnd == "after" && c.concurrent == 0
  if late && c.beginCancel then
    (tx1, { (w2.emit .rollback) with inUse := w2.inUse - 1 }, c.finishers.map fun _ => "txDone")
  else if late then runFinishers c.finishers tx1 w2 else (tx1, w2, [])

/-- `predict` (Spec/L4) on a case that is not a pair (`l4s_predict_single`), cut into the three phases -/
def l4s_predictSingle (c : Case) : Pred :=
  let pre := l4s_pre c
  let m := l4s_mid c pre.1.done pre.2.1
  let post := l4s_post c pre.1 m.2
  { m.1 with log := post.2.1.log, inUse := post.2.1.inUse, finish := pre.2.2 ++ post.2.2 }

/-- the transaction has ended when the operation starts -/
def Case.l4s_td (c : Case) : Bool := (l4s_pre c).1.done
/-- the world in which the operation starts -/
def l4s_w1 (c : Case) : World := (l4s_pre c).2.1
/-- prediction and world after the operation phase -/
def l4s_m (c : Case) : Pred × World := l4s_mid c c.l4s_td (l4s_w1 c)

theorem l4s_predict_eq (c : Case) :
    predict c = if c.op == "pair" then predictPair c else l4s_predictSingle c := by
  unfold predict l4s_predictSingle l4s_pre l4s_mid
  dsimp only
  rfl

theorem l4s_predict_pair {c : Case} (h : c.op = "pair") : predict c = predictPair c := by
  rw [l4s_predict_eq]; simp [h]

theorem l4s_predict_single {c : Case} (h : c.op ≠ "pair") : predict c = l4s_predictSingle c := by
  rw [l4s_predict_eq]; simp [h]

theorem l4s_predict_cases (c : Case) {motive : Pred → Prop} (hp : c.op = "pair" → motive (predictPair c))
    (hs : c.op ≠ "pair" → motive (l4s_predictSingle c)) : motive (predict c) := by
  by_cases h : c.op = "pair"
  · rw [l4s_predict_pair h]; exact hp h
  · rw [l4s_predict_single h]; exact hs h

/-- What an operation running script `s` can make of world `w1`.  `closed`: the operation ends with the result set
    closed.  Last conjunct: without a result set nothing follows the events of `Query.Iter`. -/
def l4s_Effect (s : Script) (closed : Prop) (w1 w2 : World) : Prop :=
  w2 = w1 ∨ ∃ n op, w2 = s.worldAt w1 n op ∧ (closed → op = false) ∧ (s.opensRows = false → n = 0 ∧ op = false)

theorem l4s_Effect.mono {s : Script} {closed closed' : Prop} {w1 w2 : World} (hi : closed' → closed)
    (h : l4s_Effect s closed w1 w2) : l4s_Effect s closed' w1 w2 :=
  h.imp id fun ⟨n, op, h1, h2, h3⟩ => ⟨n, op, h1, fun hc => h2 (hi hc), h3⟩

theorem l4s_isFin_of_isRow {e : Ev} (h : e.isRow = true) : e.isFin = false := by
  cases e <;> simp_all [Ev.isRow, Ev.isFin]

theorem l4s_isFin_of_isOpen {e : Ev} (h : e.isOpen = true) : e.isFin = false := by
  cases e <;> simp_all [Ev.isOpen, Ev.isFin]

theorem l4s_effect_noFin {s : Script} {closed : Prop} {w1 w2 : World} (h : l4s_Effect s closed w1 w2) :
    ∃ evsOp, w2.log = w1.log ++ evsOp ∧ ∀ e ∈ evsOp, e.isFin = false := by
  rcases h with rfl | ⟨n, op, rfl, _, _⟩
  · exact ⟨[], by simp, nofun⟩
  · refine ⟨_, Script.worldAt_log _ _ _ _, fun e he => ?_⟩
    rcases List.mem_append.1 he with he | he
    · exact l4s_isFin_of_isOpen (List.all_eq_true.1 (Script.openEvents_isOpen s) e he)
    · exact l4s_isFin_of_isRow (List.all_eq_true.1 (s.rowEvents_isRow n op) e he)

theorem l4s_effect_inUse {s : Script} {closed : Prop} {w1 w2 : World} (h : l4s_Effect s closed w1 w2) (hc : closed) :
    w2.inUse = w1.inUse := by
  rcases h with rfl | ⟨n, op, rfl, hcl, _⟩
  · rfl
  · rw [hcl hc]; exact (s.worldAt_released w1 n).1

theorem Reach.effect {s : Script} {closed : Prop} {w1 w : World} {it : Iter} (h : Reach s w1 it w)
    (hcl : closed → it.ended = true) : l4s_Effect s closed w1 w := by
  obtain ⟨n, rfl, h0⟩ := h.world
  exact .inr ⟨n, _, rfl, fun hc => by simp [hcl hc], fun hs => ⟨(h0 hs).1, by simp [(h0 hs).2]⟩⟩

theorem l4s_queryGet_effect (s : Script) (c : GetCall) (closed : Prop) (w : World) :
    l4s_Effect s closed w (queryGet s c w).2 := by
  rcases queryGet_world s c w with ⟨h, _⟩ | ⟨n, h, h0⟩
  · exact .inl h
  · exact .inr ⟨n, false, h, fun _ => rfl, fun hs => ⟨h0 hs, rfl⟩⟩

theorem l4s_queryGetAll_effect (s : Script) (n : Nat) (dv : Bool) (closed : Prop) (w : World) :
    l4s_Effect s closed w (queryGetAll s n dv w).2 := by
  rcases queryGetAll_world s n dv w with ⟨h, _⟩ | ⟨k, h, h0⟩
  · exact .inl h
  · exact .inr ⟨k, false, h, fun _ => rfl, fun hs => ⟨h0 hs, rfl⟩⟩

theorem l4s_queryGetAllArgs_effect (s : Script) (args : List SliceArg) (dv : Bool) (closed : Prop) (w : World) :
    l4s_Effect s closed w (queryGetAllArgs s args dv w).2 := by
  rcases queryGetAllArgs_cases s args dv w with ⟨x, h, _⟩ | ⟨_, h, _⟩ | ⟨h, _⟩ <;> rw [h]
  · exact .inl rfl
  · exact l4s_queryGet_effect s _ closed w
  · exact l4s_queryGetAll_effect s _ dv closed w

theorem l4s_iterRun_eq (c : Case) (s : Script) (w1 : World) :
    l4s_iterRun c s w1 =
      runCalls (l4s_calls c) c.cancelAt 0 (iterOpen s w1).1 (iterOpen s w1).2 (c.calls.map (l4s_callMap c.fewCols)) := by
  unfold l4s_iterRun; rw [← l4s_calls_eq]

/-- the typed call sequence of an `iter` case, cancellation included -/
def l4s_iterCalls (c : Case) : List Call := expandCalls c.cancelAt 0 (c.calls.map (l4s_callMap c.fewCols))

/-- For the world, the closing of the result set at the end of the transaction is one more `Close` call, so the world
    an `iter` case leaves is again that of a `run`. -/
theorem l4s_midIter_world (c : Case) (s : Script) (w1 : World) :
    ∃ ds, (l4s_midIter c s w1).2 = (run (iterOpen s w1).1 (iterOpen s w1).2 (l4s_iterCalls c ++ ds)).2.1 := by
  unfold l4s_midIter l4s_iterCalls
  rw [l4s_iterRun_eq, runCalls_eq_run]
  dsimp only
  cases hrows : (run (iterOpen s w1).1 (iterOpen s w1).2
      (expandCalls c.cancelAt 0 (c.calls.map (l4s_callMap c.fewCols)))).1.rows with
  | none => exact ⟨[], by rw [List.append_nil]⟩
  | some rows =>
    cases c.onTx
    · exact ⟨[], by rw [List.append_nil]; rfl⟩
    · exact ⟨[.close], by rw [run_append, run_cons, step_close, Iter.close_of_rows hrows]; rfl⟩

theorem l4s_midIter_effect (c : Case) (s : Script) (w1 : World) :
    l4s_Effect s ("close" ∈ c.calls) w1 (l4s_midIter c s w1).2 := by
  obtain ⟨ds, hw⟩ := l4s_midIter_world c s w1
  rw [hw]
  exact (reach_run (iterOpen_reach s w1) _).effect fun hc => run_ended_of_close _ _ _
    (List.mem_append_left _ (callOf_mem_expandCalls _ _ (List.mem_map.2 ⟨_, hc, (l4s_callMap_close _ _).2 rfl⟩)))

theorem l4s_mid_of_err {c : Case} {e : Err} (hq : l4s_queryErr c = some e) (td : Bool) (w1 : World) :
    l4s_mid c td w1 = l4s_midErr c e w1 := by
  unfold l4s_mid; rw [hq]

theorem l4s_mid_run {c : Case} (hq : l4s_queryErr c = none) (h : c.op = "run") (td : Bool) (w1 : World) :
    l4s_mid c td w1 = l4s_midRun (c.script td) w1 := by
  unfold l4s_mid; rw [hq]; simp only [h]

theorem l4s_mid_get {c : Case} (hq : l4s_queryErr c = none) (h : c.op = "get") (td : Bool) (w1 : World) :
    l4s_mid c td w1 = l4s_midGet c (c.script td) w1 := by
  unfold l4s_mid; rw [hq]; simp only [h]

theorem l4s_mid_getall {c : Case} (hq : l4s_queryErr c = none) (h : c.op = "getall") (td : Bool) (w1 : World) :
    l4s_mid c td w1 = l4s_midGetAll c (c.script td) w1 := by
  unfold l4s_mid; rw [hq]; simp only [h]

theorem l4s_mid_iter {c : Case} (hq : l4s_queryErr c = none) (h1 : c.op ≠ "run") (h2 : c.op ≠ "get")
    (h3 : c.op ≠ "getall") (td : Bool) (w1 : World) :
    l4s_mid c td w1 = l4s_midIter c (c.script td) w1 := by
  unfold l4s_mid; rw [hq]
  dsimp only
  split
  · exact absurd ‹_› h1
  · exact absurd ‹_› h2
  · exact absurd ‹_› h3
  · rfl

theorem l4s_midErr_iter {c : Case} (h : c.op = "iter") (e : Err) (w1 : World) :
    l4s_midErr c e w1 =
      ({ returns := (runCalls c.calls c.cancelAt 0 { hasOutputs := c.hasOutputs, err := some e } w1 c.calls).2.2 },
       (runCalls c.calls c.cancelAt 0 { hasOutputs := c.hasOutputs, err := some e } w1 c.calls).2.1) := by
  unfold l4s_midErr; simp only [h]

theorem l4s_midErr_other {c : Case} (h : c.op ≠ "iter") (e : Err) (w1 : World) :
    l4s_midErr c e w1 =
      ({ returns := [e.render], outcome := if c.dests.startsWith "outcome" then "nil" else "" }, w1) := by
  unfold l4s_midErr
  split
  · exact absurd ‹_› h
  · rfl

theorem l4s_midErr_world (c : Case) (e : Err) (w1 : World) : (l4s_midErr c e w1).2 = w1 := by
  by_cases h : c.op = "iter"
  · rw [l4s_midErr_iter h, runCalls_eq_run]
    exact (run_of_rows_none rfl _ _).2.2
  · rw [l4s_midErr_other h]

/-- the result set, if any, has been closed: `Run`, `Get` and `GetAll` close their iterator before they return
    (sqlair.go), an `iter` case does if `Close` is among its calls -/
def Case.l4s_complete (c : Case) : Prop :=
  c.op = "run" ∨ c.op = "get" ∨ c.op = "getall" ∨ "close" ∈ c.calls

theorem l4s_mid_effect (c : Case) (td : Bool) (w1 : World) :
    l4s_Effect (c.script td) c.l4s_complete w1 (l4s_mid c td w1).2 := by
  cases hq : l4s_queryErr c with
  | some e => rw [l4s_mid_of_err hq, l4s_midErr_world]; exact .inl rfl
  | none =>
    by_cases h1 : c.op = "run"
    · rw [l4s_mid_run hq h1]; exact l4s_queryGet_effect _ _ _ _
    · by_cases h2 : c.op = "get"
      · rw [l4s_mid_get hq h2]; exact l4s_queryGet_effect _ _ _ _
      · by_cases h3 : c.op = "getall"
        · rw [l4s_mid_getall hq h3]; exact l4s_queryGetAllArgs_effect _ _ _ _ _
        · rw [l4s_mid_iter hq h1 h2 h3]
          exact (l4s_midIter_effect c (c.script td) w1).mono fun hc =>
            ((hc.resolve_left h1).resolve_left h2).resolve_left h3

theorem l4s_runFinishers_nil (tx : TX) (w : World) : runFinishers [] tx w = (tx, w, []) := rfl

theorem l4s_runFinishers_cons (f : String) (rest : List String) (w : World) :
    runFinishers (f :: rest) {} w =
      ({ done := true }, { log := w.log ++ [finEv (f == "commit")], inUse := w.inUse - 1 },
       "" :: rest.map fun _ => "txDone") := by
  rw [runFinishers_eq_runFinish, List.map_cons, runFinish_fresh rfl]
  simp [renderOpt, Err.render]

theorem l4s_early_not_late {c : Case} (h : c.l4s_isEarly = true) : c.l4s_isLate = false := by
  unfold Case.l4s_isEarly at h
  unfold Case.l4s_isLate
  simp only [Bool.and_eq_true, Bool.or_eq_true, beq_iff_eq] at h
  rcases h.2 with h2 | h2 <;> simp [h2]

theorem l4s_predictSingle_eq (c : Case) :
    l4s_predictSingle c =
      { (l4s_m c).1 with
        log := (l4s_post c (l4s_pre c).1 (l4s_m c).2).2.1.log,
        inUse := (l4s_post c (l4s_pre c).1 (l4s_m c).2).2.1.inUse,
        finish := (l4s_pre c).2.2 ++ (l4s_post c (l4s_pre c).1 (l4s_m c).2).2.2 } := by
  simp only [l4s_predictSingle, l4s_m, Case.l4s_td, l4s_w1]

theorem l4s_single_log (c : Case) :
    (l4s_predictSingle c).log = (l4s_post c (l4s_pre c).1 (l4s_m c).2).2.1.log := by
  rw [l4s_predictSingle_eq]

theorem l4s_single_inUse (c : Case) :
    (l4s_predictSingle c).inUse = (l4s_post c (l4s_pre c).1 (l4s_m c).2).2.1.inUse := by
  rw [l4s_predictSingle_eq]

theorem l4s_single_finish (c : Case) :
    (l4s_predictSingle c).finish = (l4s_pre c).2.2 ++ (l4s_post c (l4s_pre c).1 (l4s_m c).2).2.2 := by
  rw [l4s_predictSingle_eq]

theorem l4s_conc_pair {c : Case} (h : c.op = "pair") : c.l4s_conc = false := by
  simp [Case.l4s_conc, h]

theorem l4s_conc_of_zero {c : Case} (h : c.concurrent = 0) : c.l4s_conc = false := by
  simp [Case.l4s_conc, h]

theorem l4s_conc_of_notTx {c : Case} (h : c.onTx = false) : c.l4s_conc = false := by
  simp [Case.l4s_conc, h]

theorem l4s_conc_of_ne_pair {c : Case} (hp : c.op ≠ "pair") : c.l4s_conc = (c.onTx && decide (c.concurrent > 0)) := by
  simp [Case.l4s_conc, bne_iff_ne.2 hp]

theorem l4s_conc_of_pos {c : Case} (hp : c.op ≠ "pair") (htx : c.onTx = true) (hc : c.concurrent > 0) :
    c.l4s_conc = true := by
  rw [l4s_conc_of_ne_pair hp, htx, decide_eq_true hc]; rfl

theorem l4s_obs_of_not_conc (win : String) {c : Case} (h : c.l4s_conc = false) (p : Pred) :
    (predObsW win c p).events = p.log.map Ev.render ∧ (predObsW win c p).inUse = p.inUse := by
  simp [predObsW, l4s_events, h]

theorem l4s_obs_returns (win : String) (c : Case) (p : Pred) : (predObsW win c p).returns = p.returns := rfl
theorem l4s_obs_stored (win : String) (c : Case) (p : Pred) : (predObsW win c p).stored = p.stored := rfl
theorem l4s_obs_appended (win : String) (c : Case) (p : Pred) : (predObsW win c p).appended = p.appended := rfl
theorem l4s_single_returns (c : Case) : (l4s_predictSingle c).returns = (l4s_m c).1.returns := by
  rw [l4s_predictSingle_eq]
theorem l4s_single_stored (c : Case) : (l4s_predictSingle c).stored = (l4s_m c).1.stored := by
  rw [l4s_predictSingle_eq]
theorem l4s_single_appended (c : Case) : (l4s_predictSingle c).appended = (l4s_m c).1.appended := by
  rw [l4s_predictSingle_eq]
theorem l4s_single_outcome (c : Case) : (l4s_predictSingle c).outcome = (l4s_m c).1.outcome := by
  rw [l4s_predictSingle_eq]

theorem l4s_onTx_of_early {c : Case} (h : c.l4s_isEarly = true) : c.onTx = true := by
  unfold Case.l4s_isEarly at h; simp only [Bool.and_eq_true] at h; exact h.1

theorem l4s_pre_not_early {c : Case} (h : c.l4s_isEarly = false) : l4s_pre c = ({}, l4s_w0 c, []) := by
  unfold Case.l4s_isEarly at h
  unfold l4s_pre
  simp [h]

theorem l4s_td_of_not_early {c : Case} (h : c.l4s_isEarly = false) : c.l4s_td = false := by
  simp [Case.l4s_td, l4s_pre_not_early h]

theorem l4s_w0_tx {c : Case} (h : c.onTx = true) : l4s_w0 c = { log := [.begin], inUse := 1 } := by
  simp [l4s_w0, h]

theorem l4s_pre_early_seq {c : Case} (h : c.l4s_isEarly = true) (hc : c.concurrent = 0) {f : String}
    {rest : List String} (hf : c.finishers = f :: rest) :
    l4s_pre c = ({ done := true }, { log := [.begin, finEv (f == "commit")], inUse := 0 },
      "" :: rest.map fun _ => "txDone") := by
  have htx := l4s_onTx_of_early h
  unfold Case.l4s_isEarly at h
  unfold l4s_pre
  simp [h, hc, hf, l4s_runFinishers_cons, l4s_w0_tx htx]

theorem l4s_pre_early_conc {c : Case} (h : c.l4s_isEarly = true) (hc : c.concurrent > 0) :
    l4s_pre c = ({ done := true }, { log := [.begin], inUse := 0 }, []) := by
  have htx := l4s_onTx_of_early h
  have hc0 : (c.concurrent == 0) = false := by simp; omega
  unfold Case.l4s_isEarly at h
  unfold l4s_pre
  simp [h, hc, hc0, l4s_w0_tx htx]

theorem l4s_post_not_late {c : Case} (h : c.l4s_isLate = false) (tx1 : TX) (w2 : World) :
    l4s_post c tx1 w2 = (tx1, w2, []) := by
  unfold Case.l4s_isLate at h
  unfold l4s_post
  simp [h]

theorem l4s_post_conc {c : Case} (hc : c.concurrent > 0) (tx1 : TX) (w2 : World) :
    l4s_post c tx1 w2 = (tx1, w2, []) := by
  have hc0 : (c.concurrent == 0) = false := by simp; omega
  unfold l4s_post
  simp [hc0]

theorem l4s_post_beginCancel {c : Case} (h : c.l4s_isLate = true) (hc : c.concurrent = 0)
    (hb : c.beginCancel = true) (tx1 : TX) (w2 : World) :
    l4s_post c tx1 w2 =
      (tx1, { log := w2.log ++ [.rollback], inUse := w2.inUse - 1 }, c.finishers.map fun _ => "txDone") := by
  unfold Case.l4s_isLate at h
  unfold l4s_post
  simp [h, hc, hb, World.emit]

theorem l4s_post_seq {c : Case} (h : c.l4s_isLate = true) (hc : c.concurrent = 0)
    (hb : c.beginCancel = false) {f : String} {rest : List String} (hf : c.finishers = f :: rest) (w2 : World) :
    l4s_post c {} w2 =
      ({ done := true }, { log := w2.log ++ [finEv (f == "commit")], inUse := w2.inUse - 1 },
       "" :: rest.map fun _ => "txDone") := by
  unfold Case.l4s_isLate at h
  unfold l4s_post
  simp [h, hc, hb, hf, l4s_runFinishers_cons]

/-- the clause of `holdsC12` (Spec/L4) on the finisher results `Obs.finish`; with concurrent finishers `holdsC12`
    looks at `Obs.winners` and not at them -/
def l4s_finishOK (c : Case) (fin : List String) : Bool :=
  decide (c.concurrent > 0) ||
  (if c.beginCancel then fin.all (· == "txDone")
   else (fin.filter (· != "txDone")).length == 1 && fin.head? != some "txDone")

theorem l4s_finishOK_seq {c : Case} (hbc : c.beginCancel = false) (rest : List String) :
    l4s_finishOK c ("" :: rest.map fun _ => "txDone") = true := by
  have h1 : (rest.map fun _ => "txDone").filter (· != "txDone") = [] := by
    rw [List.filter_eq_nil_iff]; intro a ha
    obtain ⟨_, _, rfl⟩ := List.mem_map.1 ha
    decide
  have h2 : ("" != "txDone") = true := by decide
  have h3 : (some "" != some "txDone") = true := by decide
  simp only [l4s_finishOK, hbc, Bool.false_eq_true, if_false, List.filter_cons, h2, if_true, h1, List.head?_cons, h3]
  simp

theorem l4s_obs_notTx (win : String) {c : Case} (h : c.onTx = false) :
    l4s_w1 c = {} ∧
    (predObsW win c (l4s_predictSingle c)).events = (l4s_m c).2.log.map Ev.render ∧
    (predObsW win c (l4s_predictSingle c)).inUse = (l4s_m c).2.inUse := by
  have hpre := l4s_pre_not_early (c := c) (by simp [Case.l4s_isEarly, h])
  simp only [l4s_w0, h] at hpre
  have hpost := l4s_post_not_late (c := c) (by simp [Case.l4s_isLate, h]) (l4s_pre c).1 (l4s_m c).2
  obtain ⟨hev, hiu⟩ := l4s_obs_of_not_conc win (l4s_conc_of_notTx h) (l4s_predictSingle c)
  exact ⟨by simp [l4s_w1, hpre], by rw [hev, l4s_single_log, hpost], by rw [hiu, l4s_single_inUse, hpost]⟩

theorem l4s_mid_not_run {c : Case} {td : Bool} {e : Err} (he : (c.script td).openErr = some e)
    (hoe : (c.script td).openEvents = []) (w1 : World) :
    (l4s_mid c td w1).2.log = w1.log ∧ (l4s_mid c td w1).2.inUse = w1.inUse := by
  rcases l4s_mid_effect c td w1 with h' | ⟨n, op, h', _, h0⟩
  · rw [h']; exact ⟨rfl, rfl⟩
  · have hs := Script.not_opensRows_of_openErr he
    obtain ⟨rfl, rfl⟩ := h0 hs
    rw [h', Script.worldAt_unopened hs, hoe]; simp

theorem l4s_mid_txDone {c : Case} (h : c.onTx = true) (w1 : World) :
    (l4s_mid c true w1).2.log = w1.log ∧ (l4s_mid c true w1).2.inUse = w1.inUse :=
  l4s_mid_not_run (Script.openErr_of_txDone (s := c.script true) h rfl) (Script.openEvents_of_txDone h rfl) w1

/-- The predicted observation on a transaction: the events `evsOp` of the operation between `begin` and the one
    finisher event.  Last conjunct: the transaction ended before the operation and its connection is released, or
    the operation started right after `begin` and what is left in use is what the operation itself holds. -/
def l4s_TxShape (win : String) (c : Case) (evsOp : List Ev) : Prop :=
  ∃ fev : Ev, fev.isFin = true ∧
    (predObsW win c (l4s_predictSingle c)).events = (Ev.begin :: evsOp ++ [fev]).map Ev.render ∧
    l4s_finishOK c (predObsW win c (l4s_predictSingle c)).finish = true ∧
    ((predObsW win c (l4s_predictSingle c)).inUse = 0 ∨
     (l4s_w1 c = { log := [.begin], inUse := 1 } ∧
      (predObsW win c (l4s_predictSingle c)).inUse = (l4s_m c).2.inUse - 1))

theorem l4s_obs_early {wev : Ev} (hwev : wev.isFin = true) {c : Case} (hp : c.op ≠ "pair")
    (h : c.l4s_isEarly = true) (hw : c.concurrent > 0 ∨ c.finishers ≠ [])
    (hbc' : c.concurrent > 0 ∨ c.beginCancel = false) :
    c.l4s_td = true ∧ l4s_TxShape wev.render c [] := by
  have htx := l4s_onTx_of_early h
  have hnl := l4s_early_not_late h
  have hafter : (c.txEnd == "after") = false := by
    simpa [Case.l4s_isLate, htx] using hnl
  have hpost := l4s_post_not_late hnl (l4s_pre c).1 (l4s_m c).2
  have hm := l4s_mid_txDone htx (l4s_w1 c)
  by_cases hc : c.concurrent > 0
  · have hpre := l4s_pre_early_conc h hc
    have htd : c.l4s_td = true := by simp [Case.l4s_td, hpre]
    have hm' : (l4s_m c).2.log = [.begin] ∧ (l4s_m c).2.inUse = 0 := by
      unfold l4s_m; rw [htd, hm.1, hm.2]; simp [l4s_w1, hpre]
    have hconc := l4s_conc_of_pos hp htx hc
    refine ⟨htd, wev, hwev, ?_, by simp [l4s_finishOK, hc], .inl ?_⟩
    · simp [predObsW, l4s_events, hconc, hafter, l4s_single_log, hpost, hm'.1, Ev.render]
    · simp [predObsW, hafter, l4s_single_inUse, hpost, hm'.2]
  · have hc0 : c.concurrent = 0 := by omega
    obtain ⟨f, rest, hf⟩ := List.exists_cons_of_ne_nil (hw.resolve_left hc)
    have hpre := l4s_pre_early_seq h hc0 hf
    have htd : c.l4s_td = true := by simp [Case.l4s_td, hpre]
    have hm' : (l4s_m c).2.log = [.begin, finEv (f == "commit")] ∧ (l4s_m c).2.inUse = 0 := by
      unfold l4s_m; rw [htd, hm.1, hm.2]; simp [l4s_w1, hpre]
    obtain ⟨hev, hiu⟩ := l4s_obs_of_not_conc wev.render (l4s_conc_of_zero hc0) (l4s_predictSingle c)
    refine ⟨htd, finEv (f == "commit"), finEv_isFin _, ?_, ?_, .inl ?_⟩
    · rw [hev]; simp [l4s_single_log, hpost, hm'.1, Ev.render]
    · have hpost' := l4s_post_not_late hnl { done := true } (l4s_m c).2
      simp only [predObsW, l4s_single_finish, hpre, hpost', List.append_nil]
      exact l4s_finishOK_seq (hbc'.resolve_left hc) rest
    · simp [hiu, l4s_single_inUse, hpost, hm'.2]

theorem l4s_late_not_early {c : Case} (h : c.l4s_isLate = true) : c.l4s_isEarly = false := by
  cases he : c.l4s_isEarly
  · rfl
  · rw [l4s_early_not_late he] at h; exact absurd h (by simp)

theorem l4s_obs_late {wev : Ev} (hwev : wev.isFin = true) {c : Case} (hp : c.op ≠ "pair")
    (h : c.l4s_isLate = true) (hw : c.concurrent > 0 ∨ c.finishers ≠ []) {evsOp : List Ev}
    (hlog : (l4s_m c).2.log = (l4s_w1 c).log ++ evsOp) : l4s_TxShape wev.render c evsOp := by
  obtain ⟨htx, hafter⟩ : c.onTx = true ∧ (c.txEnd == "after") = true := by
    simpa only [Case.l4s_isLate, Bool.and_eq_true] using h
  have hpre := l4s_pre_not_early (l4s_late_not_early h)
  rw [l4s_w0_tx htx] at hpre
  have hw1 : l4s_w1 c = { log := [.begin], inUse := 1 } := by simp [l4s_w1, hpre]
  rw [hw1] at hlog
  by_cases hc : c.concurrent > 0
  · have hpost := l4s_post_conc hc (l4s_pre c).1 (l4s_m c).2
    have hconc := l4s_conc_of_pos hp htx hc
    refine ⟨wev, hwev, ?_, by simp [l4s_finishOK, hc], .inr ⟨hw1, ?_⟩⟩
    · simp [predObsW, l4s_events, hconc, hafter, l4s_single_log, hpost, hlog]
    · simp [predObsW, hconc, hafter, l4s_single_inUse, hpost]
  · have hc0 : c.concurrent = 0 := by omega
    obtain ⟨hev, hiu⟩ := l4s_obs_of_not_conc wev.render (l4s_conc_of_zero hc0) (l4s_predictSingle c)
    cases hbc : c.beginCancel
    · obtain ⟨f, rest, hf⟩ := List.exists_cons_of_ne_nil (hw.resolve_left hc)
      have hpost := l4s_post_seq h hc0 hbc hf (l4s_m c).2
      refine ⟨finEv (f == "commit"), finEv_isFin _, ?_, ?_, .inr ⟨hw1, ?_⟩⟩
      · simp [hev, l4s_single_log, hpre, hpost, hlog]
      · simp only [predObsW, l4s_single_finish, hpre, hpost, List.nil_append]
        exact l4s_finishOK_seq hbc rest
      · simp [hiu, l4s_single_inUse, hpre, hpost]
    · have hpost := l4s_post_beginCancel h hc0 hbc (l4s_pre c).1 (l4s_m c).2
      refine ⟨.rollback, rfl, ?_, ?_, .inr ⟨hw1, ?_⟩⟩
      · simp [hev, l4s_single_log, hpost, hlog]
      · have hpost' := l4s_post_beginCancel h hc0 hbc {} (l4s_m c).2
        simp only [predObsW, l4s_single_finish, hpre, hpost', List.nil_append]
        simp [l4s_finishOK, hbc]
      · simp [hiu, l4s_single_inUse, hpost]

/-- The predicates pair the results with the calls of the case; the model runs their image under `l4s_callMap`
    (under the identity when the Query carries an error).  All that is used of the map: it keeps "next" and "close",
    and only them, in place. -/
def l4s_fmap (f : String → String) : Prop :=
  (∀ x, f x = "next" ↔ x = "next") ∧ (∀ x, f x = "close" ↔ x = "close")

theorem l4s_fmap_callMap (b : Bool) : l4s_fmap (l4s_callMap b) :=
  ⟨l4s_callMap_next b, l4s_callMap_close b⟩

theorem l4s_fmap_id : l4s_fmap id := ⟨fun _ => Iff.rfl, fun _ => Iff.rfl⟩

theorem l4s_callStep_cases {f : String → String} (hf : l4s_fmap f) (call : String) (it : Iter) (w : World) :
    (call = "next" ∧ callStep (f call) it w = ((it.next w).1, (it.next w).2.1, toString (it.next w).2.2)) ∨
    (call = "close" ∧ callStep (f call) it w = ((it.close w).1, (it.close w).2.1, renderOpt (it.close w).2.2)) ∨
    (call ≠ "next" ∧ call ≠ "close" ∧
      callStep (f call) it w = (it, w, renderGet (it.get (argsOf (f call))))) := by
  by_cases hn : call = "next"
  · exact .inl ⟨hn, by rw [(hf.1 call).2 hn, callStep_next]⟩
  · by_cases hc : call = "close"
    · exact .inr (.inl ⟨hc, by rw [(hf.2 call).2 hc, callStep_close]⟩)
    · exact .inr (.inr ⟨hn, hc, callStep_get (fun h => hn ((hf.1 call).1 h)) (fun h => hc ((hf.2 call).1 h)) it w⟩)

theorem l4s_preCancel_ind {P : Iter × World → Prop} (ca : Option Nat) (i : Nat) (it : Iter) (w : World)
    (h0 : P (it, w)) (hc : P (it.cancel w)) : P (preCancel ca i it w) := by
  rw [preCancel_eq]
  by_cases h : (ca == some i) = true
  · rw [if_pos h]; exact hc
  · rw [if_neg h]; exact h0

theorem l4s_preCancel_eq_step (ca : Option Nat) (i : Nat) (it : Iter) (w : World) :
    preCancel ca i it w = (it, w) ∨ preCancel ca i it w = ((step it w .cancel).1, (step it w .cancel).2.1) :=
  l4s_preCancel_ind (P := fun p => p = (it, w) ∨ p = ((step it w .cancel).1, (step it w .cancel).2.1)) ca i it w
    (.inl rfl) (.inr rfl)

/-- `closeResults` and the `Next` results `holdsC14` looks at (Spec/L4) have this form -/
def l4s_sel (name : String) (pairs : List (String × String)) : List String :=
  pairs.filterMap fun (call, r) => if call == name then some r else none

theorem l4s_closeResults_eq (c : Case) (o : Obs) : closeResults c o = l4s_sel "close" (c.calls.zip o.returns) := rfl

theorem l4s_sel_cons_self (name r : String) (rest : List (String × String)) :
    l4s_sel name ((name, r) :: rest) = r :: l4s_sel name rest := by
  simp [l4s_sel]

theorem l4s_sel_cons_other {call name : String} (h : call ≠ name) (r : String) (rest : List (String × String)) :
    l4s_sel name ((call, r) :: rest) = l4s_sel name rest := by
  simp [l4s_sel, h]

theorem l4s_sel_mem {name : String} {pairs : List (String × String)} {r : String} (h : r ∈ l4s_sel name pairs) :
    (name, r) ∈ pairs := by
  unfold l4s_sel at h
  rw [List.mem_filterMap] at h
  obtain ⟨⟨call, r'⟩, hp, hpr⟩ := h
  by_cases hc : call = name
  · subst hc; simp at hpr; subst hpr; exact hp
  · have : (call == name) = false := by simpa using hc
    simp [this] at hpr

theorem l4s_close_mem {f : String → String} (hf : l4s_fmap f) (ca : Option Nat) (cs l : List String) (i : Nat)
    (it : Iter) (w : World) {p : String × String} (hp : p ∈ l.zip (runCalls cs ca i it w (l.map f)).2.2)
    (hc : p.1 = "close") :
    ∃ e, Out.closed e ∈ (run it w (expandCalls ca i (l.map f))).2.2 ∧ p.2 = renderOpt e := by
  obtain ⟨it', w', hm, hr⟩ := runCalls_zip_mem f ca cs l i it w p hp
  rw [(hf.2 p.1).2 hc, show callOf "close" = .close from rfl, step_close] at hm hr
  exact ⟨_, hm, (Option.some.inj hr).symm⟩

theorem l4s_next_mem {f : String → String} (hf : l4s_fmap f) (ca : Option Nat) (cs l : List String) (i : Nat)
    (it : Iter) (w : World) {p : String × String} (hp : p ∈ l.zip (runCalls cs ca i it w (l.map f)).2.2)
    (hn : p.1 = "next") :
    ∃ b, Out.bool b ∈ (run it w (expandCalls ca i (l.map f))).2.2 ∧ p.2 = toString b := by
  obtain ⟨it', w', hm, hr⟩ := runCalls_zip_mem f ca cs l i it w p hp
  rw [(hf.1 p.1).2 hn, show callOf "next" = .next from rfl, step_next] at hm hr
  exact ⟨_, hm, (Option.some.inj hr).symm⟩

theorem l4s_closeResults_all {c : Case} {o : Obs} {P : String → Bool}
    (h : ∀ p ∈ c.calls.zip o.returns, p.1 = "close" → P p.2 = true) : (closeResults c o).all P = true := by
  rw [List.all_eq_true]
  intro r hr
  exact h _ (l4s_sel_mem hr) rfl

end Sqlair.Rt
