/-
  L4Sound, the case and the predicted observation in closed form, which is what the proofs about the predicates read:
  a well-formed single-operation case names one of four operations and one of three scenarios (`l4s_wf_single`); the
  events of its predicted observation are those the operation adds, on a transaction between `begin` and the one
  finisher event (`l4s_obs_shape`); what Get / Run / GetAll return, store and append are the closed forms `getSpec`,
  `getAllArgsSpec` of SqlairProofs/Runtime (`l4s_m_getrun`, `l4s_m_getall`).
-/
import SqlairProofs.L4Sound.Strings
import SqlairProofs.L4Sound.World

namespace Sqlair.Rt

def l4s_rows (c : Case) : List Row :=
  (List.range c.nrows).map fun i => { id := i + 1, scanOK := some i != c.badRow }

theorem l4s_fetch_eq (c : Case) :
    c.fetch = match c.fetchErrAt with
      | none => (l4s_rows c).map .ok
      | some k => ((l4s_rows c).take k).map .ok ++ [.error (.inj 3)] := by
  unfold Case.fetch l4s_rows
  cases c.fetchErrAt with
  | none => simp
  | some k => simp [List.map_take, Function.comp_def]

theorem l4s_fetch_nil {c : Case} : c.fetch = [] ↔ c.nrows = 0 ∧ c.fetchErrAt = none := by
  rw [l4s_fetch_eq]
  cases c.fetchErrAt with
  | none => simp [l4s_rows]
  | some k => simp

theorem l4s_fetch_of_errAt {c : Case} {k : Nat} (hk : c.fetchErrAt = some k) (td : Bool) :
    (c.script td).fetch = ((l4s_rows c).take k).map .ok ++ [.error (.inj 3)] := by
  show c.fetch = _
  rw [l4s_fetch_eq, hk]

theorem l4s_fetch_lead {c : Case} {k : Nat} (hk : c.fetchErrAt = some k) (td : Bool) :
    (c.script td).fetch[(c.script td).lead]? = some (.error (.inj 3)) ∧ (c.script td).lead ≤ k := by
  have hf := l4s_fetch_of_errAt hk td
  have hl : (c.script td).lead = ((l4s_rows c).take k).length := by
    unfold Script.lead; rw [hf, leadRows_append_error]
  rw [hl, hf]
  exact ⟨by simp, by rw [List.length_take]; omega⟩

theorem l4s_rows_head {c : Case} {row : Row} {rest : List Row} (h : l4s_rows c = row :: rest) :
    row = { id := 1, scanOK := some 0 != c.badRow } := by
  unfold l4s_rows at h
  cases hn : c.nrows with
  | zero => simp [hn] at h
  | succ n =>
    rw [hn, List.range_succ_eq_map] at h
    simp at h
    exact h.1.symm

theorem l4s_fetch_head_ok {c : Case} {row : Row} {rest : List (Except Err Row)} (h : c.fetch = .ok row :: rest) :
    row = { id := 1, scanOK := some 0 != c.badRow } := by
  rw [l4s_fetch_eq] at h
  cases hrows : l4s_rows c with
  | nil => cases hf : c.fetchErrAt <;> simp [hf, hrows] at h
  | cons r rs =>
    have hr := l4s_rows_head hrows
    cases hf : c.fetchErrAt with
    | none => simp [hf, hrows] at h; rw [← h.1, hr]
    | some k =>
      cases k with
      | zero => simp [hf, hrows] at h
      | succ k => simp [hf, hrows] at h; rw [← h.1, hr]

theorem l4s_fetch_error_mem {c : Case} {e : Err} (h : Except.error e ∈ c.fetch) : e = .inj 3 := by
  rw [l4s_fetch_eq] at h
  cases hf : c.fetchErrAt with
  | none => simp [hf] at h
  | some k =>
    simp [hf] at h
    rcases h with h | h
    · have := List.mem_of_mem_take h
      simp at this
    · exact h

theorem l4s_rows_ids (c : Case) : (l4s_rows c).map (·.id) = (List.range c.nrows).map (· + 1) := by
  simp [l4s_rows]

theorem l4s_fetch_all_ok {c : Case} (h : ∀ x ∈ c.fetch, ∃ row, x = Except.ok row ∧ row.scanOK = true) :
    (okRows c.fetch).map (·.id) = (List.range c.nrows).map (· + 1) := by
  have hnone : c.fetchErrAt = none := by
    cases hf : c.fetchErrAt with
    | none => rfl
    | some k =>
      exfalso
      have hmem : Except.error (Err.inj 3) ∈ c.fetch := by rw [l4s_fetch_eq, hf]; simp
      obtain ⟨row, hrow, _⟩ := h _ hmem
      cases hrow
  rw [l4s_fetch_eq, hnone]
  simp only [okRows_map_ok, l4s_rows_ids]

theorem l4s_rows_scanOK {c : Case} (h : c.badRow = none) : ∀ r ∈ l4s_rows c, r.scanOK = true := by
  intro r hr
  unfold l4s_rows at hr
  obtain ⟨i, _, rfl⟩ := List.mem_map.1 hr
  simp [h]

theorem l4s_script_runErr_isSome (c : Case) (td : Bool) : (c.script td).runErr.isSome = c.runErr := by
  cases h : c.runErr <;> simp [Case.script, h]

theorem l4s_script_noInjectedNoRows (c : Case) (td : Bool) : (c.script td).NoInjectedNoRows := by
  refine ⟨?_, ?_, ?_, ?_⟩
  · cases h : c.prepareErr <;> simp [Case.script, h]
  · cases h : c.runErr <;> simp [Case.script, h]
  · cases h : c.closeErr <;> simp [Case.script, h]
  · intro h
    have hf : (c.script td).fetch = c.fetch := rfl
    rw [hf] at h
    cases hc : c.fetch with
    | nil => simp [hc] at h
    | cons x rest =>
      simp [hc] at h
      subst h
      have := l4s_fetch_error_mem (hc ▸ List.mem_cons_self)
      cases this

theorem l4s_script_closeErr (c : Case) (td : Bool) :
    (c.script td).closeErr = none ∨ (c.script td).closeErr = some (.inj 4) := by
  cases h : c.closeErr <;> simp [Case.script, h]

theorem l4s_script_closeErr_none {c : Case} (h : c.closeErr = false) (td : Bool) : (c.script td).closeErr = none := by
  simp [Case.script, h]

theorem l4s_script_prepareErr_eq {c : Case} {td : Bool} {e : Err} (h : (c.script td).prepareErr = some e) :
    e = .inj 1 := by
  cases hp : c.prepareErr <;> simp [Case.script, hp] at h
  exact h.symm

theorem l4s_script_runErr_eq {c : Case} {td : Bool} {e : Err} (h : (c.script td).runErr = some e) :
    e = .inj 2 := by
  cases hp : c.runErr <;> simp [Case.script, hp] at h
  exact h.symm

theorem l4s_script_openErr (c : Case) (td : Bool) :
    (c.script td).openErr = none ∨ (c.script td).openErr = some .txDone ∨ (c.script td).openErr = some .ctx ∨
    (c.script td).openErr = some (.inj 1) ∨ (c.script td).openErr = some (.inj 2) := by
  cases hoe : (c.script td).openErr with
  | none => exact .inl rfl
  | some e =>
    rcases Script.openErr_cases hoe with ⟨rfl, _⟩ | ⟨rfl, _⟩ | h | h
    · exact .inr (.inl rfl)
    · exact .inr (.inr (.inl rfl))
    · rw [l4s_script_prepareErr_eq h]; exact .inr (.inr (.inr (.inl rfl)))
    · rw [l4s_script_runErr_eq h]; exact .inr (.inr (.inr (.inr rfl)))

theorem l4s_clean_open {c : Case} (hctx : c.ctxDone = false) (hprep : c.prepareErr = false)
    (hrun : c.runErr = false) (hend : c.onTx = false ∨ c.txEnd = "after") :
    l4s_queryErr c = none ∧ c.l4s_td = false ∧ (c.script false).openErr = none := by
  have hne : c.l4s_isEarly = false := by
    unfold Case.l4s_isEarly
    rcases hend with h | h <;> simp [h]
  refine ⟨?_, l4s_td_of_not_early hne, ?_⟩
  · unfold l4s_queryErr
    rcases hend with h | h <;> simp [h]
  · simp [Script.openErr, Case.script, hctx, hprep, hrun]

theorem l4s_cleanRun {c : Case} (h : c.cleanRun = true) :
    l4s_queryErr c = none ∧ c.l4s_td = false ∧ (c.script false).openErr = none ∧
      (c.script false).closeErr = none ∧ c.fetchErrAt = none := by
  unfold Case.cleanRun at h
  simp only [Bool.and_eq_true, Bool.not_eq_true', Option.isNone_iff_eq_none, Bool.and_eq_false_iff,
    bne_eq_false_iff_eq] at h
  obtain ⟨⟨⟨⟨⟨h1, h2⟩, h3⟩, h4⟩, h5⟩, h6⟩ := h
  obtain ⟨g1, g2, g3⟩ := l4s_clean_open h1 h2 h3 h6
  exact ⟨g1, g2, g3, l4s_script_closeErr_none h4 false, h5⟩

theorem l4s_cleanStart {c : Case} (h : c.cleanStart = true) :
    l4s_queryErr c = none ∧ c.l4s_td = false ∧ (c.script false).openErr = none := by
  unfold Case.cleanStart at h
  simp only [Bool.and_eq_true, Bool.not_eq_true', Bool.and_eq_false_iff, bne_eq_false_iff_eq] at h
  exact l4s_clean_open h.1.1.1.1 h.1.1.1.2 h.1.1.2 h.1.2

theorem l4s_wf_single {c : Case} (hwf : CaseWF c) (hp : c.op ≠ "pair") :
    (c.op = "run" ∨ c.op = "get" ∨ c.op = "getall" ∨ c.op = "iter") ∧
    (c.onTx = false ∨
     (c.l4s_isEarly = true ∧ (c.concurrent > 0 ∨ c.finishers ≠ []) ∧
       (c.concurrent > 0 ∨ c.beginCancel = false)) ∨
     (c.l4s_isLate = true ∧ (c.concurrent > 0 ∨ c.finishers ≠ []))) := by
  unfold CaseWF l4s_caseWF at hwf
  have hp' : (c.op == "pair") = false := by simpa using hp
  simp only [hp', Bool.false_eq_true, if_false, Bool.and_eq_true, Bool.or_eq_true, beq_iff_eq,
    Bool.not_eq_true', decide_eq_true_eq, List.isEmpty_eq_false_iff] at hwf
  simp only [Case.l4s_isEarly, Case.l4s_isLate, Bool.and_eq_true, Bool.or_eq_true, beq_iff_eq]
  -- the first conjunct of `l4s_caseWF` is the operation; off a transaction nothing else is asked; on one, `txEnd` says
  -- early or late, the next conjunct gives the finishers, and the `beginCancel` conjunct the third fact of "early"
  grind

theorem l4s_pair_notTx {c : Case} (hwf : CaseWF c) (h : c.op = "pair") :
    c.onTx = false ∧ (c.hasOutputs = true ∨ (c.pairOp ≠ "get" ∧ c.pairOp ≠ "getall")) := by
  unfold CaseWF l4s_caseWF at hwf
  simp only [h, beq_self_eq_true, if_true, Bool.and_eq_true, Bool.not_eq_true', Bool.or_eq_true,
    bne_iff_ne, ne_eq] at hwf
  exact hwf

theorem l4s_count_execq (l : List Ev) :
    ((l.map Ev.render).filter (fun e => e == "exec" || e == "query")).length = l.count .exec + l.count .query := by
  show ((l.map Ev.render).filter (fun e => e == Ev.exec.render || e == Ev.query.render)).length = _
  induction l with
  | nil => rfl
  | cons e rest ih =>
    simp only [List.map_cons, List.filter_cons, Ev.render_beq, List.count_cons]
    cases e <;> simp [ih] <;> omega

theorem l4s_count_frame (l : List Ev) {e fev : Ev} (hf : fev.isFin = true) (he : e.isFin = false)
    (hb : e ≠ .begin) : (Ev.begin :: l ++ [fev]).count e = l.count e := by
  have hne : fev ≠ e := fun h => by rw [h, he] at hf; cases hf
  simp [List.count_append, hb.symm, hne]

theorem l4s_obs_shape {win : String} (hwin : isFinisher win = true) {c : Case} (hwf : CaseWF c)
    (hp : c.op ≠ "pair") {evsOp : List Ev} (hlog : (l4s_m c).2.log = (l4s_w1 c).log ++ evsOp) :
    (c.onTx = false ∧ l4s_w1 c = {} ∧
      (predObsW win c (l4s_predictSingle c)).events = evsOp.map Ev.render ∧
      (predObsW win c (l4s_predictSingle c)).inUse = (l4s_m c).2.inUse) ∨
    l4s_TxShape win c evsOp := by
  obtain ⟨wev, hwev, rfl⟩ := l4s_isFinisher_exists hwin
  rcases (l4s_wf_single hwf hp).2 with h | ⟨h, hw, hbc⟩ | ⟨h, hw⟩
  · obtain ⟨h2, h3, h4⟩ := l4s_obs_notTx wev.render h
    exact .inl ⟨h, h2, by rw [h3, hlog, h2]; rfl, h4⟩
  · obtain ⟨htd, hs⟩ := l4s_obs_early hwev hp h hw hbc
    have htx := l4s_onTx_of_early h
    -- on a finished transaction the operation adds no event
    unfold l4s_m at hlog
    rw [htd, (l4s_mid_txDone htx (l4s_w1 c)).1] at hlog
    rw [List.self_eq_append_right.1 hlog]
    exact .inr hs
  · exact .inr (l4s_obs_late hwev hp h hw hlog)

theorem l4s_m_getrun {c : Case} (hop : c.op = "get" ∨ c.op = "run") :
    (l4s_queryErr c = some .txDone ∧ (l4s_m c).1.returns = ["txDone"] ∧ (l4s_m c).1.stored = 0) ∨
    (l4s_queryErr c = none ∧ ∃ call : GetCall,
      (l4s_m c).1.returns = [renderOpt (getSpec (c.script c.l4s_td) call).err] ∧
      ((l4s_m c).1.stored = (getSpec (c.script c.l4s_td) call).stored.getD 0 ∨
       ((l4s_m c).1.stored = 0 ∧ c.op = "run")) ∧
      (c.op = "get" → call.outcome = c.dests.startsWith "outcome" ∧
        (l4s_m c).1.outcome =
          if call.outcome then
            (match (getSpec (c.script c.l4s_td) call).outcome with
              | some (some n) => s!"r:{n}" | _ => "nil")
          else "")) := by
  have hni : c.op ≠ "iter" := by rcases hop with h | h <;> rw [h] <;> decide
  rcases l4s_queryErr_cases c with hq | hq
  · right
    refine ⟨hq, ?_⟩
    rcases hop with h | h
    · have hm : l4s_m c = l4s_midGet c (c.script c.l4s_td) (l4s_w1 c) := l4s_mid_get hq h _ _
      refine ⟨l4s_getCall c, ?_, .inl ?_, fun _ => ⟨rfl, ?_⟩⟩ <;> rw [hm, ← queryGet_result _ _ (l4s_w1 c)] <;> rfl
    · have hm : l4s_m c = l4s_midRun (c.script c.l4s_td) (l4s_w1 c) := l4s_mid_run hq h _ _
      exact ⟨{}, by rw [hm, ← queryGet_result _ _ (l4s_w1 c)]; rfl, .inr ⟨by rw [hm]; rfl, h⟩,
        fun hg => absurd (h.symm.trans hg) (by decide)⟩
  · left
    have hm : l4s_m c = _ := (l4s_mid_of_err hq _ _).trans (l4s_midErr_other hni _ _)
    exact ⟨hq, by rw [hm]; rfl, by rw [hm]⟩

theorem l4s_m_getall {c : Case} (hop : c.op = "getall") :
    (l4s_queryErr c = some .txDone ∧ (l4s_m c).1.returns = ["txDone"] ∧ (l4s_m c).1.appended = []) ∨
    (l4s_queryErr c = none ∧
      (l4s_m c).1.returns = [renderOpt (getAllArgsSpec (c.script c.l4s_td) (l4s_getAllArgs c)
        (c.dests.startsWith "valid" && !c.fewCols)).err] ∧
      (l4s_m c).1.appended = (getAllArgsSpec (c.script c.l4s_td) (l4s_getAllArgs c)
        (c.dests.startsWith "valid" && !c.fewCols)).appended) := by
  have hni : c.op ≠ "iter" := by rw [hop]; decide
  rcases l4s_queryErr_cases c with hq | hq
  · right
    refine ⟨hq, ?_, ?_⟩
    · unfold l4s_m; rw [l4s_mid_getall hq hop]
      show [renderOpt (queryGetAllArgs _ _ _ _).1.err] = _
      rw [queryGetAllArgs_result]
    · unfold l4s_m; rw [l4s_mid_getall hq hop]
      show (queryGetAllArgs _ _ _ _).1.appended = _
      rw [queryGetAllArgs_result]
  · left
    refine ⟨hq, ?_, ?_⟩
    · unfold l4s_m; rw [l4s_mid_of_err hq, l4s_midErr_other hni]; rfl
    · unfold l4s_m; rw [l4s_mid_of_err hq, l4s_midErr_other hni]

theorem l4s_m_iter {c : Case} (hop : c.op = "iter") (hq : l4s_queryErr c = none) :
    l4s_m c = l4s_midIter c (c.script c.l4s_td) (l4s_w1 c) :=
  l4s_mid_iter hq (by rw [hop]; decide) (by rw [hop]; decide) (by rw [hop]; decide) _ _

/-! ### pair cases: closed form of `predictPair` -/

def l4s_pairBase (c : Case) : Script := { hasOutputs := c.hasOutputs, cached := false, fetch := c.fetch, result := 7 }

def l4s_pairA (c : Case) : Script :=
  { l4s_pairBase c with prepareErr := if c.aEnd == "release" then none else some .ctx }

def l4s_pairB (c : Case) : Option Err × World × Nat × List Nat :=
  match c.pairOp with
  | "getall" =>
    let r := queryGetAllArgs (l4s_pairBase c) [.ok] true {}
    (r.1.err, r.2, 0, r.1.appended)
  | "get" =>
    let r := queryGet (l4s_pairBase c) { dests := 1 } {}
    (r.1.err, r.2, r.1.stored.getD 0, [])
  | _ =>
    let r := queryGet (l4s_pairBase c) {} {}
    (r.1.err, r.2, 0, [])

theorem l4s_predictPair_eq (c : Case) :
    predictPair c =
      { returns := [renderOpt (queryGet (l4s_pairA c) {} {}).1.err, renderOpt (l4s_pairB c).1],
        inUse := (queryGet (l4s_pairA c) {} {}).2.inUse + (l4s_pairB c).2.1.inUse,
        stored := (l4s_pairB c).2.2.1, appended := (l4s_pairB c).2.2.2,
        evA := ((queryGet (l4s_pairA c) {} {}).2.log.filter ctxBearing).map Ev.render,
        evB := ((l4s_pairB c).2.1.log.filter ctxBearing).map Ev.render } := by
  unfold predictPair l4s_pairB
  dsimp only
  rfl

theorem l4s_pairB_effect (c : Case) : l4s_Effect (l4s_pairBase c) True {} (l4s_pairB c).2.1 := by
  unfold l4s_pairB
  split
  · exact l4s_queryGetAllArgs_effect _ _ _ _ _
  · exact l4s_queryGet_effect _ _ _ _
  · exact l4s_queryGet_effect _ _ _ _

theorem l4s_predictPair_inUse (c : Case) : (predictPair c).inUse = 0 := by
  rw [l4s_predictPair_eq]
  show (queryGet (l4s_pairA c) {} {}).2.inUse + (l4s_pairB c).2.1.inUse = 0
  rw [l4s_effect_inUse (l4s_queryGet_effect (l4s_pairA c) {} True {}) trivial,
    l4s_effect_inUse (l4s_pairB_effect c) trivial]
  rfl

end Sqlair.Rt
