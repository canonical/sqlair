/-
  L4Sound, strings: what the predicates of Spec/L4 can see of a rendered error, event or iterator result.  Rendered
  errors are told apart by their first character (`Err.l4s_initial`); `String.splitOn` is evaluated on literals through
  a fuel-indexed copy of `String.splitOnAux`.
-/
import SqlairProofs.L4Sound.Defs
import SqlairProofs.Runtime.L4Link

namespace Sqlair.Rt

theorem l4s_not_startsWith_of_head {s lit : String} {ch ch' : Char} {rest rest' : List Char}
    (hs : s.toList = ch :: rest) (hl : lit.toList = ch' :: rest') (hne : ch ≠ ch') :
    s.startsWith lit = false := by
  rw [String.startsWith_string_eq_false_iff, hs, hl]
  rintro ⟨t, ht⟩
  simp at ht
  exact hne ht.1.symm

theorem l4s_startsWith_append (p s : String) : (p ++ s).startsWith p = true := by
  rw [String.startsWith_string_iff, String.toList_append]
  exact List.prefix_append _ _

theorem l4s_toString_beq_true (b : Bool) : (toString b == "true") = b := by cases b <;> decide
theorem l4s_toString_beq_false (b : Bool) : (toString b == "false") = !b := by cases b <;> decide

theorem l4s_all_of_const {α : Type} {L : List α} {x : α} (h : ∀ r ∈ L, r = x) {q : α → Bool} (hq : q x = true) :
    L.all q = true :=
  List.all_eq_true.2 fun r hr => h r hr ▸ hq

theorem l4s_all_map_const {α β : Type} (l : List α) (m : β) (q : β → Bool) (h : q m = true) :
    (l.map fun _ => m).all q = true :=
  l4s_all_of_const (fun r hr => by obtain ⟨_, _, rfl⟩ := List.mem_map.1 hr; rfl) h

theorem l4s_all_eq_head {L : List String} {x : String} (h : ∀ r ∈ L, r = x) :
    L.all (fun r => some r == L.head?) = true := by
  cases L with
  | nil => rfl
  | cons a t => exact l4s_all_of_const h (by simp [h a (by simp)])

theorem l4s_const_all_head (l : List String) :
    (l.map fun _ => 1).all (· == (l.map fun _ => 1).headD 0) = true := by
  cases l with
  | nil => rfl
  | cons a rest => exact l4s_all_map_const _ _ _ (by simp)

theorem l4s_zip_self_all (l : List String) (f : String × String → Bool) (h : ∀ x, f (x, x) = true) :
    (l.zip l).all f = true := by
  induction l with
  | nil => rfl
  | cons a rest ih => simp [h a, ih]

theorem l4s_imp_true {a b : Bool} (h : a = true → b = true) : (!a || b) = true := by
  cases a
  · rfl
  · exact h rfl

def Err.l4s_initial : Err → Char
  | .inj _ => 'i' | .noRows => 'n' | .txDone => 't' | .ctx => 'c' | .rowsClosed => 'r'
  | .scan => 's' | .sqlair _ => 's' | .wrapped _ => 'w'

theorem l4s_render_toList (e : Err) : ∃ rest, e.render.toList = e.l4s_initial :: rest := by
  cases e <;> simp [Err.render, Err.l4s_initial, toString]

theorem l4s_initial_of_startsWith {e : Err} {lit : String} {ch : Char} {rest : List Char}
    (hl : lit.toList = ch :: rest) (h : e.render.startsWith lit = true) : e.l4s_initial = ch := by
  obtain ⟨r, hr⟩ := l4s_render_toList e
  exact Decidable.byContradiction fun hne => by
    rw [l4s_not_startsWith_of_head hr hl hne] at h; cases h

theorem l4s_initial_of_eq {e : Err} {lit : String} {ch : Char} {rest : List Char}
    (hl : lit.toList = ch :: rest) (h : e.render = lit) : e.l4s_initial = ch := by
  obtain ⟨r, hr⟩ := l4s_render_toList e
  rw [h, hl] at hr
  exact (List.cons.inj hr).1.symm

theorem l4s_render_ne_empty (e : Err) : e.render ≠ "" := by
  obtain ⟨r, hr⟩ := l4s_render_toList e
  intro h
  rw [h] at hr
  cases hr

theorem l4s_render_eq_iff (b : Err) (hb : ∀ e : Err, e.l4s_initial = b.l4s_initial → e = b) {e : Err} :
    e.render = b.render ↔ e = b := by
  obtain ⟨r, hr⟩ := l4s_render_toList b
  exact ⟨fun h => hb e (l4s_initial_of_eq hr h), fun h => h ▸ rfl⟩

theorem l4s_render_eq_noRows {e : Err} : e.render = "noRows" ↔ e = .noRows :=
  l4s_render_eq_iff .noRows (by intro e h; cases e <;> simp [Err.l4s_initial] at h ⊢)

theorem l4s_render_eq_ctx {e : Err} : e.render = "ctx" ↔ e = .ctx :=
  l4s_render_eq_iff .ctx (by intro e h; cases e <;> simp [Err.l4s_initial] at h ⊢)

theorem l4s_render_eq_txDone {e : Err} : e.render = "txDone" ↔ e = .txDone :=
  l4s_render_eq_iff .txDone (by intro e h; cases e <;> simp [Err.l4s_initial] at h ⊢)

/-- only `wrapped` renders with a 'w' in front, and what it wraps is rendered in between -/
theorem l4s_render_eq_wrapped {b : Err} (hb : ∀ e', e'.render = b.render → e' = b) {e : Err} :
    e.render = (Err.wrapped b).render ↔ e = .wrapped b := by
  refine ⟨fun h => ?_, fun h => h ▸ rfl⟩
  obtain ⟨r, hr⟩ := l4s_render_toList (.wrapped b)
  have hi := l4s_initial_of_eq hr h
  cases e <;> simp [Err.l4s_initial] at hi
  rw [hb _ ((String.append_right_inj _).1 ((String.append_left_inj _).1 h))]

theorem l4s_wrapped_ctx_render : (Err.wrapped .ctx).render = "wrapped(ctx)" := by decide
theorem l4s_wrapped_txDone_render : (Err.wrapped .txDone).render = "wrapped(txDone)" := by decide

theorem l4s_render_not_row (e : Err) : e.render.startsWith "row:" = false := by
  cases h : e.render.startsWith "row:" with
  | false => rfl
  | true =>
    have hi := l4s_initial_of_startsWith (ch := 'r') (rest := "ow:".toList) (by simp) h
    cases e <;> simp [Err.l4s_initial] at hi
    -- left: "rowsClosed", the one rendering with an 'r' in front
    revert h; decide +kernel

theorem l4s_render_not_outcome (e : Err) : e.render.startsWith "outcome:" = false := by
  cases h : e.render.startsWith "outcome:" with
  | false => rfl
  | true =>
    have hi := l4s_initial_of_startsWith (ch := 'o') (rest := "utcome:".toList) (by simp) h
    cases e <;> simp [Err.l4s_initial] at hi

theorem l4s_renderOpt_eq_empty {e : Option Err} : renderOpt e = "" ↔ e = none := by
  cases e with
  | none => simp [renderOpt]
  | some e => simp [renderOpt, l4s_render_ne_empty]

theorem l4s_renderOpt_some (e : Err) : renderOpt (some e) = e.render := rfl
theorem l4s_renderOpt_none : renderOpt none = "" := rfl

/-- how `runCalls` prints a row -/
def l4s_rowStr (id : Nat) : String := s!"row:{id}"

theorem l4s_rowStr_eq (id : Nat) : l4s_rowStr id = "row:" ++ toString id := by
  simp [l4s_rowStr, toString]

theorem l4s_rowStr_startsWith (id : Nat) : (l4s_rowStr id).startsWith "row:" = true := by
  rw [l4s_rowStr_eq]; exact l4s_startsWith_append _ _

theorem l4s_rowStr_ne_empty (id : Nat) : l4s_rowStr id ≠ "" := by
  intro h
  have := congrArg String.length h
  simp [l4s_rowStr_eq] at this

theorem l4s_rowStr_toList (id : Nat) : (l4s_rowStr id).toList = 'r' :: ('o' :: 'w' :: ':' :: (toString id).toList) := by
  simp [l4s_rowStr_eq]

theorem l4s_outcomeStr_toList (n : Nat) :
    (s!"outcome:{n}" : String).toList = 'o' :: ("utcome:".toList ++ (toString n).toList) := by
  simp [toString]

theorem l4s_renderGet_row_eq (id : Nat) : renderGet (.row id) = l4s_rowStr id := rfl

theorem l4s_renderGet_row {g : GetOut} (h : (renderGet g).startsWith "row:" = true) : ∃ id, g = .row id := by
  cases g with
  | row id => exact ⟨id, rfl⟩
  | err e => rw [show renderGet (.err e) = e.render from rfl, l4s_render_not_row] at h; cases h
  | outcome r =>
    exfalso
    have l1 : "row:".toList = 'r' :: ['o', 'w', ':'] := by decide
    cases r with
    | none =>
      have : renderGet (.outcome none) = "outcome:nil" := rfl
      rw [this] at h; revert h; decide +kernel
    | some n =>
      have : renderGet (.outcome (some n)) = s!"outcome:{n}" := rfl
      rw [this, l4s_not_startsWith_of_head (l4s_outcomeStr_toList n) l1 (by decide)] at h
      cases h

def Ev.l4s_parse (x : String) : Option Ev :=
  [Ev.prepare, .exec, .query, .next, .rowsClose, .stmtClose, .begin, .commit, .rollback].find? (·.render == x)

theorem Ev.l4s_parse_render (e : Ev) : Ev.l4s_parse e.render = some e := by cases e <;> decide

theorem Ev.render_inj {e e' : Ev} (h : e.render = e'.render) : e = e' :=
  Option.some.inj (by rw [← Ev.l4s_parse_render e, h, Ev.l4s_parse_render])

theorem Ev.render_beq (e e0 : Ev) : (e.render == e0.render) = (e == e0) :=
  Bool.eq_iff_iff.2 ⟨fun h => beq_iff_eq.2 (Ev.render_inj (beq_iff_eq.1 h)), fun h => beq_iff_eq.2 (congrArg _ (beq_iff_eq.1 h))⟩

theorem l4s_isFinisher_render (e : Ev) : isFinisher e.render = e.isFin := by
  show (e.render == Ev.commit.render || e.render == Ev.rollback.render) = _
  rw [Ev.render_beq, Ev.render_beq]; cases e <;> rfl

theorem l4s_isFinisher_exists {fe : String} (h : isFinisher fe = true) :
    ∃ fev : Ev, fev.isFin = true ∧ fe = fev.render := by
  simp only [isFinisher, Bool.or_eq_true, beq_iff_eq] at h
  rcases h with rfl | rfl
  · exact ⟨.commit, rfl, rfl⟩
  · exact ⟨.rollback, rfl, rfl⟩

theorem Ev.count_render (l : List Ev) (e0 : Ev) :
    ((l.map Ev.render).filter (· == e0.render)).length = l.count e0 := by
  induction l with
  | nil => rfl
  | cons e rest ih =>
    simp only [List.map_cons, List.filter_cons, Ev.render_beq, List.count_cons]
    cases he : (e == e0) <;> simp [ih]

theorem l4s_events_filter {win : String} {q : String → Bool} (hq : q win = false) (c : Case) (p : Pred) :
    (l4s_events win c p).filter q = (p.log.map Ev.render).filter q := by
  unfold l4s_events
  cases c.l4s_conc
  · rfl
  · cases (c.txEnd == "after")
    · simp only [if_true, Bool.false_eq_true, if_false, List.filter_append, List.filter_cons, hq, List.filter_nil,
        List.append_nil]
      rw [← List.filter_append, List.take_append_drop]
    · simp [List.filter_append, hq]

/-- `String.splitOnAux` with fuel: structurally recursive, hence evaluated by the kernel -/
def l4s_splitFuel : Nat → String → String → String.Pos.Raw → String.Pos.Raw → String.Pos.Raw →
    List String → Option (List String)
  | 0, _, _, _, _, _, _ => none
  | f+1, s, sep, b, i, j, r =>
    if i.atEnd s then
      some ((b.extract s i)::r).reverse
    else
      if i.get s == j.get sep then
        if (j.next sep).atEnd sep then
          l4s_splitFuel f s sep (i.next s) (i.next s) 0 (b.extract s ((i.next s).unoffsetBy (j.next sep))::r)
        else
          l4s_splitFuel f s sep b (i.next s) (j.next sep) r
      else
        l4s_splitFuel f s sep b ((i.unoffsetBy j).next s) 0 r

theorem l4s_splitFuel_sound (f : Nat) (s sep : String) (b i j : String.Pos.Raw) (r l : List String)
    (h : l4s_splitFuel f s sep b i j r = some l) : String.splitOnAux s sep b i j r = l := by
  fun_induction l4s_splitFuel f s sep b i j r <;> rw [String.splitOnAux] <;> simp_all

theorem l4s_splitOn_of_fuel (f : Nat) (s sep : String) (l : List String) (hsep : (sep == "") = false)
    (h : l4s_splitFuel f s sep 0 0 0 [] = some l) : s.splitOn sep = l := by
  unfold String.splitOn
  simp only [hsep, Bool.false_eq_true, if_false]
  exact l4s_splitFuel_sound f _ _ _ _ _ _ _ h

end Sqlair.Rt
