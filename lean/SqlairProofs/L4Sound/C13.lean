/-
  L4Sound, C13, C12 and C09 (transaction half): on the predicted observation every result set is closed exactly once
  and no connection stays in use; on a transaction everything is on one connection between `begin` and the single
  finisher event.  Each predicate is entered through one lemma on lists of events (`l4s_holdsC13_of_events`,
  `l4s_c12_events`).
-/
import SqlairProofs.L4Sound.Predicted

namespace Sqlair.Rt

/-- the last conjunct of `holdsC13`, on events -/
def l4s_c13Ev (runErr hasOutputs : Bool) (l : List Ev) : Bool :=
  l.count .rowsClose == l.count .query -
    (if runErr && hasOutputs && decide (l.count .exec + l.count .query > 0) then 1 else 0)

theorem l4s_c13Ev_ran {s : Script} {evs : List Ev} (hrows : evs.all Ev.isRow = true)
    (hbal : evs.count .rowsClose = if s.opensRows then 1 else 0) :
    l4s_c13Ev s.runErr.isSome s.hasOutputs (s.openEvents ++ evs) = true := by
  have hq : evs.count .query = 0 := count_eq_zero_of_all hrows rfl
  have he : evs.count .exec = 0 := count_eq_zero_of_all hrows rfl
  obtain ⟨h1, h2⟩ := Script.openEvents_query_le s
  have h3 := Script.opensRows_iff_query s
  unfold l4s_c13Ev
  simp only [List.count_append, hq, he, hbal, Script.openEvents_rowsClose, Nat.add_zero, Nat.zero_add]
  by_cases hm : Ev.query ∈ s.openEvents
  · have hc : s.openEvents.count .query = 1 := by have := List.count_pos_iff.2 hm; omega
    cases hr : s.runErr with
    | none => simp [hc, h3.2 ⟨hm, hr⟩]
    | some e =>
      have : s.opensRows = false := Bool.eq_false_iff.2 fun hops => by rw [(h3.1 hops).2] at hr; cases hr
      simp [hc, this, h2 hm]
  · have : s.opensRows = false := Bool.eq_false_iff.2 fun hops => hm (h3.1 hops).1
    simp [List.count_eq_zero.2 hm, this]

theorem l4s_c13Ev_effect {c : Case} {td : Bool} {w1 w2 : World}
    (h : l4s_Effect (c.script td) c.l4s_complete w1 w2) (hc : c.l4s_complete) :
    w2.inUse = w1.inUse ∧ ∃ evsOp, w2.log = w1.log ++ evsOp ∧ l4s_c13Ev c.runErr c.hasOutputs evsOp = true := by
  refine ⟨l4s_effect_inUse h hc, ?_⟩
  rcases h with rfl | ⟨n, op, rfl, hcl, _⟩
  · exact ⟨[], by simp, by simp [l4s_c13Ev]⟩
  · obtain rfl := hcl hc
    refine ⟨_, Script.worldAt_log _ _ _ _, ?_⟩
    have := l4s_c13Ev_ran (s := c.script td) ((c.script td).rowEvents_isRow n false)
      (by rw [Script.rowEvents_closes]; simp)
    rw [l4s_script_runErr_isSome] at this
    exact this

theorem l4s_c13Ev_frame (a b : Bool) (l : List Ev) {fev : Ev} (hf : fev.isFin = true) :
    l4s_c13Ev a b (.begin :: l ++ [fev]) = l4s_c13Ev a b l := by
  unfold l4s_c13Ev
  rw [l4s_count_frame l hf rfl (by decide), l4s_count_frame l hf rfl (by decide),
    l4s_count_frame l hf rfl (by decide)]

theorem l4s_holdsC13_of_events {c : Case} {o : Obs} {L : List Ev} (hev : o.events = L.map Ev.render)
    (h0 : o.openRows = 0) (h1 : o.doubleClose = 0) (h2 : o.inUse = 0)
    (h3 : l4s_c13Ev c.runErr c.hasOutputs L = true) : holdsC13 c o = true := by
  unfold holdsC13
  split
  · rfl
  · unfold l4s_c13Ev at h3
    have hrc : ((L.map Ev.render).filter (· == "rowsClose")).length = L.count .rowsClose := Ev.count_render L .rowsClose
    have hq : ((L.map Ev.render).filter (· == "query")).length = L.count .query := Ev.count_render L .query
    simp only [execEvents, hev, hrc, hq, l4s_count_execq, h0, h1, h2]
    simpa using h3

theorem l4s_holdsC13_single {win : String} (hwin : isFinisher win = true) {c : Case} (hwf : CaseWF c)
    (hp : c.op ≠ "pair") : holdsC13 c (predObsW win c (l4s_predictSingle c)) = true := by
  by_cases hcomp : c.l4s_complete
  · have heff := l4s_mid_effect c c.l4s_td (l4s_w1 c)
    obtain ⟨hin, evsOp, hlog, hc13⟩ := l4s_c13Ev_effect heff hcomp
    rcases l4s_obs_shape hwin hwf hp hlog with ⟨_, hw1, hev, hiu⟩ | ⟨fev, hf, hev, _, hiu⟩
    · refine l4s_holdsC13_of_events hev rfl rfl ?_ hc13
      rw [hiu]; unfold l4s_m; rw [hin, hw1]
    · refine l4s_holdsC13_of_events hev rfl rfl ?_ (by rw [l4s_c13Ev_frame _ _ _ hf]; exact hc13)
      rcases hiu with hiu | ⟨hw1, hiu⟩
      · exact hiu
      · rw [hiu]; unfold l4s_m; rw [hin, hw1]; rfl
  · -- an iteration that is never closed: `holdsC13` asks nothing
    obtain ⟨h1, h2, h3, hcl⟩ : c.op ≠ "run" ∧ c.op ≠ "get" ∧ c.op ≠ "getall" ∧ "close" ∉ c.calls := by
      simpa [Case.l4s_complete, not_or] using hcomp
    have hiter : c.op = "iter" := (((l4s_wf_single hwf hp).1.resolve_left h1).resolve_left h2).resolve_left h3
    unfold holdsC13
    simp [hiter, hcl]

theorem l4s_holdsC13_pair (win : String) {c : Case} (h : c.op = "pair") :
    holdsC13 c (predObsW win c (predictPair c)) = true :=
  l4s_holdsC13_of_events (L := []) (by rw [(l4s_obs_of_not_conc win (l4s_conc_pair h) _).1, l4s_predictPair_eq])
    rfl rfl (by rw [(l4s_obs_of_not_conc win (l4s_conc_pair h) _).2, l4s_predictPair_inUse]) (by simp [l4s_c13Ev])

theorem l4s_holdsC09tx (win : String) (c : Case) (p : Pred) : holdsC09tx c (predObsW win c p) = true := by
  unfold holdsC09tx
  show (!c.onTx || ((l4s_events win c p).map fun _ => 1).all (· == ((l4s_events win c p).map fun _ => 1).headD 0)) = true
  rw [l4s_const_all_head]; simp

theorem l4s_c12_events {evsOp : List Ev} (h : ∀ e ∈ evsOp, e.isFin = false) {fev : Ev} (hf : fev.isFin = true) :
    ((Ev.begin :: evsOp ++ [fev]).map Ev.render).head? = some "begin" ∧
    (((Ev.begin :: evsOp ++ [fev]).map Ev.render).filter isFinisher).length = 1 ∧
    (((Ev.begin :: evsOp ++ [fev]).map Ev.render).dropWhile (fun e => !isFinisher e)).length = 1 := by
  have hno : ∀ x ∈ (Ev.begin :: evsOp).map Ev.render, isFinisher x = false := by
    intro x hx
    obtain ⟨e, he, rfl⟩ := List.mem_map.1 hx
    rw [l4s_isFinisher_render]
    rcases List.mem_cons.1 he with rfl | he
    · rfl
    · exact h e he
  have hlast : isFinisher fev.render = true := by rw [l4s_isFinisher_render, hf]
  have hsplit : (Ev.begin :: evsOp ++ [fev]).map Ev.render = (Ev.begin :: evsOp).map Ev.render ++ [fev.render] := by
    simp
  refine ⟨rfl, ?_, ?_⟩
  · rw [hsplit, List.filter_append, List.filter_eq_nil_iff.2 (by simpa using hno)]
    simp [hlast]
  · rw [hsplit, List.dropWhile_append_of_pos fun x hx => by rw [hno x hx]; rfl]
    simp [hlast]

theorem l4s_holdsC12_single {win : String} (hwin : isFinisher win = true) {c : Case} (hwf : CaseWF c)
    (hp : c.op ≠ "pair") : holdsC12 c (predObsW win c (l4s_predictSingle c)) = true := by
  cases htx : c.onTx
  · simp [holdsC12, htx]
  · obtain ⟨evsOp, hlog, hnf⟩ := l4s_effect_noFin (l4s_mid_effect c c.l4s_td (l4s_w1 c))
    have hshape := l4s_obs_shape hwin hwf hp hlog
    have hlast : ((predict c).returns.zip (predObsW win c (l4s_predictSingle c)).returns).all
        (fun (m, r) => m != "txDone" || r == "txDone" || (c.ctxDone && r == "ctx")) = true := by
      rw [l4s_predict_single hp]
      refine l4s_zip_self_all _ _ fun x => ?_
      show (!(x == "txDone") || x == "txDone" || (c.ctxDone && x == "ctx")) = true
      cases x == "txDone" <;> rfl
    rcases hshape with ⟨h, _⟩ | ⟨fev, hf, hev, hfin, _⟩
    · rw [h] at htx; cases htx
    · obtain ⟨h1, h2, h3⟩ := l4s_c12_events hnf hf
      have hw : (predObsW win c (l4s_predictSingle c)).winners = 1 := rfl
      have hconn : (predObsW win c (l4s_predictSingle c)).eventConn.all
          (· == (predObsW win c (l4s_predictSingle c)).eventConn.headD 0) = true := l4s_const_all_head _
      unfold l4s_finishOK at hfin
      unfold holdsC12
      simp only [htx, Bool.not_true, Bool.false_eq_true, if_false, hconn, hev, h1, h2, h3, hw, beq_self_eq_true,
        Bool.true_and, ite_eq_right_iff.2 fun _ => hlast, Bool.and_true]
      by_cases hc : c.concurrent > 0
      · rw [if_pos hc]
      · rw [if_neg hc]; simpa [hc] using hfin

theorem l4s_holdsC12_pair (win : String) {c : Case} (hwf : CaseWF c) (h : c.op = "pair") :
    holdsC12 c (predObsW win c (predictPair c)) = true := by
  simp [holdsC12, (l4s_pair_notTx hwf h).1]

end Sqlair.Rt
