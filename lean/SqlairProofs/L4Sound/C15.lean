/-
  L4Sound, C15: Get / Run / GetAll on the predicted observation.  `holdsC15` is read as implications between named
  facts (`l4s_holdsC15_of_getrun`, `l4s_holdsC15_of_getall`); the facts are those the runtime part proves of the closed
  forms `getSpec` and `getAllArgsSpec`, at the fetch script of the case.
-/
import SqlairProofs.L4Sound.Predicted

namespace Sqlair.Rt

def l4s_c15a (c : Case) (o : Obs) : Bool :=
  (!(c.cleanRun && c.hasOutputs && c.nrows == 0 &&
      (c.op == "get" || c.op == "run" ||
       (c.op == "getall" && (c.dests.startsWith "valid" || c.dests == "invalid" || c.dests == "none" ||
          c.dests == "sliceint" || c.dests == "sliceptrint"))))
    || (o.returns.headD "") == "noRows")

def l4s_c15gr (c : Case) (o : Obs) : Bool :=
  ((o.returns.headD "") != "noRows" || (c.hasOutputs && o.stored == 0 && c.fetchErrAt != some 0 && c.nrows == 0)) &&
  (!(c.op == "get" && (o.returns.headD "") == "" && c.hasOutputs &&
      (c.dests == "valid" || c.dests == "outcome+valid" || c.dests == "niloutcome+valid"))
    || o.stored == 1) &&
  (!(c.op == "get" && (o.returns.headD "") == "" && c.dests.startsWith "outcome") ||
    o.outcome == (if c.hasOutputs then "nil" else "r:7"))

def l4s_c15ga (c : Case) (o : Obs) : Bool :=
  o.priorKept && o.rowsFaithful &&
    (if (o.returns.headD "") == "" then o.appended == (List.range c.nrows).map (· + 1) || !c.hasOutputs
     else o.appended.isEmpty)

theorem l4s_holdsC15_eq (c : Case) (o : Obs) :
    holdsC15 c o = (l4s_c15a c o && match c.op with
      | "get" | "run" => l4s_c15gr c o
      | "getall" => l4s_c15ga c o
      | _ => true) := rfl

theorem l4s_holdsC15_of_getrun {c : Case} {o : Obs} (hop : c.op = "get" ∨ c.op = "run")
    (g1 : c.cleanRun = true → c.hasOutputs = true → c.nrows = 0 → o.returns.headD "" = "noRows")
    (g2 : o.returns.headD "" = "noRows" →
      c.hasOutputs = true ∧ o.stored = 0 ∧ c.fetchErrAt ≠ some 0 ∧ c.nrows = 0)
    (g3 : c.op = "get" → o.returns.headD "" = "" → c.hasOutputs = true → o.stored = 1)
    (g4 : c.op = "get" → o.returns.headD "" = "" → c.dests.startsWith "outcome" = true →
      o.outcome = (if c.hasOutputs then "nil" else "r:7")) :
    holdsC15 c o = true := by
  have ha : l4s_c15a c o = true := l4s_imp_true fun h => by
    simp only [Bool.and_eq_true, beq_iff_eq] at h
    rw [g1 h.1.1.1 h.1.1.2 h.1.2]; rfl
  have hgr : l4s_c15gr c o = true := by
    simp only [l4s_c15gr, Bool.and_eq_true]
    refine ⟨⟨l4s_imp_true fun h => ?_, l4s_imp_true fun h => ?_⟩, l4s_imp_true fun h => ?_⟩
    · obtain ⟨a, b, c', d⟩ := g2 (beq_iff_eq.1 h)
      simp [a, b, c', d]
    · simp only [Bool.and_eq_true, beq_iff_eq] at h
      rw [g3 h.1.1.1 h.1.1.2 h.1.2]; rfl
    · simp only [Bool.and_eq_true, beq_iff_eq] at h
      rw [g4 h.1.1 h.1.2 h.2]; exact beq_self_eq_true _
  rw [l4s_holdsC15_eq, ha]
  rcases hop with h | h <;> simp only [h, hgr] <;> rfl

theorem l4s_holdsC15_of_getall {c : Case} {o : Obs} (hop : c.op = "getall")
    (hpk : o.priorKept = true) (hrf : o.rowsFaithful = true)
    (a1 : c.cleanRun = true → c.hasOutputs = true → c.nrows = 0 →
      (c.dests.startsWith "valid" = true ∨ c.dests = "invalid" ∨ c.dests = "none" ∨ c.dests = "sliceint" ∨
        c.dests = "sliceptrint") → o.returns.headD "" = "noRows")
    (a2 : o.returns.headD "" = "" → o.appended = (List.range c.nrows).map (· + 1) ∨ c.hasOutputs = false)
    (a3 : o.returns.headD "" ≠ "" → o.appended = []) :
    holdsC15 c o = true := by
  have ha : l4s_c15a c o = true := l4s_imp_true fun h => by
    simp only [hop, Bool.and_eq_true, Bool.or_eq_true, beq_iff_eq, String.reduceEq, false_or, true_and] at h
    rw [a1 h.1.1.1 h.1.1.2 h.1.2 (by simpa [or_assoc] using h.2)]; rfl
  have hga : l4s_c15ga c o = true := by
    unfold l4s_c15ga
    rw [hpk, hrf]
    by_cases hr : o.returns.headD "" = ""
    · rw [if_pos (beq_iff_eq.2 hr)]
      rcases a2 hr with h | h <;> simp [h]
    · rw [if_neg (by simpa using hr), a3 hr]; rfl
  rw [l4s_holdsC15_eq, ha]
  simp only [hop, hga]
  rfl

theorem l4s_holdsC15_getrun (win : String) {c : Case} (hop : c.op = "get" ∨ c.op = "run") :
    holdsC15 c (predObsW win c (l4s_predictSingle c)) = true := by
  rcases l4s_m_getrun hop with ⟨hq, hr, hst⟩ | ⟨hq, call, hr, hst, hout⟩
  · -- a Query carrying ErrTXDone answers neither "noRows" nor success, and the run was not clean
    refine l4s_holdsC15_of_getrun hop ?_ ?_ ?_ ?_ <;>
      simp only [l4s_obs_returns, l4s_obs_stored, l4s_single_returns, l4s_single_stored, hr]
    · intro h1; rw [(l4s_cleanRun h1).1] at hq; cases hq
    · intro h; exact absurd h (by decide)
    · intro _ h; exact absurd h (by decide)
    · intro _ h; exact absurd h (by decide)
  -- a Query answered by `queryGet`, whose result is `getSpec`
  refine l4s_holdsC15_of_getrun hop ?empty ?noRows ?stored ?outcome <;>
    simp only [l4s_obs_returns, l4s_obs_stored, l4s_single_returns, l4s_single_stored, hr]
  case empty =>
    intro h1 h2 h3
    obtain ⟨_, htd, hoe, hce, hfe⟩ := l4s_cleanRun h1
    rw [htd]
    have : (getSpec (c.script false) call).err = some .noRows := by
      rw [getSpec_noRows_iff (l4s_script_noInjectedNoRows c false)]
      exact ⟨h2, hoe, l4s_fetch_nil.2 ⟨h3, hfe⟩, hce⟩
    rw [this]; rfl
  case noRows =>
    intro hr
    have herr : (getSpec (c.script c.l4s_td) call).err = some .noRows := by
      cases he : (getSpec (c.script c.l4s_td) call).err with
      | none => rw [he] at hr; exact absurd hr (by decide)
      | some e => rw [he] at hr; rw [l4s_render_eq_noRows.1 hr]
    have hinj := l4s_script_noInjectedNoRows c c.l4s_td
    obtain ⟨h1, _, h3, _⟩ := (getSpec_noRows_iff hinj _).1 herr
    have hst0 := getSpec_noRows_stored hinj herr
    obtain ⟨hn, hf⟩ := l4s_fetch_nil.1 h3
    refine ⟨h1, ?_, by rw [hf]; simp, hn⟩
    rcases hst with hst | ⟨hst, _⟩
    · rw [hst, hst0]; rfl
    · exact hst
  case stored =>
    intro hget hr ho
    have herr : (getSpec (c.script c.l4s_td) call).err = none := l4s_renderOpt_eq_empty.1 hr
    obtain ⟨row, rest, hf, hs⟩ := (getSpec_ok herr).2 ho
    rcases hst with hst | ⟨_, hrun⟩
    · rw [hst, hs, l4s_fetch_head_ok hf]; rfl
    · rw [hget] at hrun; exact absurd hrun (by decide)
  case outcome =>
    intro hget hr hoc
    obtain ⟨hco, hm⟩ := hout hget
    have herr : (getSpec (c.script c.l4s_td) call).err = none := l4s_renderOpt_eq_empty.1 hr
    change (l4s_predictSingle c).outcome = _
    rw [l4s_single_outcome, hm, (getSpec_ok herr).1, hco, hoc]
    -- the script of a case reports 7 rows affected (`Case.script`)
    show (match (some (if c.hasOutputs then none else some 7) : Option (Option Nat)) with
      | some (some n) => s!"r:{n}" | _ => "nil") = _
    cases c.hasOutputs
    · decide
    · rfl

theorem l4s_holdsC15_getall (win : String) {c : Case} (hop : c.op = "getall") :
    holdsC15 c (predObsW win c (l4s_predictSingle c)) = true := by
  rcases l4s_m_getall hop with ⟨hq, hr, ha⟩ | ⟨hq, hr, ha⟩
  · -- a Query carrying ErrTXDone: not a clean run, not a success, nothing appended
    refine l4s_holdsC15_of_getall hop rfl rfl ?_ ?_ ?_ <;>
      simp only [l4s_obs_returns, l4s_obs_appended, l4s_single_returns, l4s_single_appended, hr, ha]
    · intro h1; rw [(l4s_cleanRun h1).1] at hq; cases hq
    · intro h; exact absurd h (by decide)
    · intro _; trivial
  -- a Query answered by `queryGetAllArgs`, whose result is `getAllArgsSpec`
  refine l4s_holdsC15_of_getall hop rfl rfl ?empty ?all ?nothing <;>
    simp only [l4s_obs_returns, l4s_obs_appended, l4s_single_returns, l4s_single_appended, hr, ha]
  case empty =>
    intro h1 h2 h3 h4
    obtain ⟨_, htd, hoe, hce, hfe⟩ := l4s_cleanRun h1
    rw [htd, getAllArgsSpec_empty (s := c.script false) h2 hoe (l4s_fetch_nil.2 ⟨h3, hfe⟩)
      (l4s_getAllArgs_accepted h4), hce]
    rfl
  case all =>
    intro hr
    have herr := l4s_renderOpt_eq_empty.1 hr
    cases ho : c.hasOutputs with
    | false => exact .inr rfl
    | true =>
      obtain ⟨g1, g2⟩ := getAllArgsSpec_success herr (s := c.script c.l4s_td) ho
      rw [g2]
      exact .inl (l4s_fetch_all_ok g1)
  case nothing =>
    intro hr
    apply getAllArgsSpec_all_or_nothing
    intro hnone
    rw [hnone] at hr
    exact hr rfl

theorem l4s_holdsC15_other {c : Case} (h1 : c.op ≠ "get") (h2 : c.op ≠ "run") (h3 : c.op ≠ "getall") (o : Obs) :
    holdsC15 c o = true := by
  unfold holdsC15; simp [h1, h2, h3]

theorem l4s_holdsC15_single (win : String) (c : Case) : holdsC15 c (predObsW win c (l4s_predictSingle c)) = true := by
  by_cases h1 : c.op = "get"
  · exact l4s_holdsC15_getrun win (.inl h1)
  · by_cases h2 : c.op = "run"
    · exact l4s_holdsC15_getrun win (.inr h2)
    · by_cases h3 : c.op = "getall"
      · exact l4s_holdsC15_getall win h3
      · exact l4s_holdsC15_other h1 h2 h3 _

theorem l4s_holdsC15_pair (win : String) {c : Case} (h : c.op = "pair") (p : Pred) :
    holdsC15 c (predObsW win c p) = true :=
  l4s_holdsC15_other (by rw [h]; decide) (by rw [h]; decide) (by rw [h]; decide) _

end Sqlair.Rt
