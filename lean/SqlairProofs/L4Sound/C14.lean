/-
  L4Sound, C14.  Get / GetAll: a driver failure while fetching a row the call reaches is reported.  `iter` cases: the
  recursive checks of `holdsC14` (`chk`: rows in driver order, `ended`: Get after the end is an error, `live`: the
  current row stays available) are instances of one scan `l4s_scan` over the (call, result) pairs, each kept true by
  an invariant of the model's iterator (`l4s_scan_runCalls`).  That Close results agree, that Next stays false once the
  iteration is over and that a fetch failure that ended the iteration is reported by every Close are theorems of
  SqlairProofs/Runtime about `run` (`run_closed_eq_final`, `run_ended`, `run_fetch_error_reported`).
-/
import SqlairProofs.L4Sound.Predicted

namespace Sqlair.Rt

def l4s_reported (r : String) : Bool := r != "" && r != "noRows"

theorem l4s_reported_of_ne_noRows {e : Err} (h : e ≠ .noRows) : l4s_reported (renderOpt (some e)) = true := by
  unfold l4s_reported
  simp only [Bool.and_eq_true, bne_iff_ne, ne_eq, l4s_renderOpt_some]
  exact ⟨l4s_render_ne_empty _, fun h' => h (l4s_render_eq_noRows.1 h')⟩

theorem l4s_holdsC14_of_reported {c : Case} {o : Obs} (hop : c.op = "get" ∨ c.op = "getall")
    (h : c.hasOutputs = true → c.cleanStart = true → c.badRow = none → c.fewCols = false →
      ∀ k, c.fetchErrAt = some k → (c.op = "get" → k = 0) → (c.op = "getall" → c.dests.startsWith "valid" = true) →
        l4s_reported (o.returns.headD "") = true) :
    holdsC14 c o = true := by
  unfold holdsC14
  rw [if_pos (by rcases hop with h | h <;> simp [h])]
  refine l4s_imp_true fun hcond => ?_
  simp only [Bool.and_eq_true, Bool.or_eq_true, Bool.not_eq_true', beq_iff_eq, Option.isNone_iff_eq_none] at hcond
  obtain ⟨⟨⟨⟨⟨⟨⟨⟨ho, hcs⟩, _⟩, hbr⟩, hfc⟩, _⟩, hk0⟩, hfe⟩, hdv⟩ := hcond
  obtain ⟨k, hk⟩ := Option.isSome_iff_exists.1 hfe
  refine h ho hcs hbr hfc k hk (fun hg => ?_) (fun hga => ?_)
  · rcases hk0 with h' | h'
    · rw [hg] at h'; exact absurd h' (by decide)
    · rw [hk] at h'; exact (Option.some.inj h')
  · rcases hdv with h' | h'
    · rw [hga] at h'; exact absurd h' (by decide)
    · exact h'

theorem l4s_holdsC14_get (win : String) {c : Case} (hop : c.op = "get") :
    holdsC14 c (predObsW win c (l4s_predictSingle c)) = true := by
  refine l4s_holdsC14_of_reported (.inl hop) fun ho hcs _ _ k hk h0 _ => ?_
  obtain ⟨hq, htd, hoe⟩ := l4s_cleanStart hcs
  have hfetch : (c.script false).fetch = [.error (.inj 3)] := by rw [l4s_fetch_of_errAt hk, h0 hop]; rfl
  rcases l4s_m_getrun (.inl hop) with ⟨hq', _⟩ | ⟨_, call, hr, _⟩
  · rw [hq] at hq'; cases hq'
  · rw [l4s_obs_returns, l4s_single_returns, hr, htd,
      getSpec_fetch_error (Script.opensRows_iff.2 ⟨ho, hoe⟩) hfetch]
    exact l4s_reported_of_ne_noRows (by simp)

theorem l4s_holdsC14_getall (win : String) {c : Case} (hop : c.op = "getall") :
    holdsC14 c (predObsW win c (l4s_predictSingle c)) = true := by
  refine l4s_holdsC14_of_reported (.inr hop) fun ho hcs hbr hfc k hk _ hdv => ?_
  obtain ⟨hq, htd, hoe⟩ := l4s_cleanStart hcs
  rcases l4s_m_getall hop with ⟨hq', _⟩ | ⟨_, hr, _⟩
  · rw [hq] at hq'; cases hq'
  · rw [l4s_obs_returns, l4s_single_returns, hr, htd, l4s_getAllArgs_valid (hdv hop),
      getAllArgsSpec_ok_arg (s := c.script false) ho,
      getAllSpec_fetch_error (Script.opensRows_iff.2 ⟨ho, hoe⟩) (l4s_fetch_of_errAt hk false)
        (fun r hr => l4s_rows_scanOK hbr r (List.mem_of_mem_take hr)) (fun _ => by simp [hdv hop, hfc])]
    exact l4s_reported_of_ne_noRows (by simp)

def l4s_scan {σ : Type} (g : String → String → σ → Bool) (n : String → String → σ → σ) :
    List (String × String) → σ → Bool
  | [], _ => true
  | (call, r) :: rest, a => g call r a && l4s_scan g n rest (n call r a)

def l4s_chkG (call r : String) (k : Nat) : Bool :=
  if call == "next" then true
  else if call == "get" && r.startsWith "row:" then r == l4s_rowStr k else true

def l4s_chkN (call r : String) (k : Nat) : Nat :=
  if call == "next" then (if r == "true" then k + 1 else k) else k

theorem l4s_chk_eq (l : List (String × String)) (k : Nat) :
    holdsC14.chk l k = l4s_scan l4s_chkG l4s_chkN l k := by
  induction l generalizing k with
  | nil => rfl
  | cons p rest ih =>
    obtain ⟨call, r⟩ := p
    rw [holdsC14.chk, l4s_scan, l4s_chkG, l4s_chkN]
    simp only [ih]
    cases (call == "next")
    · cases (call == "get" && r.startsWith "row:") <;> simp <;> rfl
    · simp

def l4s_endedG (call r : String) (over : Bool) : Bool :=
  if call == "next" then true else if call == "close" then true
  else (!over || (r != "" && !r.startsWith "row:" && !r.startsWith "outcome:"))

def l4s_endedN (call r : String) (over : Bool) : Bool :=
  if call == "next" then over || r == "false" else if call == "close" then true else over

theorem l4s_ended_eq (l : List (String × String)) (over : Bool) :
    holdsC14.ended l over = l4s_scan l4s_endedG l4s_endedN l over := by
  induction l generalizing over with
  | nil => rfl
  | cons p rest ih =>
    obtain ⟨call, r⟩ := p
    rw [holdsC14.ended, l4s_scan, l4s_endedG, l4s_endedN]
    simp only [ih]
    cases (call == "next")
    · cases (call == "close") <;> simp
    · simp

def l4s_liveG (bad : Option Nat) (call r : String) (a : Nat × Bool) : Bool :=
  if call == "next" then true else if call == "close" then true
  else if call == "get" && a.2 && some (a.1 - 1) != bad then r == l4s_rowStr a.1 else true

def l4s_liveN (call r : String) (a : Nat × Bool) : Nat × Bool :=
  if call == "next" then ((if r == "true" then a.1 + 1 else a.1), r == "true")
  else if call == "close" then (a.1, false) else a

theorem l4s_live_eq (c : Case) (l : List (String × String)) (k : Nat) (cur : Bool) :
    holdsC14.live c l k cur = l4s_scan (l4s_liveG c.badRow) l4s_liveN l (k, cur) := by
  induction l generalizing k cur with
  | nil => rfl
  | cons p rest ih =>
    obtain ⟨call, r⟩ := p
    rw [holdsC14.live, l4s_scan, l4s_liveG, l4s_liveN]
    simp only [ih]
    cases (call == "next")
    · cases (call == "close")
      · cases (call == "get" && cur && some (k - 1) != c.badRow) <;> simp <;> rfl
      · simp
    · simp

theorem l4s_scan_runCalls {σ : Type} (g : String → String → σ → Bool) (n : String → String → σ → σ)
    (f : String → String) (cancelAt : Option Nat) (Inv : σ → Iter → Prop)
    (hcancel : ∀ a i it w, Inv a it → Inv a (preCancel cancelAt i it w).1)
    (hstep : ∀ a call it w, Inv a it →
      g call (callStep (f call) it w).2.2 a = true ∧ Inv (n call (callStep (f call) it w).2.2 a) (callStep (f call) it w).1)
    (cs : List String) : ∀ (l : List String) (i : Nat) (it : Iter) (w : World) (a : σ), Inv a it →
      l4s_scan g n (l.zip (runCalls cs cancelAt i it w (l.map f)).2.2) a = true := by
  intro l
  induction l with
  | nil => intro i it w a _; rfl
  | cons call rest ih =>
    intro i it w a hinv
    rw [List.map_cons, runCalls_cons]
    simp only [List.zip_cons_cons, l4s_scan]
    have h1 := hcancel a i it w hinv
    obtain ⟨h2, h3⟩ := hstep a call _ (preCancel cancelAt i it w).2 h1
    rw [h2, Bool.true_and]
    exact ih _ _ _ _ h3

/-- rows are numbered from `k + 1`; row number `i + 1` converts unless `i` is the bad row -/
def l4s_Seq (bad : Option Nat) : Nat → List (Except Err Row) → Prop
  | _, [] => True
  | _, .error _ :: _ => True
  | k, .ok row :: rest => row.id = k + 1 ∧ row.scanOK = (some k != bad) ∧ l4s_Seq bad (k + 1) rest

theorem l4s_Seq_range (bad : Option Nat) (tail : List (Except Err Row))
    (ht : tail = [] ∨ ∃ e t, tail = .error e :: t) (m : Nat) : ∀ k,
    l4s_Seq bad k (((List.range' k m).map fun i => (Except.ok { id := i + 1, scanOK := some i != bad } : Except Err Row)) ++ tail) := by
  induction m with
  | zero =>
    intro k
    rcases ht with rfl | ⟨e, t, rfl⟩ <;> simp [l4s_Seq]
  | succ m ih =>
    intro k
    simp only [List.range'_succ, List.map_cons, List.cons_append, l4s_Seq, true_and]
    exact ih (k + 1)

theorem l4s_Seq_fetch (c : Case) : l4s_Seq c.badRow 0 c.fetch := by
  unfold Case.fetch
  cases c.fetchErrAt with
  | none =>
    have := l4s_Seq_range c.badRow [] (.inl rfl) c.nrows 0
    simpa [List.range_eq_range'] using this
  | some k =>
    have := l4s_Seq_range c.badRow [.error (.inj 3)] (.inr ⟨_, _, rfl⟩) (min k c.nrows) 0
    show l4s_Seq c.badRow 0 (List.take k (List.map _ (List.range c.nrows)) ++ [Except.error (Err.inj 3)])
    rw [← List.map_take, List.take_range]
    simpa [List.range_eq_range'] using this

/-! ### `chk`: rows in driver order -/

/-- `k` rows have been delivered: what remains is numbered from `k + 1`, the current row is row `k` -/
def l4s_InvC (bad : Option Nat) (k : Nat) (it : Iter) : Prop :=
  it.WF ∧ l4s_Seq bad k it.remaining ∧ ∀ id, it.curId = some id → id = k

theorem l4s_InvC_of_ended (bad : Option Nat) (k : Nat) {it : Iter} (hwf : it.WF) (he : it.ended = true) :
    l4s_InvC bad k it :=
  ⟨hwf, by rw [Iter.remaining_of_ended he]; trivial, fun id hid => by rw [Iter.curId_of_ended hwf he] at hid; cases hid⟩

theorem l4s_InvC_cancel {bad : Option Nat} {k : Nat} {it : Iter} (h : l4s_InvC bad k it) (ca : Option Nat) (i : Nat)
    (w : World) : l4s_InvC bad k (preCancel ca i it w).1 := by
  refine l4s_preCancel_ind (P := fun p => l4s_InvC bad k p.1) ca i it w h ?_
  rcases Iter.cancel_ended it w with h' | h'
  · exact l4s_InvC_of_ended bad k (Iter.cancel_WF h.1 w) h'
  · rw [h']; exact h

theorem l4s_InvC_step {bad : Option Nat} {f : String → String} (hf : l4s_fmap f) (k : Nat) (call : String)
    (it : Iter) (w : World) (h : l4s_InvC bad k it) :
    l4s_chkG call (callStep (f call) it w).2.2 k = true ∧
    l4s_InvC bad (l4s_chkN call (callStep (f call) it w).2.2 k) (callStep (f call) it w).1 := by
  obtain ⟨h1, h2, h3⟩ := h
  rcases l4s_callStep_cases hf call it w with ⟨rfl, hs⟩ | ⟨rfl, hs⟩ | ⟨hn, hc, hs⟩ <;> rw [hs]
  · refine ⟨by simp [l4s_chkG], ?_⟩
    simp only [l4s_chkN, beq_self_eq_true, if_true]
    rcases Iter.next_remaining it w with ⟨g1, _, g3⟩ | ⟨row, rest, g1, g2, g3, g4⟩
    · rw [g1, l4s_toString_beq_true]
      simp only [Bool.false_eq_true, if_false]
      exact l4s_InvC_of_ended bad k (Iter.next_WF h1 w) (Iter.ended_of_next_false it w g1)
    · rw [g2, l4s_toString_beq_true]
      simp only [if_true]
      rw [g1] at h2
      obtain ⟨s1, _, s3⟩ := h2
      refine ⟨Iter.next_WF h1 w, by rw [g4]; exact s3, ?_⟩
      intro id hid; rw [g3] at hid; cases hid; exact s1
  · refine ⟨by simp [l4s_chkG], ?_⟩
    simp only [l4s_chkN]
    exact l4s_InvC_of_ended bad k (Iter.close_WF it w) (Iter.close_ended it w)
  · have hnb : (call == "next") = false := by simpa using hn
    refine ⟨?_, by simp only [l4s_chkN, hnb]; exact ⟨h1, h2, h3⟩⟩
    simp only [l4s_chkG, hnb, Bool.false_eq_true, if_false]
    by_cases hcond : (call == "get" && (renderGet (it.get (argsOf (f call)))).startsWith "row:") = true
    · rw [if_pos hcond]
      simp only [Bool.and_eq_true] at hcond
      obtain ⟨id, hid⟩ := l4s_renderGet_row hcond.2
      rw [hid]
      have := h3 id (Iter.get_row_cur hid)
      subst this
      rw [l4s_renderGet_row_eq]; exact beq_self_eq_true _
    · rw [if_neg hcond]

theorem l4s_chk_runCalls (bad : Option Nat) {f : String → String} (hf : l4s_fmap f) (ca : Option Nat)
    (cs l : List String) (i : Nat) {it : Iter} (w : World) (hwf : it.WF) (hseq : l4s_Seq bad 0 it.remaining)
    (hcur : it.curId = none) :
    holdsC14.chk (l.zip (runCalls cs ca i it w (l.map f)).2.2) 0 = true := by
  rw [l4s_chk_eq]
  exact l4s_scan_runCalls l4s_chkG l4s_chkN f ca (l4s_InvC bad)
    (fun a i it w h => l4s_InvC_cancel h ca i w) (fun a call it w h => l4s_InvC_step hf a call it w h)
    cs l i it w 0 ⟨hwf, hseq, by intro id hid; rw [hcur] at hid; cases hid⟩

/-! ### `ended`: Get after the end -/

def l4s_InvE (over : Bool) (it : Iter) : Prop :=
  over = true → it.ended = true ∧ it.started = true

theorem l4s_InvE_cancel {over : Bool} {it : Iter} (h : l4s_InvE over it) (ca : Option Nat) (i : Nat) (w : World) :
    l4s_InvE over (preCancel ca i it w).1 :=
  l4s_preCancel_ind (P := fun p => l4s_InvE over p.1) ca i it w h fun ho =>
    ⟨step_ended (h ho).1 w .cancel, by rw [Iter.cancel_started]; exact (h ho).2⟩

theorem l4s_InvE_step {f : String → String} (hf : l4s_fmap f) (over : Bool) (call : String)
    (it : Iter) (w : World) (h : l4s_InvE over it) :
    l4s_endedG call (callStep (f call) it w).2.2 over = true ∧
    l4s_InvE (l4s_endedN call (callStep (f call) it w).2.2 over) (callStep (f call) it w).1 := by
  rcases l4s_callStep_cases hf call it w with ⟨rfl, hs⟩ | ⟨rfl, hs⟩ | ⟨hn, hc, hs⟩ <;> rw [hs]
  · refine ⟨by simp [l4s_endedG], ?_⟩
    simp only [l4s_endedN, beq_self_eq_true, if_true]
    intro ho
    refine ⟨?_, Iter.next_started it w⟩
    cases hover : over
    · rw [hover] at ho
      simp only [Bool.false_or] at ho
      cases hb : (it.next w).2.2
      · exact Iter.ended_of_next_false it w hb
      · rw [hb, l4s_toString_beq_false] at ho; cases ho
    · exact step_ended (h hover).1 w .next
  · refine ⟨by simp [l4s_endedG], ?_⟩
    simp only [l4s_endedN]
    exact fun _ => ⟨Iter.ended_of_rows_none (by simp), Iter.close_started it w⟩
  · have hnb : (call == "next") = false := by simpa using hn
    have hcb : (call == "close") = false := by simpa using hc
    refine ⟨?_, by simp only [l4s_endedN, hnb, hcb]; exact h⟩
    simp only [l4s_endedG, hnb, hcb, Bool.false_eq_true, if_false]
    cases hover : over
    · rfl
    · obtain ⟨e, he⟩ := Iter.get_of_ended (h hover).1 (h hover).2 (argsOf (f call))
      rw [he, show renderGet (.err e) = e.render from rfl, l4s_render_not_row, l4s_render_not_outcome]
      simp [l4s_render_ne_empty]

theorem l4s_ended_runCalls {f : String → String} (hf : l4s_fmap f) (ca : Option Nat)
    (cs l : List String) (i : Nat) (it : Iter) (w : World) :
    holdsC14.ended (l.zip (runCalls cs ca i it w (l.map f)).2.2) false = true := by
  rw [l4s_ended_eq]
  exact l4s_scan_runCalls l4s_endedG l4s_endedN f ca l4s_InvE
    (fun a i it w h => l4s_InvE_cancel h ca i w) (fun a call it w h => l4s_InvE_step hf a call it w h)
    cs l i it w false (by intro h; cases h)

/-! ### `live`: the current row stays available -/

/-- `a = (k, cur)`: `k` rows delivered, and if the last `Next` succeeded (`cur`) and row `k` is not the bad row, a
    `Get` with fitting destinations stores it -/
def l4s_InvL (bad : Option Nat) (a : Nat × Bool) (it : Iter) : Prop :=
  it.WF ∧ l4s_Seq bad a.1 it.remaining ∧
  (a.2 = true → (some (a.1 - 1) != bad) = true → it.get .valid = .row a.1)

/-- Stated for the calls as they are (no renaming `f`, unlike `l4s_InvC_step`, `l4s_InvE_step`): `holdsC14` asks `live`
    only of a case with neither a cancellation nor `fewCols`, where the model runs the calls unrenamed
    (`l4s_IterStart.id_of_cols`); a "get" renamed to "getinvalid" is answered with an error whatever the current row. -/
theorem l4s_InvL_step (bad : Option Nat) (a : Nat × Bool) (call : String) (it : Iter) (w : World)
    (h : l4s_InvL bad a it) :
    l4s_liveG bad call (callStep call it w).2.2 a = true ∧
    l4s_InvL bad (l4s_liveN call (callStep call it w).2.2 a) (callStep call it w).1 := by
  obtain ⟨k, cur⟩ := a
  obtain ⟨h1, h2, h3⟩ := h
  rcases l4s_callStep_cases l4s_fmap_id call it w with ⟨rfl, hs⟩ | ⟨rfl, hs⟩ | ⟨hn, hc, hs⟩ <;>
    rw [id] at hs <;> rw [hs]
  · refine ⟨by simp [l4s_liveG], ?_⟩
    simp only [l4s_liveN, beq_self_eq_true, if_true]
    cases hb : (it.next w).2.2
    · rw [l4s_toString_beq_true]
      simp only [Bool.false_eq_true, if_false]
      exact ⟨Iter.next_WF h1 w, by rw [Iter.remaining_of_ended (Iter.ended_of_next_false it w hb)]; trivial,
        nofun⟩
    · rw [l4s_toString_beq_true]
      simp only [if_true]
      -- a `Next` returning true found the result set open and a row in front
      have hend : it.ended = false := by
        cases h : it.ended
        · rfl
        · rw [Iter.next_of_ended h] at hb; cases hb
      obtain ⟨r, he, hr, hc⟩ := Iter.of_not_ended hend
      rcases Iter.next_remaining it w with ⟨hf, _⟩ | ⟨row, rest, hrem, _, _, hrest⟩
      · rw [hf] at hb; cases hb
      · rw [hrem] at h2
        obtain ⟨s1, s2, s3⟩ := h2
        rw [Iter.remaining_of_rows he hr, hc] at hrem
        refine ⟨Iter.next_WF h1 w, by rw [hrest]; exact s3, fun _ hbad => ?_⟩
        rw [(Iter.get_after_row he hr hc ((h1.rows_wf r hr).lasterr_none hc) hrem w).1, s1, s2]
        exact if_pos hbad
  · refine ⟨by simp [l4s_liveG], ?_⟩
    simp only [l4s_liveN]
    exact ⟨Iter.close_WF it w, by rw [Iter.remaining_of_rows_none (by simp)]; trivial, by intro h; cases h⟩
  · have hnb : (call == "next") = false := by simpa using hn
    have hcb : (call == "close") = false := by simpa using hc
    refine ⟨?_, by simp only [l4s_liveN, hnb, hcb]; exact ⟨h1, h2, h3⟩⟩
    simp only [l4s_liveG, hnb, hcb, Bool.false_eq_true, if_false]
    by_cases hcond : (call == "get" && cur && some (k - 1) != bad) = true
    · rw [if_pos hcond]
      simp only [Bool.and_eq_true, beq_iff_eq] at hcond
      obtain ⟨⟨hget, hcur⟩, hbad⟩ := hcond
      rw [hget, show argsOf "get" = .valid from rfl, h3 hcur hbad, l4s_renderGet_row_eq]; exact beq_self_eq_true _
    · rw [if_neg hcond]

theorem l4s_live_runCalls (c : Case) (cs l : List String) (i : Nat) {it : Iter} (w : World) (hwf : it.WF)
    (hseq : l4s_Seq c.badRow 0 it.remaining) :
    holdsC14.live c (l.zip (runCalls cs none i it w l).2.2) 0 false = true := by
  rw [l4s_live_eq]
  have := l4s_scan_runCalls (l4s_liveG c.badRow) l4s_liveN id none
    (l4s_InvL c.badRow)
    (fun a i it w h => by simpa [preCancel] using h)
    (fun a call it w h => l4s_InvL_step c.badRow a call it w h)
    cs l i it w (0, false) ⟨hwf, hseq, by intro h; cases h⟩
  rwa [List.map_id] at this

/-- every `Close` returns what one more `Close` at the end would (`run_closed_eq_final`) -/
theorem l4s_cr_agree {f : String → String} (hf : l4s_fmap f) (ca : Option Nat) (cs l : List String) (i : Nat)
    (it : Iter) (w : World) :
    (l4s_sel "close" (l.zip (runCalls cs ca i it w (l.map f)).2.2)).all
      (fun r => some r == (l4s_sel "close" (l.zip (runCalls cs ca i it w (l.map f)).2.2)).head?) = true := by
  refine l4s_all_eq_head (x := renderOpt ((run it w (expandCalls ca i (l.map f))).1.close
    (run it w (expandCalls ca i (l.map f))).2.1).2.2) fun r hr => ?_
  obtain ⟨e, he, hre⟩ := l4s_close_mem hf ca cs l i it w (l4s_sel_mem hr) rfl
  exact hre.trans (by rw [run_closed_eq_final _ _ _ e he])

theorem l4s_nexts_sticky {f : String → String} (hf : l4s_fmap f) (ca : Option Nat) (cs : List String) :
    ∀ (l : List String) (i : Nat) (it : Iter) (w : World),
      ((l4s_sel "next" (l.zip (runCalls cs ca i it w (l.map f)).2.2)).dropWhile (· == "true")).all (· == "false") = true := by
  intro l
  induction l with
  | nil => intro i it w; rfl
  | cons call rest ih =>
    intro i it w
    rw [List.map_cons, runCalls_cons]
    simp only [List.zip_cons_cons]
    by_cases hn : call = "next"
    · subst hn
      rw [(hf.1 "next").2 rfl, l4s_sel_cons_self "next", callStep_next]
      cases hb : ((preCancel ca i it w).1.next (preCancel ca i it w).2).2.2
      · rw [List.dropWhile_cons, l4s_toString_beq_true]
        simp only [Bool.false_eq_true, if_false, List.all_cons, l4s_toString_beq_false, Bool.not_false, Bool.true_and]
        rw [List.all_eq_true]
        intro r hr
        obtain ⟨b, hm, hrb⟩ := l4s_next_mem hf ca cs rest (i + 1) _ _ (l4s_sel_mem hr) rfl
        rw [show r = toString b from hrb, (run_ended (Iter.ended_of_next_false _ _ hb) _ _).2 b hm]; rfl
      · rw [List.dropWhile_cons, l4s_toString_beq_true]
        simp only [if_true]
        exact ih _ _ _
    · rw [l4s_sel_cons_other hn]
      exact ih _ _ _

/-- what `holdsC14` asks of the first call -/
def l4s_firstOK (pairs : List (String × String)) : Bool :=
  match pairs.head? with
  | some ("get", r) => !r.startsWith "row:"
  | some ("getinvalid", r) => r != ""
  | _ => true

theorem l4s_head_ok {f : String → String} (hf : l4s_fmap f)
    (hfg : argsOf (f "get") = .valid ∨ argsOf (f "get") = .invalid)
    (hfi : argsOf (f "getinvalid") = .invalid)
    (ca : Option Nat) (cs l : List String) (i : Nat) {it : Iter} (w : World) (hs : it.started = false) :
    l4s_firstOK (l.zip (runCalls cs ca i it w (l.map f)).2.2) = true := by
  unfold l4s_firstOK
  cases l with
  | nil => rfl
  | cons call rest =>
    rw [List.map_cons, runCalls_cons]
    simp only [List.zip_cons_cons, List.head?_cons]
    have hs' : (preCancel ca i it w).1.started = false :=
      l4s_preCancel_ind (P := fun p => p.1.started = false) ca i it w hs ((Iter.cancel_started it w).trans hs)
    have hget : ∀ x, x ≠ "next" → x ≠ "close" → (argsOf (f x) = .valid ∨ argsOf (f x) = .invalid) →
        ∃ e : Err, (callStep (f x) (preCancel ca i it w).1 (preCancel ca i it w).2).2.2 = e.render := by
      intro x h1 h2 ha
      rw [callStep_get (fun h => h1 ((hf.1 x).1 h)) (fun h => h2 ((hf.2 x).1 h))]
      obtain ⟨e, he⟩ := Iter.get_dests_of_not_started hs' ha
      exact ⟨e, by rw [he]; rfl⟩
    split
    · rename_i r heq
      simp only [Option.some.injEq, Prod.mk.injEq] at heq
      obtain ⟨rfl, rfl⟩ := heq
      obtain ⟨e, he⟩ := hget "get" (by decide) (by decide) hfg
      rw [he, l4s_render_not_row]; rfl
    · rename_i r heq
      simp only [Option.some.injEq, Prod.mk.injEq] at heq
      obtain ⟨rfl, rfl⟩ := heq
      obtain ⟨e, he⟩ := hget "getinvalid" (by decide) (by decide) (.inr hfi)
      rw [he]
      simpa using l4s_render_ne_empty e
    · rfl

theorem l4s_midIter_fetchErr (c : Case) (s : Script) (w1 : World) {e : Err} (he : s.fetch[s.lead]? = some (.error e)) :
    (∃ n op, n ≤ s.lead ∧ (l4s_midIter c s w1).2 = s.worldAt w1 n op) ∨
    ∀ p ∈ c.calls.zip (l4s_midIter c s w1).1.returns, p.1 = "close" → p.2 ≠ "" := by
  obtain ⟨ds, hw⟩ := l4s_midIter_world c s w1
  rcases run_fetch_error_reported s w1 (l4s_iterCalls c ++ ds) he with ⟨n, op, hn, h⟩ | h
  · exact .inl ⟨n, op, hn, hw.trans h⟩
  · right
    intro p hp hc
    have hp' : p ∈ c.calls.zip (l4s_iterRun c s w1).2.2 := hp
    rw [l4s_iterRun_eq] at hp'
    obtain ⟨e', he', hpe⟩ := l4s_close_mem (l4s_fmap_callMap c.fewCols) _ _ _ _ _ _ hp' hc
    rw [hpe, h e' (by rw [run_append]; exact List.mem_append_left _ he')]
    exact l4s_render_ne_empty e

theorem l4s_m_fetchErr {c : Case} (hop : c.op = "iter") {k : Nat} (hk : c.fetchErrAt = some k) :
    (∃ evsOp, (l4s_m c).2.log = (l4s_w1 c).log ++ evsOp ∧ evsOp.count .next ≤ k) ∨
    ∀ p ∈ c.calls.zip (l4s_m c).1.returns, p.1 = "close" → p.2 ≠ "" := by
  cases hq : l4s_queryErr c with
  | some e => unfold l4s_m; rw [l4s_mid_of_err hq, l4s_midErr_world]; exact .inl ⟨[], by simp, Nat.zero_le _⟩
  | none =>
    rw [l4s_m_iter hop hq]
    obtain ⟨h1, h2⟩ := l4s_fetch_lead hk c.l4s_td
    refine (l4s_midIter_fetchErr c _ _ h1).imp (fun ⟨n, op, hn, hw⟩ => ⟨_, by rw [hw, Script.worldAt_log], ?_⟩) id
    rw [List.count_append, Script.rowEvents_nexts, count_eq_zero_of_all (Script.openEvents_isOpen _) rfl]; omega

theorem l4s_holdsC14_iter_of {c : Case} {o : Obs} (hop : c.op = "iter")
    (h1 : (closeResults c o).all (fun r => some r == (closeResults c o).head?) = true)
    (h2 : ((l4s_sel "next" (c.calls.zip o.returns)).dropWhile (· == "true")).all (· == "false") = true)
    (h3 : holdsC14.chk (c.calls.zip o.returns) 0 = true)
    (h4 : holdsC14.ended (c.calls.zip o.returns) false = true)
    (h5 : c.cancelAt.isSome = true ∨ c.fewCols = true ∨ holdsC14.live c (c.calls.zip o.returns) 0 false = true)
    (h6 : l4s_firstOK (c.calls.zip o.returns) = true)
    (h7 : ∀ k, c.fetchErrAt = some k →
      (o.events.filter (· == "next")).length ≤ k ∨ (closeResults c o).all (· != "") = true) :
    holdsC14 c o = true := by
  have hg : (c.op == "get" || c.op == "getall") = false := by rw [hop]; decide
  have hi : (c.op != "iter") = false := by rw [hop]; decide
  have h5' : (c.cancelAt.isSome || c.fewCols || holdsC14.live c (c.calls.zip o.returns) 0 false) = true := by
    rcases h5 with h | h | h <;> simp [h]
  unfold holdsC14
  simp only [hg, hi, Bool.false_eq_true, if_false]
  have h2' : ((List.filterMap (fun x => match x with | (call, r) => if (call == "next") = true then some r else none)
      (c.calls.zip o.returns)).dropWhile (· == "true")).all (· == "false") = true := h2
  simp only [h1, h2', h3, h4, h5', Bool.true_and, Bool.and_eq_true]
  refine ⟨h6, ?_⟩
  cases hf : c.fetchErrAt with
  | none => rfl
  | some k =>
    show (decide ((o.events.filter (· == "next")).length ≤ k) || (closeResults c o).all (· != "")) = true
    rcases h7 k hf with h | h
    · simp [h]
    · simp only [h, Bool.or_true]

/-- How the iteration of an `iter` case starts: the calls `c.calls`, renamed by `f`, are made on iterator `it0` in
    world `w0` (`cs` is the call list as `runCalls` carries it along), and `it0` meets the starting conditions of the
    invariants above. -/
structure l4s_IterStart (c : Case) (f : String → String) (cs : List String) (it0 : Iter) (w0 : World) : Prop where
  fmap : l4s_fmap f
  get : argsOf (f "get") = .valid ∨ argsOf (f "get") = .invalid
  getinvalid : argsOf (f "getinvalid") = .invalid
  id_of_cols : c.fewCols = false → f = id
  returns : (l4s_m c).1.returns = (runCalls cs c.cancelAt 0 it0 w0 (c.calls.map f)).2.2
  wf : it0.WF
  notStarted : it0.started = false
  numbered : l4s_Seq c.badRow 0 it0.remaining
  noCur : it0.curId = none

/-- the two ways: a Query that carries an error (an iterator that holds it), or `Query.Iter` on the script of the case -/
theorem l4s_iterStart {c : Case} (hop : c.op = "iter") :
    ∃ (f : String → String) (cs : List String) (it0 : Iter) (w0 : World), l4s_IterStart c f cs it0 w0 := by
  cases hq : l4s_queryErr c with
  | some e =>
    refine ⟨id, c.calls, { hasOutputs := c.hasOutputs, err := some e }, l4s_w1 c, l4s_fmap_id, .inl rfl, rfl,
      fun _ => rfl, ?_, ⟨fun _ => rfl, fun r h => by simp at h, fun r h => by simp at h⟩, rfl, ?_, rfl⟩
    · unfold l4s_m; rw [l4s_mid_of_err hq, l4s_midErr_iter hop, List.map_id]
    · rw [Iter.remaining_of_rows_none rfl]; trivial
  | none =>
    refine ⟨l4s_callMap c.fewCols, l4s_calls c, (iterOpen (c.script c.l4s_td) (l4s_w1 c)).1,
      (iterOpen (c.script c.l4s_td) (l4s_w1 c)).2, l4s_fmap_callMap _, ?_, ?_, ?_, ?_, iterOpen_WF _ _,
      iterOpen_started _ _, ?_, ?_⟩
    · rw [l4s_argsOf_callMap]
      cases c.fewCols
      · exact .inl rfl
      · exact .inr rfl
    · rw [l4s_argsOf_callMap]; simp; rfl
    · intro h; rw [h, l4s_callMap_false]
    · rw [l4s_m_iter hop hq, ← l4s_iterRun_eq]; rfl
    · rw [iterOpen_remaining]; split
      · exact l4s_Seq_fetch c
      · trivial
    · exact iterOpen_curId _ _

theorem l4s_obs_next_count {win : String} (hwin : isFinisher win = true) {c : Case} (hwf : CaseWF c)
    (hp : c.op ≠ "pair") {evsOp : List Ev} (hlog : (l4s_m c).2.log = (l4s_w1 c).log ++ evsOp) :
    ((predObsW win c (l4s_predictSingle c)).events.filter (· == "next")).length = evsOp.count .next := by
  rcases l4s_obs_shape hwin hwf hp hlog with ⟨_, _, hev, _⟩ | ⟨fev, hf, hev, _⟩
  · rw [hev]; exact Ev.count_render evsOp .next
  · rw [hev]; exact (Ev.count_render _ .next).trans (l4s_count_frame evsOp hf rfl (by decide))

theorem l4s_holdsC14_iter {win : String} (hwin : isFinisher win = true) {c : Case} (hwf : CaseWF c)
    (hop : c.op = "iter") : holdsC14 c (predObsW win c (l4s_predictSingle c)) = true := by
  obtain ⟨f, cs, it0, w0, S⟩ := l4s_iterStart hop
  have hret : (predObsW win c (l4s_predictSingle c)).returns =
      (runCalls cs c.cancelAt 0 it0 w0 (c.calls.map f)).2.2 := S.returns
  apply l4s_holdsC14_iter_of hop
  · rw [l4s_closeResults_eq, hret]; exact l4s_cr_agree S.fmap _ _ _ _ _ _
  · rw [hret]; exact l4s_nexts_sticky S.fmap _ _ _ _ _ _
  · rw [hret]; exact l4s_chk_runCalls c.badRow S.fmap _ _ _ _ _ S.wf S.numbered S.noCur
  · rw [hret]; exact l4s_ended_runCalls S.fmap _ _ _ _ _ _
  · cases hca : c.cancelAt with
    | some k => exact .inl rfl
    | none =>
      cases hfc : c.fewCols with
      | true => exact .inr (.inl rfl)
      | false =>
        right; right
        rw [hret, S.id_of_cols hfc, hca, List.map_id]
        exact l4s_live_runCalls c _ _ _ _ S.wf S.numbered
  · rw [hret]; exact l4s_head_ok S.fmap S.get S.getinvalid _ _ _ _ _ S.notStarted
  · intro k hk
    have hp : c.op ≠ "pair" := by rw [hop]; decide
    rcases l4s_m_fetchErr hop hk with ⟨evsOp, hlog, hn⟩ | h
    · exact .inl (by rw [l4s_obs_next_count hwin hwf hp hlog]; exact hn)
    · exact .inr (l4s_closeResults_all fun p hp' hc => by simpa using h p hp' hc)

theorem l4s_holdsC14_other {c : Case} (h1 : c.op ≠ "get") (h2 : c.op ≠ "getall") (h3 : c.op ≠ "iter") (o : Obs) :
    holdsC14 c o = true := by
  unfold holdsC14; simp [h1, h2, h3]

theorem l4s_holdsC14_single {win : String} (hwin : isFinisher win = true) {c : Case} (hwf : CaseWF c) :
    holdsC14 c (predObsW win c (l4s_predictSingle c)) = true := by
  by_cases h1 : c.op = "get"
  · exact l4s_holdsC14_get win h1
  · by_cases h2 : c.op = "getall"
    · exact l4s_holdsC14_getall win h2
    · by_cases h3 : c.op = "iter"
      · exact l4s_holdsC14_iter hwin hwf h3
      · exact l4s_holdsC14_other h1 h2 h3 _

theorem l4s_holdsC14_pair (win : String) {c : Case} (h : c.op = "pair") (p : Pred) :
    holdsC14 c (predObsW win c p) = true :=
  l4s_holdsC14_other (by rw [h]; decide) (by rw [h]; decide) (by rw [h]; decide) _

end Sqlair.Rt
