/-
  L4Sound, C20 and `diffs`.  An error nothing produces is not reported: the results of a case whose context is live are
  free of the context's error, and of ErrTXDone while the transaction is open (the provenance of errors is the runtime
  part's, SqlairProofs/Runtime/Provenance; here: the renderings, the script of a case, `runCalls` without
  cancellation).  A done context runs nothing and is reported; the driver sees the mark of the case's context.  Pair
  cases: the context marks of the driver calls, read back by `Obs.kindsWith`.  Last, `diffs` finds no disagreement
  between the model and the observation it predicts (it is here because the pair half needs `l4s_pair_kindsWith`).
-/
import SqlairProofs.L4Sound.Predicted
import SqlairProofs.Runtime.Provenance

namespace Sqlair.Rt

/-- what `holdsC20` (Spec/L4) forbids among the results of a live context: the rendering of `b` or of `wrapped b`, for
    `b` the context's error or ErrTXDone -/
def l4s_bad (b : Err) (r : String) : Prop := r = b.render ∨ r = (Err.wrapped b).render

theorem l4s_render_free {b : Err} (hb : b.l4s_sought) {e : Err} (h : e.l4s_free b) : ¬ l4s_bad b e.render := by
  rcases hb with rfl | rfl
  · rintro (h' | h')
    · exact h.1 (l4s_render_eq_ctx.1 h')
    · exact h.2 ((l4s_render_eq_wrapped fun _ => l4s_render_eq_ctx.1).1 h')
  · rintro (h' | h')
    · exact h.1 (l4s_render_eq_txDone.1 h')
    · exact h.2 ((l4s_render_eq_wrapped fun _ => l4s_render_eq_txDone.1).1 h')

theorem l4s_renderOpt_free {b : Err} (hb : b.l4s_sought) {o : Option Err} (h : l4s_OFree b o) :
    ¬ l4s_bad b (renderOpt o) := by
  cases o with
  | none => rcases hb with rfl | rfl <;> (rintro (h' | h') <;> revert h' <;> decide)
  | some e => exact l4s_render_free hb (h e rfl)

theorem l4s_bool_not_bad {b : Err} (hb : b.l4s_sought) (x : Bool) : ¬ l4s_bad b (toString x) := by
  rcases hb with rfl | rfl <;> cases x <;> (rintro (h' | h') <;> revert h' <;> decide)

theorem l4s_not_bad_of_head {b : Err} {s : String} {ch : Char} {rest : List Char}
    (hs : s.toList = ch :: rest) (h1 : b.l4s_initial ≠ ch) (h2 : 'w' ≠ ch) : ¬ l4s_bad b s := by
  rintro (h | h)
  · exact h1 (l4s_initial_of_eq hs h.symm)
  · exact h2 (l4s_initial_of_eq (e := .wrapped b) hs h.symm)

theorem l4s_renderGet_free {b : Err} (hb : b.l4s_sought) {g : GetOut} (h : ∀ e, g = .err e → e.l4s_free b) :
    ¬ l4s_bad b (renderGet g) := by
  have hr : b.l4s_initial ≠ 'r' := by rcases hb with rfl | rfl <;> decide
  have ho : b.l4s_initial ≠ 'o' := by rcases hb with rfl | rfl <;> decide
  cases g with
  | row id => rw [l4s_renderGet_row_eq]; exact l4s_not_bad_of_head (l4s_rowStr_toList id) hr (by decide)
  | err e => exact l4s_render_free hb (h e rfl)
  | outcome r =>
    cases r with
    | none => exact l4s_not_bad_of_head (s := "outcome:nil") (rest := "utcome:nil".toList) (by simp) ho (by decide)
    | some n => exact l4s_not_bad_of_head (l4s_outcomeStr_toList n) ho (by decide)

theorem l4s_callStep_free {b : Err} (hb : b.l4s_sought) (call : String) {it : Iter} (h : it.l4s_Free b) (w : World) :
    (callStep call it w).1.l4s_Free b ∧ ¬ l4s_bad b (callStep call it w).2.2 := by
  rcases l4s_callStep_cases l4s_fmap_id call it w with ⟨_, hs⟩ | ⟨_, hs⟩ | ⟨_, _, hs⟩ <;> rw [id] at hs <;> rw [hs]
  · exact ⟨l4s_Iter_next_free h w, l4s_bool_not_bad hb _⟩
  · exact ⟨(l4s_Iter_close_free h w).1, l4s_renderOpt_free hb (l4s_Iter_close_free h w).2⟩
  · exact ⟨h, l4s_renderGet_free hb (fun e he => l4s_Iter_get_free hb h _ he)⟩

theorem l4s_runCalls_free {b : Err} (hb : b.l4s_sought) (cs l : List String) (i : Nat) {it : Iter}
    (h : it.l4s_Free b) (w : World) :
    ∀ r ∈ (runCalls cs none i it w l).2.2, ¬ l4s_bad b r := by
  induction l generalizing i it w with
  | nil => intro r hr; cases hr
  | cons call rest ih =>
    intro r hr
    rw [runCalls_cons] at hr
    have hpc : preCancel none i it w = (it, w) := by simp [preCancel]
    rw [hpc] at hr
    obtain ⟨h1, h2⟩ := l4s_callStep_free hb call h w
    rcases List.mem_cons.1 hr with rfl | hr
    · exact h2
    · exact ih _ h1 _ r hr

theorem l4s_script_free {b : Err} (c : Case) (td : Bool)
    (h : (b = .ctx ∧ c.ctxDone = false) ∨ (b = .txDone ∧ (c.onTx && td) = false)) :
    (c.script td).l4s_Free b := by
  have hb : b.l4s_sought := h.imp And.left And.left
  refine ⟨?_, ?_, ?_⟩
  · intro e he
    rcases Script.openErr_cases he with ⟨rfl, h1, h2⟩ | ⟨rfl, h1⟩ | h1 | h1
    · rcases h with ⟨rfl, _⟩ | ⟨_, h⟩
      · exact ⟨by simp, by simp⟩
      · have h1' : c.onTx = true := h1
        have h2' : td = true := h2
        rw [h1', h2'] at h; simp at h
    · rcases h with ⟨_, h⟩ | ⟨rfl, _⟩
      · have h1' : c.ctxDone = true := h1
        rw [h1'] at h; cases h
      · exact ⟨by simp, by simp⟩
    · rw [l4s_script_prepareErr_eq h1]; exact l4s_free_inj hb 1
    · rw [l4s_script_runErr_eq h1]; exact l4s_free_inj hb 2
  · intro e he
    rcases l4s_script_closeErr c td with h | h <;> rw [h] at he <;> cases he
    exact l4s_free_inj hb 4
  · intro e he
    have hf : (c.script td).fetch = c.fetch := rfl
    rw [hf] at he
    rw [l4s_fetch_error_mem he]; exact l4s_free_inj hb 3

theorem l4s_m_returns_free {b : Err} (c : Case) (hcancel : c.cancelAt = none)
    (h : (b = .ctx ∧ c.ctxDone = false) ∨ (b = .txDone ∧ (c.onTx && c.l4s_td) = false ∧ l4s_queryErr c = none)) :
    ∀ r ∈ (l4s_m c).1.returns, ¬ l4s_bad b r := by
  have hb : b.l4s_sought := h.imp And.left And.left
  have hs : (c.script c.l4s_td).l4s_Free b := by
    apply l4s_script_free
    rcases h with h | ⟨h1, h2, _⟩
    · exact .inl h
    · exact .inr ⟨h1, h2⟩
  have one : ∀ o, l4s_OFree b o → ∀ r ∈ [renderOpt o], ¬ l4s_bad b r := fun o ho r hr => by
    rw [List.mem_singleton.1 hr]; exact l4s_renderOpt_free hb ho
  unfold l4s_m
  cases hq : l4s_queryErr c with
  | some e =>
    obtain rfl : e = .txDone := by
      rcases l4s_queryErr_cases c with h' | h' <;> rw [h'] at hq <;> cases hq; rfl
    obtain rfl : b = .ctx := by
      rcases h with ⟨h, _⟩ | ⟨_, _, h⟩
      · exact h
      · rw [h] at hq; cases hq
    have hf : l4s_OFree .ctx (some .txDone) := l4s_OFree_some ⟨by simp, by simp⟩
    rw [l4s_mid_of_err hq]
    by_cases hi : c.op = "iter"
    · rw [l4s_midErr_iter hi, hcancel]
      exact l4s_runCalls_free hb _ _ _ ⟨hf, by simp⟩ _
    · rw [l4s_midErr_other hi]
      exact one _ hf
  | none =>
    by_cases h1 : c.op = "run"
    · rw [l4s_mid_run hq h1]
      exact one _ (by rw [queryGet_result]; exact l4s_getSpec_free hb hs _)
    · by_cases h2 : c.op = "get"
      · rw [l4s_mid_get hq h2]
        exact one _ (by rw [queryGet_result]; exact l4s_getSpec_free hb hs _)
      · by_cases h3 : c.op = "getall"
        · rw [l4s_mid_getall hq h3]
          exact one _ (by rw [queryGetAllArgs_result]; exact l4s_getAllArgsSpec_free hb hs _ _)
        · rw [l4s_mid_iter hq h1 h2 h3]
          show ∀ r ∈ (l4s_iterRun c _ _).2.2, _
          unfold l4s_iterRun
          rw [hcancel]
          exact l4s_runCalls_free hb _ _ _ (l4s_iterOpen_free hs _) _

theorem l4s_queryErr_none_of {c : Case} (h : (c.onTx && c.txEnd == "before-query") = false) :
    l4s_queryErr c = none := by
  unfold l4s_queryErr; simp [h]

theorem l4s_ctxDone_openErr {c : Case} (h : c.ctxDone = true) (td : Bool) :
    (c.script td).openErr = some .ctx ∨ (c.script td).openErr = some .txDone := by
  rw [Script.openErr_of_ctxDone (s := c.script td) h]
  split <;> simp

/-- The third alternative: `Get` and `GetAll` check their arguments before they run the query (sqlair.go) and refuse them
    whatever the context. -/
theorem l4s_ctxDone_head {c : Case} (hd : c.ctxDone = true) (hq : l4s_queryErr c = none)
    (hop : c.op = "run" ∨ c.op = "get" ∨ c.op = "getall") :
    ((l4s_m c).1.returns.headD "" == "ctx" || (l4s_m c).1.returns.headD "" == "txDone" ||
      ((l4s_m c).1.returns.headD "").startsWith "sqlair:") = true := by
  have hoe := l4s_ctxDone_openErr hd c.l4s_td
  have key : ∀ o : Option Err, (o = some .ctx ∨ o = some .txDone ∨ ∃ x, o = some (.sqlair x)) →
      (renderOpt o == "ctx" || renderOpt o == "txDone" || (renderOpt o).startsWith "sqlair:") = true := by
    rintro o (rfl | rfl | ⟨x, rfl⟩)
    · rfl
    · rfl
    · exact Bool.or_eq_true_iff.2 (.inr (l4s_startsWith_append _ _))
  have hop' : (c.op = "get" ∨ c.op = "run") ∨ c.op = "getall" := hop.elim (.inl ∘ .inr) (.imp .inl id)
  rcases hop' with hop' | h
  · rcases l4s_m_getrun hop' with ⟨hq', _⟩ | ⟨_, call, hr, _⟩
    · rw [hq] at hq'; cases hq'
    · rw [hr]
      refine key _ ?_
      rcases hoe with hoe | hoe <;> rw [getSpec_of_openErr hoe] <;>
        cases (!(c.script c.l4s_td).hasOutputs && decide (call.dests > 0)) <;> simp
  · rcases l4s_m_getall h with ⟨hq', _⟩ | ⟨_, hr, _⟩
    · rw [hq] at hq'; cases hq'
    · rw [hr]
      refine key _ ?_
      rcases hoe with hoe | hoe <;>
        rcases getAllArgsSpec_of_openErr hoe (l4s_getAllArgs c) _ with h' | ⟨x, h'⟩ <;> rw [h'] <;> simp

theorem l4s_close_of_rows_none {f : String → String} (hf : l4s_fmap f) (ca : Option Nat) (cs l : List String)
    (i : Nat) {it : Iter} (w : World) (hr : it.rows = none) :
    ∀ p ∈ l.zip (runCalls cs ca i it w (l.map f)).2.2, p.1 = "close" → p.2 = renderOpt it.err := by
  intro p hp hc
  obtain ⟨e, he, hpe⟩ := l4s_close_mem hf ca cs l i it w hp hc
  obtain ⟨h1, h2, _⟩ := run_of_rows_none hr w (expandCalls ca i (l.map f))
  rw [hpe, run_closed_eq_final _ _ _ e he, Iter.close_of_rows_none h1, h2]

theorem l4s_closeResults_errIter {c : Case} {e : Err} {s : Script} (hoe : s.openErr = some e) (w1 : World) :
    ∀ p ∈ c.calls.zip (l4s_iterRun c s w1).2.2, p.1 = "close" → p.2 = e.render := by
  have := l4s_close_of_rows_none (l4s_fmap_callMap c.fewCols) c.cancelAt (l4s_calls c) c.calls 0
    (iterOpen s w1).2 (iterOpen_rows_none (Script.not_opensRows_of_openErr hoe) w1)
  rwa [iterOpen_err, hoe, ← l4s_iterRun_eq] at this

/-- the preliminary run (`PreCtx` of the harness) had a cancelled context, the operation has a live one: the
    preliminary run reports the context's error, no result of the operation does -/
def l4s_c20a (c : Case) (o : Obs) : Bool :=
  if c.preCtx == "cancelled" && !c.ctxDone && c.cancelAt.isNone then
    o.preReturn == "ctx" && o.returns.all (fun r => r != "ctx" && r != "wrapped(ctx)") &&
    (!(c.onTx && c.txEnd == "after") || o.returns.all (fun r => r != "txDone" && r != "wrapped(txDone)"))
  else true

/-- a done context: nothing is executed and the operation reports it -/
def l4s_c20b (c : Case) (o : Obs) : Bool :=
  if c.ctxDone && !(c.onTx && c.txEnd == "before-query") then
    execEvents o == 0 &&
    (if c.op == "iter" then (closeResults c o).all (fun r => r == "ctx" || r == "txDone")
     else (o.returns.headD "") == "ctx" || (o.returns.headD "") == "txDone" ||
          (o.returns.headD "").startsWith "sqlair:")
  else true

/-- the driver calls carry the context of the case -/
def l4s_c20c (c : Case) (o : Obs) : Bool :=
  if c.ctx == "nil" then o.eventCtx.all (· == "-")
  else if c.ctx == "marker" && c.cancelAt.isNone then o.eventCtx.all (· == "MARK")
  else o.eventCtx.all (fun x => x.startsWith "MARK")

theorem l4s_holdsC20_eq {c : Case} (h : c.op ≠ "pair") (o : Obs) :
    holdsC20 c o = (l4s_c20a c o && l4s_c20b c o && l4s_c20c c o) := by
  have : (c.op == "pair") = false := by simpa using h
  unfold holdsC20
  simp only [this, Bool.false_eq_true, if_false]
  rfl

theorem l4s_not_bad_ctx {r : String} (h : ¬ l4s_bad .ctx r) : (r != "ctx" && r != "wrapped(ctx)") = true := by
  simp only [Bool.and_eq_true, bne_iff_ne, ne_eq]
  exact ⟨fun h' => h (.inl h'), fun h' => h (.inr (by rw [l4s_wrapped_ctx_render]; exact h'))⟩

theorem l4s_not_bad_txDone {r : String} (h : ¬ l4s_bad .txDone r) :
    (r != "txDone" && r != "wrapped(txDone)") = true := by
  simp only [Bool.and_eq_true, bne_iff_ne, ne_eq]
  exact ⟨fun h' => h (.inl h'), fun h' => h (.inr (by rw [l4s_wrapped_txDone_render]; exact h'))⟩

theorem l4s_c20a_single (win : String) (c : Case) :
    l4s_c20a c (predObsW win c (l4s_predictSingle c)) = true := by
  unfold l4s_c20a
  refine ite_eq_right_iff.2 fun hcond => ?_
  · simp only [Bool.and_eq_true, beq_iff_eq, Bool.not_eq_true', Option.isNone_iff_eq_none] at hcond
    obtain ⟨⟨hpre, hctx⟩, hcan⟩ := hcond
    have h1 : (predObsW win c (l4s_predictSingle c)).preReturn = "ctx" := by
      show c.preReturn = "ctx"
      unfold Case.preReturn; simp [hpre]
    have h2 : (predObsW win c (l4s_predictSingle c)).returns.all (fun r => r != "ctx" && r != "wrapped(ctx)") = true := by
      rw [List.all_eq_true]
      intro r hr
      exact l4s_not_bad_ctx (l4s_m_returns_free c hcan (.inl ⟨rfl, hctx⟩) r hr)
    rw [h1, h2]
    simp only [beq_self_eq_true, Bool.and_self, Bool.true_and, Bool.or_eq_true, Bool.not_eq_true']
    cases hl : (c.onTx && c.txEnd == "after")
    · exact .inl rfl
    · right
      have hlate : c.l4s_isLate = true := hl
      have htd := l4s_td_of_not_early (l4s_late_not_early hlate)
      have hq : l4s_queryErr c = none := by
        apply l4s_queryErr_none_of
        simp only [Bool.and_eq_true, beq_iff_eq] at hl
        simp [hl.2]
      rw [List.all_eq_true]
      intro r hr
      exact l4s_not_bad_txDone (l4s_m_returns_free c hcan (.inr ⟨rfl, by simp [htd], hq⟩) r hr)

theorem l4s_c20c_single (win : String) {c : Case} (hp : c.op ≠ "pair") (p : Pred) :
    l4s_c20c c (predObsW win c p) = true := by
  have hev : (predObsW win c p).eventCtx = (p.log.filter ctxBearing).map fun _ => l4s_mark c := by
    have : (c.op == "pair") = false := by simpa using hp
    simp [predObsW, l4s_eventCtx, this]
  unfold l4s_c20c
  rw [hev]
  by_cases hnil : c.ctx = "nil"
  · simp only [hnil, beq_self_eq_true, if_true]
    exact l4s_all_map_const _ _ _ (by simp [l4s_mark, hnil])
  · have hn : (c.ctx == "nil") = false := by simpa using hnil
    have hm : l4s_mark c = "MARK" := by simp [l4s_mark, hn]
    simp only [hn, Bool.false_eq_true, if_false, hm]
    split
    · exact l4s_all_map_const _ _ _ (by decide)
    · exact l4s_all_map_const _ _ _ (by decide +kernel)

theorem l4s_c20b_single {win : String} (hwin : isFinisher win = true) {c : Case} (hwf : CaseWF c)
    (hp : c.op ≠ "pair") : l4s_c20b c (predObsW win c (l4s_predictSingle c)) = true := by
  unfold l4s_c20b
  refine ite_eq_right_iff.2 fun hcond => ?_
  · simp only [Bool.and_eq_true, Bool.not_eq_true'] at hcond
    obtain ⟨hd, hnq⟩ := hcond
    have hq := l4s_queryErr_none_of hnq
    have hexec : execEvents (predObsW win c (l4s_predictSingle c)) = 0 := by
      have hlog : (l4s_m c).2.log = (l4s_w1 c).log ++ [] := by
        rw [List.append_nil]
        exact (l4s_mid_not_run (Script.openErr_of_ctxDone (s := c.script c.l4s_td) hd)
          (Script.openEvents_of_ctxDone hd) (l4s_w1 c)).1
      have hshape := l4s_obs_shape hwin hwf hp hlog
      unfold execEvents
      rcases hshape with ⟨_, _, hev, _⟩ | ⟨fev, hf, hev, _⟩
      · rw [hev]; rfl
      · rw [hev, l4s_count_execq, l4s_count_frame [] hf rfl (by decide), l4s_count_frame [] hf rfl (by decide)]; rfl
    rw [hexec]
    simp only [beq_self_eq_true, Bool.true_and]
    by_cases hi : c.op = "iter"
    · simp only [hi, beq_self_eq_true, if_true]
      apply l4s_closeResults_all
      intro p hp' hc
      have hm : (predObsW win c (l4s_predictSingle c)).returns = (l4s_iterRun c (c.script c.l4s_td) (l4s_w1 c)).2.2 := by
        rw [l4s_obs_returns, l4s_single_returns, l4s_m_iter hi hq]; rfl
      rw [hm] at hp'
      rcases l4s_ctxDone_openErr hd c.l4s_td with hoe | hoe
      · rw [l4s_closeResults_errIter hoe _ p hp' hc]; rfl
      · rw [l4s_closeResults_errIter hoe _ p hp' hc]; rfl
    · have hi' : (c.op == "iter") = false := by simpa using hi
      simp only [hi', Bool.false_eq_true, if_false]
      rw [l4s_obs_returns, l4s_single_returns]
      exact l4s_ctxDone_head hd hq ((l4s_wf_single hwf hp).1.imp_right (.imp_right (·.resolve_right hi)))

theorem l4s_holdsC20_single {win : String} (hwin : isFinisher win = true) {c : Case} (hwf : CaseWF c)
    (hp : c.op ≠ "pair") : holdsC20 c (predObsW win c (l4s_predictSingle c)) = true := by
  rw [l4s_holdsC20_eq hp, l4s_c20a_single, l4s_c20b_single hwin hwf hp, l4s_c20c_single win hp]
  rfl

/-! ### pair cases -/

def l4s_kinds (ctxs : List String) (mark : String) : List String :=
  ctxs.filterMap fun x =>
    match x.splitOn "@" with
    | [k, m] => if m == mark || m.startsWith (mark ++ "+") then some k else none
    | _ => none

theorem l4s_kindsWith_eq (o : Obs) (mark : String) : o.kindsWith mark = l4s_kinds o.eventCtx mark := rfl

def l4s_isKind (k : String) : Prop := k = "prepare" ∨ k = "exec" ∨ k = "query"
/-- the marks the harness gives the two contexts of a pair case (`runL4Pair`); "-" is what the driver records for a
    context without mark (`ctxInfo` of fakedrv) -/
def l4s_isMark (m : String) : Prop := m = "MARK-A" ∨ m = "MARK-B" ∨ m = "-"

theorem l4s_splitOn_entry {k m : String} (hk : l4s_isKind k) (hm : l4s_isMark m) :
    (k ++ "@" ++ m).splitOn "@" = [k, m] := by
  rcases hk with rfl | rfl | rfl <;> rcases hm with rfl | rfl | rfl <;>
    -- the longest entry, "prepare@MARK-A", has 14 characters: any fuel above that will do
    exact l4s_splitOn_of_fuel 40 _ _ _ (by decide +kernel) (by decide +kernel)

theorem l4s_kinds_nil (mark : String) : l4s_kinds [] mark = [] := rfl

theorem l4s_kinds_cons {k m : String} (hk : l4s_isKind k) (hm : l4s_isMark m) (rest : List String) (mark : String) :
    l4s_kinds ((k ++ "@" ++ m) :: rest) mark =
      (if m == mark || m.startsWith (mark ++ "+") then [k] else []) ++ l4s_kinds rest mark := by
  unfold l4s_kinds
  rw [List.filterMap_cons, l4s_splitOn_entry hk hm]
  dsimp only
  cases (m == mark || m.startsWith (mark ++ "+")) <;> rfl

theorem l4s_kinds_append (l1 l2 : List String) (mark : String) :
    l4s_kinds (l1 ++ l2) mark = l4s_kinds l1 mark ++ l4s_kinds l2 mark := by
  unfold l4s_kinds; rw [List.filterMap_append]

theorem l4s_kinds_map {ks : List String} (hks : ∀ k ∈ ks, l4s_isKind k) {m : String} (hm : l4s_isMark m)
    (mark : String) :
    l4s_kinds (ks.map fun k => k ++ "@" ++ m) mark =
      if m == mark || m.startsWith (mark ++ "+") then ks else [] := by
  induction ks with
  | nil => simp [l4s_kinds_nil]
  | cons k rest ih =>
    rw [List.map_cons, l4s_kinds_cons (hks k (by simp)) hm, ih (fun k hk => hks k (by simp [hk]))]
    split <;> simp

theorem l4s_markB_cases (c : Case) : c.markB = "-" ∨ c.markB = "MARK-B" := by
  unfold Case.markB; split <;> simp

theorem l4s_isMark_markB (c : Case) : l4s_isMark c.markB := by
  rcases l4s_markB_cases c with h | h <;> rw [h]
  · exact .inr (.inr rfl)
  · exact .inr (.inl rfl)

theorem l4s_isKind_of_ctxBearing (l : List Ev) : ∀ k ∈ (l.filter ctxBearing).map Ev.render, l4s_isKind k := by
  intro k hk
  obtain ⟨e, he, rfl⟩ := List.mem_map.1 hk
  have := (List.mem_filter.1 he).2
  cases e <;> simp [ctxBearing] at this <;> simp [l4s_isKind, Ev.render]

/-- the comparisons `Obs.kindsWith` makes between A's mark and B's two possible marks, evaluated once for
    `l4s_kinds_pair` -/
theorem l4s_mark_table :
    ("MARK-A" == "MARK-A" || "MARK-A".startsWith ("MARK-A" ++ "+")) = true ∧
    ("-" == "MARK-A" || "-".startsWith ("MARK-A" ++ "+")) = false ∧
    ("MARK-B" == "MARK-A" || "MARK-B".startsWith ("MARK-A" ++ "+")) = false ∧
    ("MARK-A" == "-" || "MARK-A".startsWith ("-" ++ "+")) = false ∧
    ("-" == "-" || "-".startsWith ("-" ++ "+")) = true ∧
    ("MARK-A" == "MARK-B" || "MARK-A".startsWith ("MARK-B" ++ "+")) = false ∧
    ("MARK-B" == "MARK-B" || "MARK-B".startsWith ("MARK-B" ++ "+")) = true := by
  decide +kernel

theorem l4s_kinds_pair (c : Case) {evA evB : List String} (hA : ∀ k ∈ evA, l4s_isKind k)
    (hB : ∀ k ∈ evB, l4s_isKind k) :
    l4s_kinds (evA.map (fun k => k ++ "@" ++ "MARK-A") ++ evB.map (fun k => k ++ "@" ++ c.markB)) "MARK-A" = evA ∧
    l4s_kinds (evA.map (fun k => k ++ "@" ++ "MARK-A") ++ evB.map (fun k => k ++ "@" ++ c.markB)) c.markB = evB := by
  rw [l4s_kinds_append, l4s_kinds_append, l4s_kinds_map hA (.inl rfl), l4s_kinds_map hA (.inl rfl),
    l4s_kinds_map hB (l4s_isMark_markB c), l4s_kinds_map hB (l4s_isMark_markB c)]
  obtain ⟨t1, t2, t3, t4, t5, t6, t7⟩ := l4s_mark_table
  rcases l4s_markB_cases c with h | h <;> rw [h] <;>
    simp only [t1, t2, t3, t4, t5, t6, t7, if_true, Bool.false_eq_true, if_false, List.append_nil,
      List.nil_append, and_self]

theorem l4s_pair_eventCtx (win : String) {c : Case} (h : c.op = "pair") (p : Pred) :
    (predObsW win c p).eventCtx =
      p.evA.map (fun k => k ++ "@" ++ "MARK-A") ++ p.evB.map (fun k => k ++ "@" ++ c.markB) := by
  simp [predObsW, l4s_eventCtx, h]

theorem l4s_pair_kindsWith (win : String) {c : Case} (h : c.op = "pair") :
    (predObsW win c (predictPair c)).kindsWith "MARK-A" = (predictPair c).evA ∧
    (predObsW win c (predictPair c)).kindsWith c.markB = (predictPair c).evB := by
  rw [l4s_kindsWith_eq, l4s_kindsWith_eq, l4s_pair_eventCtx win h]
  apply l4s_kinds_pair
  · rw [l4s_predictPair_eq]; exact l4s_isKind_of_ctxBearing _
  · rw [l4s_predictPair_eq]; exact l4s_isKind_of_ctxBearing _

theorem l4s_pairBase_free (c : Case) : (l4s_pairBase c).l4s_Free .ctx := by
  refine ⟨?_, ?_, ?_⟩
  · have : (l4s_pairBase c).openErr = none := by simp [Script.openErr, l4s_pairBase]
    rw [this]; exact l4s_OFree_none _
  · exact l4s_OFree_none _
  · intro e he
    have hf : (l4s_pairBase c).fetch = c.fetch := rfl
    rw [hf] at he
    rw [l4s_fetch_error_mem he]; exact l4s_free_inj (.inl rfl) 3

theorem l4s_pairB_err_free (c : Case) : l4s_OFree .ctx (l4s_pairB c).1 := by
  unfold l4s_pairB
  split
  · show l4s_OFree .ctx (queryGetAllArgs _ _ _ _).1.err
    rw [queryGetAllArgs_result]; exact l4s_getAllArgsSpec_free (.inl rfl) (l4s_pairBase_free c) _ _
  all_goals
    show l4s_OFree .ctx (queryGet _ _ _).1.err
    rw [queryGet_result]; exact l4s_getSpec_free (.inl rfl) (l4s_pairBase_free c) _

theorem l4s_filter_ctxBearing_rows {evs : List Ev} (h : evs.all Ev.isRow = true) : evs.filter ctxBearing = [] := by
  rw [List.filter_eq_nil_iff]
  intro e he
  have := List.all_eq_true.1 h e he
  cases e <;> simp [Ev.isRow] at this <;> decide

theorem l4s_evs_of_ran (s : Script) (n : Nat) (op : Bool) :
    ((s.worldAt {} n op).log.filter ctxBearing).map Ev.render = (s.openEvents.filter ctxBearing).map Ev.render := by
  rw [Script.worldAt_log]
  simp [List.filter_append, l4s_filter_ctxBearing_rows (s.rowEvents_isRow n op)]

theorem l4s_pairBase_openEvents (c : Case) :
    ((l4s_pairBase c).openEvents.filter ctxBearing).map Ev.render =
      ["prepare", if c.hasOutputs then "query" else "exec"] := by
  cases h : c.hasOutputs <;> simp [Script.openEvents, l4s_pairBase, h, ctxBearing, Ev.render]

theorem l4s_pairB_evB {c : Case} (hwf : CaseWF c) (h : c.op = "pair") :
    (predictPair c).evB = ["prepare", if c.hasOutputs then "query" else "exec"] := by
  rw [l4s_predictPair_eq, ← l4s_pairBase_openEvents]
  have hw := (l4s_pair_notTx hwf h).2
  obtain ⟨n, hn⟩ : ∃ n, (l4s_pairB c).2.1 = (l4s_pairBase c).worldAt {} n false := by
    unfold l4s_pairB
    split
    · rename_i hga
      have ho : (l4s_pairBase c).hasOutputs = true := hw.resolve_right fun hn => hn.2 hga
      show ∃ n, (queryGetAllArgs _ _ _ _).2 = _
      rw [queryGetAllArgs_ok_arg ho]
      exact queryGetAll_ran _ _ _ _ (.inl ho)
    · rename_i hg
      exact queryGet_ran _ _ _ (.inl (hw.resolve_right fun hn => hn.1 hg))
    · exact queryGet_ran _ _ _ (.inr rfl)
  rw [hn]
  exact l4s_evs_of_ran _ n false

theorem l4s_holdsC20_pair (win : String) {c : Case} (hwf : CaseWF c) (h : c.op = "pair") :
    holdsC20 c (predObsW win c (predictPair c)) = true := by
  have hret : (predObsW win c (predictPair c)).returns.getD 1 "" = renderOpt (l4s_pairB c).1 := by
    show (predictPair c).returns.getD 1 "" = _
    rw [l4s_predictPair_eq]; rfl
  have hfree := l4s_not_bad_ctx (l4s_renderOpt_free (.inl rfl) (l4s_pairB_err_free c))
  simp only [Bool.and_eq_true] at hfree
  unfold holdsC20
  simp only [h, beq_self_eq_true, if_true, hret, hfree.1, hfree.2, (l4s_pair_kindsWith win h).2,
    l4s_pairB_evB hwf h, Bool.true_and]

theorem l4s_diffs_pair (win : String) {c : Case} (h : c.op = "pair") :
    diffs c (predictPair c) (predObsW win c (predictPair c)) = [] := by
  obtain ⟨hA, hB⟩ := l4s_pair_kindsWith win h
  have hlen : (predObsW win c (predictPair c)).eventCtx.length =
      (predictPair c).evA.length + (predictPair c).evB.length := by
    rw [l4s_pair_eventCtx win h]; simp
  have hiu := (l4s_obs_of_not_conc win (l4s_conc_pair h) (predictPair c)).2
  have hret : (predObsW win c (predictPair c)).returns = (predictPair c).returns := rfl
  have hst : (predObsW win c (predictPair c)).stored = (predictPair c).stored := rfl
  have hap : (predObsW win c (predictPair c)).appended = (predictPair c).appended := rfl
  unfold diffs
  simp only [h, beq_self_eq_true, if_true]
  unfold diffsPair
  simp only [hA, hB, hlen, hiu, hret, hst, hap, bne_self_eq_false, Bool.false_eq_true, if_false,
    Bool.and_false, List.append_nil]

/-- `predObsW` copies every field `diffs` compares from what `diffs` compares it with, but for two that differ with
    concurrent finishers: `inUse`, which `diffs` then does not compare, and the events, which differ by the winner's
    event, which `diffs` strips (`l4s_events_filter`). -/
theorem l4s_diffs_single {win : String} (hwin : isFinisher win = true) {c : Case} (h : c.op ≠ "pair") (p : Pred) :
    diffs c p (predObsW win c p) = [] := by
  have hp : (c.op == "pair") = false := by simpa using h
  have hconc := l4s_conc_of_ne_pair h
  unfold diffs
  cases hcc : (c.onTx && decide (c.concurrent > 0)) <;> rw [hcc] at hconc
  · simp [hp, predObsW, l4s_events, hconc]
  · simp [hp, predObsW, l4s_events_filter (win := win) (q := fun e => !isFinisher e) (by simp [hwin])]

end Sqlair.Rt
