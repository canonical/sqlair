import SqlairModel
import SqlairProofs.Parser.Defs
import SqlairProofs.Utf8
import SqlairProofs.Basics
import SqlairProofs.Parser.Lines
import SqlairProofs.Parser.Scan
import SqlairProofs.Parser.Items
import SqlairProofs.Parser.Exprs
import SqlairProofs.Parser.Main
import SqlairProofs.Props.Fixtures.Parser
import SqlairProofs.Props.Parser
import SqlairProofs.Sim.Defs
import SqlairProofs.Sim.Scan
import SqlairProofs.Sim.Items
import SqlairProofs.Sim.Exprs
import SqlairProofs.Parser.ShiftDefs
import SqlairProofs.Parser.ShiftScan
import SqlairProofs.Parser.ShiftMain
import SqlairProofs.Props.C19Shift
import SqlairProofs.Parser.LexDefs
import SqlairProofs.Parser.LexScan
import SqlairProofs.Parser.LexMain
import SqlairProofs.Props.C02
import SqlairProofs.Runtime.Basic
import SqlairProofs.Runtime.Open
import SqlairProofs.Runtime.Protocol
import SqlairProofs.Runtime.GetAll
import SqlairProofs.Runtime.Reach
import SqlairProofs.Runtime.Release
import SqlairProofs.Runtime.Get
import SqlairProofs.Runtime.GetAllArgs
import SqlairProofs.Runtime.Provenance
import SqlairProofs.Runtime.Order
import SqlairProofs.Runtime.Tx
import SqlairProofs.Runtime.L4Link
import SqlairProofs.Props.Runtime
import SqlairProofs.Props.Store
import SqlairProofs.Cache.Hit
import SqlairProofs.Cache.AList
import SqlairProofs.Cache.Inv
import SqlairProofs.Cache.Steps
import SqlairProofs.Cache.Simple
import SqlairProofs.Cache.Insert
import SqlairProofs.Cache.Close
import SqlairProofs.Cache.Evict
import SqlairProofs.Cache.Fin
import SqlairProofs.Cache.Reach
import SqlairProofs.Cache.Seq
import SqlairProofs.Cache.Gc
import SqlairProofs.Cache.Count
import SqlairProofs.Props.Cache
import SqlairProofs.Scan.Dest
import SqlairProofs.Scan.Args
import SqlairProofs.Scan.Row
import SqlairProofs.Scan.Main
import SqlairProofs.Scan.Errors
import SqlairProofs.Scan.Perm
import SqlairProofs.Scan.Marker
import SqlairProofs.Props.Scan
import SqlairProofs.Bind.Defs
import SqlairProofs.Bind.Resolve
import SqlairProofs.Bind.Insert
import SqlairProofs.Bind.Rows
import SqlairProofs.Bind.Step
import SqlairProofs.Bind.Fold
import SqlairProofs.Bind.Errors
import SqlairProofs.Bind.ParseTag
import SqlairProofs.Bind.Tag
import SqlairProofs.Bind.Reject
import SqlairProofs.Bind.LocDefs
import SqlairProofs.Bind.Accept
import SqlairProofs.Bind.Perm
import SqlairProofs.Bind.LocKinds
import SqlairProofs.Bind.PermPrepared
import SqlairProofs.Bind.ParserNodes
import SqlairProofs.Props.Fixtures.Bind
import SqlairProofs.Props.Bind
import SqlairProofs.E2E.Render
import SqlairProofs.E2E.Nodes
import SqlairProofs.E2E.C01
import SqlairProofs.E2E.InsertStore
import SqlairProofs.E2E.RoundTrip
import SqlairProofs.E2E.Shapes
import SqlairProofs.E2E.Samples
import SqlairProofs.E2E.Prepared
import SqlairProofs.E2E.Uses
import SqlairProofs.E2E.NodeShape
import SqlairProofs.Props.E2E
import SqlairProofs.NoPanic.Defs
import SqlairProofs.NoPanic.ValWF
import SqlairProofs.NoPanic.Fuel
import SqlairProofs.NoPanic.Path
import SqlairProofs.NoPanic.Locs
import SqlairProofs.NoPanic.Locate
import SqlairProofs.NoPanic.FieldType
import SqlairProofs.NoPanic.Prepare
import SqlairProofs.Props.NoPanic
import SqlairProofs.Typed.Samples
import SqlairProofs.Typed.Struct
import SqlairProofs.Typed.Fields
import SqlairProofs.Typed.NodeDefs
import SqlairProofs.Typed.Ops
import SqlairProofs.Typed.Loops
import SqlairProofs.Typed.ColInsert
import SqlairProofs.Typed.Node
import SqlairProofs.Typed.WellTyped
import SqlairProofs.Typed.Reading
import SqlairProofs.Typed.Locate
import SqlairProofs.Typed.Args
import SqlairProofs.Props.Typed
import SqlairProofs.Opaque.Defs
import SqlairProofs.Opaque.Scan
import SqlairProofs.Opaque.Main
import SqlairProofs.Opaque.Lex
import SqlairProofs.Opaque.Regions
import SqlairProofs.Opaque.Blank
import SqlairProofs.Props.Opaque
import SqlairProofs.Exact.Defs
import SqlairProofs.Exact.Single
import SqlairProofs.Exact.Scan
import SqlairProofs.Exact.Items
import SqlairProofs.Exact.Exprs
import SqlairProofs.Exact.Main
import SqlairProofs.Props.Exact
import SqlairProofs.L2Sound.EvalAttr
import SqlairProofs.L2Sound.Defs
import SqlairProofs.L2Sound.Present
import SqlairProofs.L2Sound.Bytes
import SqlairProofs.L2Sound.Literals
import SqlairProofs.L2Sound.Exact
import SqlairProofs.L2Sound.Agree
import SqlairProofs.L2Sound.Chunks
import SqlairProofs.Props.Fixtures.L2
import SqlairProofs.Props.L2Sound
import SqlairProofs.L4Sound.Defs
import SqlairProofs.L4Sound.Strings
import SqlairProofs.L4Sound.World
import SqlairProofs.L4Sound.Predicted
import SqlairProofs.L4Sound.C13
import SqlairProofs.L4Sound.C15
import SqlairProofs.L4Sound.C20
import SqlairProofs.L4Sound.C14
import SqlairProofs.Props.L4Sound
import SqlairProofs.L5Sound.Defs
import SqlairProofs.L5Sound.Hist
import SqlairProofs.L5Sound.Execs
import SqlairProofs.L5Sound.CloseOut
import SqlairProofs.L5Sound.Reuse
import SqlairProofs.L5Sound.Counter
import SqlairProofs.L5Sound.General
import SqlairProofs.Props.L5Sound
import SqlairProofs.L2Rows.ByTag
import SqlairProofs.L2Rows.Grid
import SqlairProofs.L2Rows.Rows
import SqlairProofs.Props.L2Rows
import SqlairProofs.L2Rows.Assemble
import SqlairProofs.L2Rows.MapRows
import SqlairProofs.L2Sound.MemberInputs
import SqlairProofs.Props.L2RowsModel
import SqlairProofs.Props.DriverClauses
import SqlairProofs.Props.L4Clauses
import SqlairProofs.Props.L3Sound
import SqlairProofs.L5Sound.InterleaveDefs
import SqlairProofs.L5Sound.Interleave
import SqlairProofs.Props.L5Interleave
import SqlairProofs.Props.L5Quiescent
import SqlairProofs.L2Sound.C03ValsGuard
import SqlairProofs.L2Sound.C03Vals
import SqlairProofs.Props.L2C03Vals
import SqlairProofs.L2Sound.Tokens
import SqlairProofs.Props.L2Tokens
