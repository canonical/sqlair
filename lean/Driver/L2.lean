/-
  Driver/L2: JSON glue for the bind layer.
-/
import Lean.Data.Json
import SqlairModel.Spec.L2
import SqlairModel.Spec.L2Tokens
import SqlairProofs.NoPanic.Defs
import SqlairProofs.L2Sound.C03ValsGuard
import Driver.Json
import Driver.L2Rows
import SqlairModel.Spec.DriverClauses

open Lean Sqlair

namespace Driver

def kindOf : String → Kind
  | "struct" => .struct | "map" => .map | "slice" => .slice | "ptr" => .ptr
  | "string" => .string | "interface" => .iface | _ => .other

def parseField (j : Json) : Except String FieldDesc := do
  pure { name := ← optHex j "name", tag := ← optHex j "tag", exported := (getBool j "exp").toOption.getD false,
         anon := (getBool j "anon").toOption.getD false, ty := ← getNat j "t" }

def parseTypeDesc (j : Json) : Except String TypeDesc := do
  let ks ← getStr j "kind"
  let fields ← (optList j "fields").toList.mapM parseField
  pure { kind := kindOf ks, kindStr := ks, name := ← optHex j "name",
         elem := (optNat j "elem").getD 0, key := (optNat j "key").getD 0, fields := fields,
         ptrScanner := (getBool j "pscan").toOption.getD false }

def parseVH (j : Json) : VH :=
  { t := (optNat j "t").getD 0, zero := (getBool j "z").toOption.getD false,
    r := (getStr j "r").toOption.getD "" }

partial def parseGoVal (j : Json) : Except String GoVal := do
  match j with
  | .null => pure .invalid
  | _ =>
    let h := parseVH j
    match (getStr j "k").toOption.getD "leaf" with
    | "invalid" => pure .invalid
    | "struct" =>
      let fs ← (optList j "f").toList.mapM parseGoVal
      pure (.struct h fs)
    | "ptr" =>
      match j.getObjVal? "p" with
      | .ok pj => pure (.ptr h (some (← parseGoVal pj)))
      | .error _ => pure (.ptr h none)
    | "iface" =>
      match j.getObjVal? "p" with
      | .ok pj => pure (.iface h (some (← parseGoVal pj)))
      | .error _ => pure (.iface h none)
    | "map" =>
      if (getBool j "nil").toOption.getD false then pure (.map h none) else
      let kv ← (optList j "kv").toList.mapM fun e => do
        match e with
        | .arr #[k, v] =>
          let ks ← k.getStr?
          match Bytes.ofHex ks with
          | some kb => pure (kb, ← parseGoVal v)
          | none => throw "bad map key hex"
        | _ => throw "bad kv"
      pure (.map h (some kv))
    | "slice" =>
      let els ← (optList j "el").toList.mapM parseGoVal
      pure (.slice h els)
    | _ => pure (.leaf h)

def mkCls (cls : Array (Nat × Nat)) : Cls :=
  { letter := fun c => if c < 128 then asciiLetter c else cls.any (fun (r, k) => r == c && k == 1)
    digit := fun c => if c < 128 then asciiDigit c else cls.any (fun (r, k) => r == c && k == 2) }

def parseBindObs (j : Json) : Except String BindObs := do
  let params ← (optList j "params").toList.mapM fun e => do
    match e with
    | .arr #[n, v] => pure ((← n.getStr?), (← v.getStr?))
    | _ => throw "bad param"
  pure { prepOk := ← getBool j "prepOk", prepErr := ← optHex j "prepErr",
         bindOk := (getBool j "bindOk").toOption.getD false, bindErr := ← optHex j "bindErr",
         sql := ← optHex j "sql", params := params,
         mode := (getStr j "mode").toOption.getD "none", events := (optNat j "events").getD 0 }

def exceptStr {α} : Except String α → String
  | .ok _ => "ok"
  | .error e => "err:" ++ e

def handleL2 (j : Json) : Except String Json := do
  let q ← optHex j "q"
  let segs ← (← getArr j "segs").toList.mapM parseOSeg
  let tt ← (← getArr j "tt").mapM parseTypeDesc
  let samples := (optList j "samples").toList.map fun s => s.getNat?.toOption
  let args ← (optList j "args").toList.mapM parseGoVal
  let C := mkCls (← parseCls j)
  let m := runModel C tt segs samples args
  let modelJson : List (String × Json) :=
    [("prep", Json.str (exceptStr m.prep)), ("bind", Json.str (exceptStr m.bind))] ++
    (match m.bind with
     | .ok pq => [("sql", Json.str (renderSQL pq.pieces).toHex),
                  ("params", Json.arr (pq.params.map fun (p : Nat × String) => Json.arr #[Json.str s!"sqlair_{p.1}", Json.str p.2]).toArray),
                  ("nouts", Json.num pq.outputs.length)]
     | .error _ => [])
  match j.getObjVal? "obs" with
  | .error _ => pure (Json.mkObj [("model", Json.mkObj modelJson)])
  | .ok oj =>
    let o ← parseBindObs oj
    -- C07, second sentence: arguments the model binds (one usable argument per input type)
    -- must not be rejected by a statement Prepare accepted
    let wrongReject : Bool := (match m.bind with | .ok _ => true | .error _ => false) && o.prepOk && !o.bindOk
    -- the layer is fed the implementation's parsed nodes; the parser model is asked as well:
    -- if the nodes differ, what is bound below is not what the query text names, and the
    -- expansions of the kinds concerned are touched (C03 inputs, C04 inserts, C05 outputs)
    let qcls := (optList j "qcls").toList.filterMap fun e =>
      match e with
      | .arr #[r, k] => match r.getNat?, k.getNat? with
        | .ok r, .ok k => some (r, k)
        | _, _ => none
      | _ => none
    let parserAff : List String :=
      if (getBool j "noParserCheck").toOption.getD false then [] else
      match parse (mkEnv q qcls.toArray) with
      | .ok msegs =>
        let ms := msegs.map (Seg.toOSeg q)
        if ms == segs then [] else (kindProps ms ++ kindProps segs).eraseDups
      | .error _ => kindProps segs
    -- a Prepare that rejects what the model accepts (or the reverse) touches the expansions
    -- of the statement besides C07
    let prepDiffers : Bool := (match m.prep with | .ok _ => true | .error _ => false) != o.prepOk
    -- a statement the model prepares (the iff-theorems of `Typed`: it is well typed) that
    -- Prepare rejects: the expansions the properties promise for its expressions are not
    -- produced at all; this input fails the properties of the kinds of expression it holds
    -- a statement the model prepares (the iff-theorems of `Typed`: it is well typed) that
    -- Prepare rejects: the expansions the properties promise for its expressions are not
    -- produced at all; this input fails the properties of the kinds of expression it holds
    -- (`lostProps`, `inputsCounted`: Spec/DriverClauses.lean, sound by `lostProps_model`,
    -- `inputsCounted_model`)
    let lost : List String := lostProps m o segs
    -- every input expression the reference parser reads in the text got its argument
    -- (statements whose expressions are member inputs only)
    let inputsCounted : Bool :=
      if (getBool j "noParserCheck").toOption.getD false then true else
      match parse (mkEnv q qcls.toArray) with
      | .ok msegs => Sqlair.inputsCounted ((msegs.map (Seg.toOSeg q)).filter (·.kind != .bypass)) o
      | .error _ => true
    -- two values of one type were supplied (the model refuses: "provided more than once")
    -- and the statement ran all the same: whichever value won, the other one is not what
    -- its expression was bound to
    let dupLost : Bool := (match m.bind with | .error "type-provided-twice" => true | _ => false) &&
      o.prepOk && o.bindOk && o.mode != "none"
    -- C02 inside expressions: a function call written as an output column is kept verbatim,
    -- string literals and comments in its arguments included (whatever they contain)
    let callsVerbatim : Bool :=
      if !(o.prepOk && o.bindOk) || o.mode == "none" then true else
      segs.all fun sg => sg.kind != .output || sg.cols.all fun c =>
        !c.func || !(c.column.any fun b => b == 39 || b == 34 || b == 45 || b == 47) || (o.sql.findFrom c.column 0).isSome
    let aff := (affected m o ++ (if wrongReject then ["C07"] else []) ++ parserAff ++
      (if prepDiffers then kindProps segs else [])).eraseDups
    -- hypothesis of the no-panic theorems (C18): every argument tree has the shape its type
    -- descriptors promise (`ArgWF`: an untyped nil, or `ValWF`, decided by `valWF`)
    let argsWF := args.all fun a => (match a with | .invalid => true | _ => false) || valWF tt 64 a
    pure (Json.mkObj
      [("model", Json.mkObj modelJson),
       ("argsWF", Json.bool argsWF),
       ("agree", Json.bool aff.isEmpty),
       ("affects", Json.arr (aff.map Json.str).toArray),
       ("c01", Json.bool (holdsC01e2e q segs o && holdsC01exact segs o)),
       ("c03", Json.bool ((!tokensGuards tt segs || holdsC03 segs o) && (!c03valsGuards C tt segs args || holdsC03vals C tt segs args o) && holdsC03present args o && inputsCounted && !lost.contains "C03" && !dupLost)),
       ("c02", Json.bool (literalsVerbatim segs o && callsVerbatim)),
       -- (an insert accepted although a member of one of its rows cannot be read - it lies behind
       -- a nil embedded pointer - cannot be row-faithful: the rejection is C08's, the rows C04's)
       -- (`nilEmbAccepted`: `Spec/DriverClauses.lean`; `nilEmbAccepted_model`, `Props/DriverClauses.lean`)
       ("c04", Json.bool (!nilEmbAccepted m o segs &&
          holdsC04rej m o && literalsVerbatim segs o && (!c04rowsGuards tt segs || holdsC04rows C tt segs args o) && !lost.contains "C04")),
       -- (token predicates under `tokensGuards`: the witnesses of `Props/L2Tokens.lean` show they are
       -- false of the model without it; the mode half needs typed output nodes only)
       ("c05", Json.bool ((!tokensGuards tt segs || holdsC05 segs o) &&
          (!(o.prepOk && o.bindOk) || o.mode == "none" || !outputsTyped segs || holdsC05mode segs o) && !lost.contains "C05")),
       ("c07", Json.bool (holdsC07 m o && !wrongReject)),
       ("c08", Json.bool (holdsC08 m o))])

end Driver
